/-
  C02 — AVX2 lane kernels equal the scalar field op in every lane, every input.

  Statements are about `Gen.Avx2.*`, regenerated on every run from the intrinsics code of
  `/repo/src/goldilocks_base_field_avx.hpp` (tools/tr_cxx.py), over the intrinsic semantics of `Isa/Avx2.lean`.
  `a.get i` is lane i of a 256-bit register; `unsh n = (n + 2^63) mod 2^64` is the value a "shifted"
  representation stands for.
-/
import GoldilocksVerif.Lemmas.Avx2Nat
import GoldilocksVerif.Props.C01

namespace GoldilocksVerif.C02
open Gen.Avx2 GoldilocksVerif

/-- shift_avx adds 2^63 (mod 2^64) in every lane -/
theorem C02_shift_avx (a : V4) (i : Fin 4) : ((shift_avx a).get i).toNat = unsh (a.get i).toNat :=
  shift_spec a i

/-- toCanonical_avx: canonical representative in every lane, for all inputs -/
theorem C02_toCanonical_avx (a : V4) (i : Fin 4) :
    ((toCanonical_avx a).get i).toNat = (a.get i).toNat % P :=
  canon_spec a i

/-- toCanonical_avx_s on shifted representations -/
theorem C02_toCanonical_avx_s (a_s : V4) (i : Fin 4) :
    unsh ((toCanonical_avx_s a_s).get i).toNat = unsh (a_s.get i).toNat % P :=
  (canon_s_spec a_s i).1

/-- add_avx: general-purpose, all 2^64 x 2^64 values per lane -/
theorem C02_add_avx (a b : V4) (i : Fin 4) :
    ((add_avx__vVV a b).get i).toNat % P = ((a.get i).toNat + (b.get i).toNat) % P :=
  add_spec a b i

/-- add_avx_a_sc: first operand documented as shifted canonical -/
theorem C02_add_avx_a_sc (a_sc b : V4) (i : Fin 4) (h : unsh (a_sc.get i).toNat < P) :
    ((add_avx_a_sc a_sc b).get i).toNat % P = (unsh (a_sc.get i).toNat + (b.get i).toNat) % P :=
  add_a_sc_spec a_sc b i h

/-- add_avx_s_b_small: shifted first operand, second operand ≤ 0xFFFFFFFF00000000, shifted result
    (overflow detected with a 32-bit compare of the high halves) -/
theorem C02_add_avx_s_b_small (a_s b : V4) (i : Fin 4) (h : (b.get i).toNat ≤ 0xFFFFFFFF00000000) :
    unsh ((add_avx_s_b_small a_s b).get i).toNat % P = (unsh (a_s.get i).toNat + (b.get i).toNat) % P :=
  add_s_b_small_spec a_s b i h

/-- add_avx_b_small: second operand ≤ 0xFFFFFFFF00000000 -/
theorem C02_add_avx_b_small (a b : V4) (i : Fin 4) (h : (b.get i).toNat ≤ 0xFFFFFFFF00000000) :
    ((add_avx_b_small a b).get i).toNat % P = ((a.get i).toNat + (b.get i).toNat) % P :=
  add_b_small_spec a b i h

/-- sub_avx: general-purpose -/
theorem C02_sub_avx (a b : V4) (i : Fin 4) :
    (((sub_avx__vVV a b).get i).toNat + (b.get i).toNat) % P = (a.get i).toNat % P :=
  sub_spec a b i

/-- sub_avx_s_b_small: shifted minuend, subtrahend ≤ 0xFFFFFFFF00000000, shifted result -/
theorem C02_sub_avx_s_b_small (a_s b : V4) (i : Fin 4) (h : (b.get i).toNat ≤ 0xFFFFFFFF00000000) :
    (unsh ((sub_avx_s_b_small a_s b).get i).toNat + (b.get i).toNat) % P = unsh (a_s.get i).toNat % P :=
  sub_s_b_small_spec a_s b i h

/-- mult_avx_128: the exact 128-bit product in (c_h, c_l) -/
theorem C02_mult_avx_128 (a b : V4) (i : Fin 4) :
    ((mult_avx_128 a b).1.get i).toNat * 2^64 + ((mult_avx_128 a b).2.get i).toNat =
      (a.get i).toNat * (b.get i).toNat := mult128_spec a b i

/-- reduce_avx_128_64: any 128-bit value (c_h, c_l) reduced mod p -/
theorem C02_reduce_avx_128_64 (c_h c_l : V4) (i : Fin 4) :
    ((reduce_avx_128_64 c_h c_l).get i).toNat % P = ((c_h.get i).toNat * 2^64 + (c_l.get i).toNat) % P :=
  reduce128_spec c_h c_l i

/-- mult_avx: general-purpose product -/
theorem C02_mult_avx (a b : V4) (i : Fin 4) :
    ((mult_avx a b).get i).toNat % P = ((a.get i).toNat * (b.get i).toNat) % P := mult_spec a b i

/-- mult_avx_72: exact product with a multiplier below 2^32 (c_h below 2^32) -/
theorem C02_mult_avx_72 (a b : V4) (i : Fin 4) (h : (b.get i).toNat < 2^32) :
    ((mult_avx_72 a b).1.get i).toNat * 2^64 + ((mult_avx_72 a b).2.get i).toNat =
      (a.get i).toNat * (b.get i).toNat ∧ ((mult_avx_72 a b).1.get i).toNat < 2^32 := by
  have := mult72_spec a b i
  have e : (b.get i).toNat % 4294967296 = (b.get i).toNat := Nat.mod_eq_of_lt h
  rw [e] at this
  exact this

/-- reduce_avx_96_64: a 96-bit value (c_h below 2^32) reduced mod p -/
theorem C02_reduce_avx_96_64 (c_h c_l : V4) (i : Fin 4) (h : (c_h.get i).toNat < 2^32) :
    ((reduce_avx_96_64 c_h c_l).get i).toNat % P = ((c_h.get i).toNat * 2^64 + (c_l.get i).toNat) % P := by
  have := reduce96_spec c_h c_l i
  have e : (c_h.get i).toNat % 4294967296 = (c_h.get i).toNat := Nat.mod_eq_of_lt h
  rw [e] at this
  exact this

/-- mult_avx_8: documented for multipliers below 2^8; proved for every multiplier below 2^32 -/
theorem C02_mult_avx_8 (a b : V4) (i : Fin 4) (h : (b.get i).toNat < 2^8) :
    ((mult_avx_8 a b).get i).toNat % P = ((a.get i).toNat * (b.get i).toNat) % P :=
  mult8_spec a b i (by have : (2:Nat)^8 < 4294967296 := by decide
                       omega)

/-- square_avx_128: exact 128-bit square -/
theorem C02_square_avx_128 (a : V4) (i : Fin 4) :
    ((square_avx_128 a).1.get i).toNat * 2^64 + ((square_avx_128 a).2.get i).toNat =
      (a.get i).toNat * (a.get i).toNat := square128_spec a i

theorem C02_square_avx (a : V4) (i : Fin 4) :
    ((square_avx a).get i).toNat % P = ((a.get i).toNat * (a.get i).toNat) % P := square_spec a i

/-- every general-purpose lane kernel yields the field element the scalar operation yields on that lane -/
theorem C02_agrees_with_scalar (a b : V4) (i : Fin 4) :
    ((add_avx__vVV a b).get i).toNat % P = C01.rd (Gen.Scalar.add__eEE (a.get i) (b.get i)) ∧
    ((sub_avx__vVV a b).get i).toNat % P = C01.rd (Gen.Scalar.sub__eEE (a.get i) (b.get i)) ∧
    ((mult_avx a b).get i).toNat % P = C01.rd (Gen.Scalar.mul__eEE (a.get i) (b.get i)) ∧
    ((square_avx a).get i).toNat % P = C01.rd (Gen.Scalar.square__rE (a.get i)) ∧
    ((toCanonical_avx a).get i) = Gen.Scalar.toU64__rE (a.get i) := by
  refine ⟨?_, ?_, ?_, ?_, ?_⟩
  · rw [C02_add_avx, (C01.C01_add _ _).1]
  · rw [C01.rd_eq]
    have h2 := (C01.C01_sub (a.get i) (b.get i)).1
    rw [C01.rd_eq, Nat.mod_add_mod] at h2
    exact sub_unique (C02_sub_avx a b i) h2
  · rw [C02_mult_avx, (C01.C01_mul _ _).1]
  · rw [C02_square_avx, (C01.C01_square _).1]
  · apply BitVec.eq_of_toNat_eq
    rw [C02_toCanonical_avx]
    exact (C01.rd_eq _).symm

/-- non-vacuity of the operand assumptions -/
example : ∃ b : V4, ∀ i, (b.get i).toNat ≤ 0xFFFFFFFF00000000 ∧ 0 < (b.get i).toNat :=
  ⟨V4.splat 0xFFFFFFFF00000000#64, fun i => by simp⟩
example : ∃ a : V4, ∀ i, unsh (a.get i).toNat < P ∧ (a.get i) ≠ 0 :=
  ⟨V4.splat 0x8000000000000005#64, fun i => by simp [unsh, P]⟩

end GoldilocksVerif.C02
