/-
  C14 — AVX512 dot / sparse / dense matrix kernels equal the product mod p, for both interleaved states.

  About `Gen.Avx512Mat.*` (regenerated from goldilocks_base_field_avx512.hpp, -D__AVX512__).
  `a.lo`, `a.hi` are the two 4-lane halves (= the two interleaved states) of an 8-lane register;
  `dot12` is the 12-term inner product of C13.

  Defect D4: on the pinned tree of the library spmv_avx512_4x12 and mmult_avx512_4x12(_8) chained possibly
  non-canonical sums through add_avx512_b_c and these theorems did NOT hold (repaired by /repo commit "fix: AVX512
  spmv/mmult chained non-canonical sums through add_avx512_b_c").  `C14_b_c_chain_is_wrong` keeps the witness: it is
  a theorem about the lane kernel itself and explains why the general adder is required at those call sites.
-/
import GoldilocksVerif.Lemmas.Avx512MatF

namespace GoldilocksVerif.C14
open Gen.Avx512Mat GoldilocksVerif

/-- spmv_avx512_4x12, per interleaved state -/
theorem C14_spmv_avx512_4x12 (a0 a1 a2 : V8) (b : Region) (i : Fin 4) :
    den ((spmv_avx512_4x12 a0 a1 a2 b).lo.get i) =
      den (a0.lo.get i) * den (b i.val) + den (a1.lo.get i) * den (b (4 + i.val)) + den (a2.lo.get i) * den (b (8 + i.val)) ∧
    den ((spmv_avx512_4x12 a0 a1 a2 b).hi.get i) =
      den (a0.hi.get i) * den (b i.val) + den (a1.hi.get i) * den (b (4 + i.val)) + den (a2.hi.get i) * den (b (8 + i.val)) :=
  ⟨spmv512_den a0 a1 a2 b false i, spmv512_den a0 a1 a2 b true i⟩

/-- dot_avx512: c[0], c[1] are the inner products of the two states with b[0..12); nothing else of c is written -/
theorem C14_dot_avx512 (c : Region) (a0 a1 a2 : V8) (b : Region) :
    den ((dot_avx512 c a0 a1 a2 b) 0) = dot12 a0.lo a1.lo a2.lo b 0 ∧
    den ((dot_avx512 c a0 a1 a2 b) 1) = dot12 a0.hi a1.hi a2.hi b 0 ∧
    ∀ k, 2 ≤ k → (dot_avx512 c a0 a1 a2 b) k = c k :=
  dot512_den c a0 a1 a2 b

theorem C14_mmult_avx512_4x12 (a0 a1 a2 : V8) (M : Region) (i : Fin 4) :
    den ((mmult_avx512_4x12 a0 a1 a2 M).lo.get i) = dot12 a0.lo a1.lo a2.lo M (12 * i.val) ∧
    den ((mmult_avx512_4x12 a0 a1 a2 M).hi.get i) = dot12 a0.hi a1.hi a2.hi M (12 * i.val) :=
  ⟨mmult512_4x12_den a0 a1 a2 M false i, mmult512_4x12_den a0 a1 a2 M true i⟩

/-- mmult_avx512: the 12x12 matrix-vector product for each of the two states -/
theorem C14_mmult_avx512 (a0 a1 a2 : V8) (M : Region) (i : Fin 4) :
    (den ((mmult_avx512 a0 a1 a2 M).1.lo.get i) = dot12 a0.lo a1.lo a2.lo M (12 * i.val) ∧
     den ((mmult_avx512 a0 a1 a2 M).1.hi.get i) = dot12 a0.hi a1.hi a2.hi M (12 * i.val)) ∧
    (den ((mmult_avx512 a0 a1 a2 M).2.1.lo.get i) = dot12 a0.lo a1.lo a2.lo M (48 + 12 * i.val) ∧
     den ((mmult_avx512 a0 a1 a2 M).2.1.hi.get i) = dot12 a0.hi a1.hi a2.hi M (48 + 12 * i.val)) ∧
    (den ((mmult_avx512 a0 a1 a2 M).2.2.lo.get i) = dot12 a0.lo a1.lo a2.lo M (96 + 12 * i.val) ∧
     den ((mmult_avx512 a0 a1 a2 M).2.2.hi.get i) = dot12 a0.hi a1.hi a2.hi M (96 + 12 * i.val)) :=
  have A := mmult512_den a0 a1 a2 M false i
  have B := mmult512_den a0 a1 a2 M true i
  ⟨⟨A.1, B.1⟩, ⟨A.2.1, B.2.1⟩, ⟨A.2.2, B.2.2⟩⟩

/-- spmv_avx512_4x12_8: coefficients below 2^8 -/
theorem C14_spmv_avx512_4x12_8 (a0 a1 a2 : V8) (b : Region) (i : Fin 4) (hb : ∀ k, k < 12 → (b k).toNat < 2^8) :
    den ((spmv_avx512_4x12_8 a0 a1 a2 b).lo.get i) =
      den (a0.lo.get i) * den (b i.val) + den (a1.lo.get i) * den (b (4 + i.val)) + den (a2.lo.get i) * den (b (8 + i.val)) ∧
    den ((spmv_avx512_4x12_8 a0 a1 a2 b).hi.get i) =
      den (a0.hi.get i) * den (b i.val) + den (a1.hi.get i) * den (b (4 + i.val)) + den (a2.hi.get i) * den (b (8 + i.val)) :=
  ⟨spmv512_8_den a0 a1 a2 b hb false i, spmv512_8_den a0 a1 a2 b hb true i⟩

theorem C14_mmult_avx512_4x12_8 (a0 a1 a2 : V8) (M : Region) (i : Fin 4) (hb : ∀ k, k < 48 → (M k).toNat < 2^8) :
    den ((mmult_avx512_4x12_8 a0 a1 a2 M).lo.get i) = dot12 a0.lo a1.lo a2.lo M (12 * i.val) ∧
    den ((mmult_avx512_4x12_8 a0 a1 a2 M).hi.get i) = dot12 a0.hi a1.hi a2.hi M (12 * i.val) :=
  ⟨mmult512_4x12_8_den a0 a1 a2 M false i hb, mmult512_4x12_8_den a0 a1 a2 M true i hb⟩

theorem C14_mmult_avx512_8 (a0 a1 a2 : V8) (M : Region) (i : Fin 4) (hb : ∀ k, k < 144 → (M k).toNat < 2^8) :
    (den ((mmult_avx512_8 a0 a1 a2 M).1.lo.get i) = dot12 a0.lo a1.lo a2.lo M (12 * i.val) ∧
     den ((mmult_avx512_8 a0 a1 a2 M).1.hi.get i) = dot12 a0.hi a1.hi a2.hi M (12 * i.val)) ∧
    (den ((mmult_avx512_8 a0 a1 a2 M).2.1.lo.get i) = dot12 a0.lo a1.lo a2.lo M (48 + 12 * i.val) ∧
     den ((mmult_avx512_8 a0 a1 a2 M).2.1.hi.get i) = dot12 a0.hi a1.hi a2.hi M (48 + 12 * i.val)) ∧
    (den ((mmult_avx512_8 a0 a1 a2 M).2.2.lo.get i) = dot12 a0.lo a1.lo a2.lo M (96 + 12 * i.val) ∧
     den ((mmult_avx512_8 a0 a1 a2 M).2.2.hi.get i) = dot12 a0.hi a1.hi a2.hi M (96 + 12 * i.val)) :=
  have A := mmult512_8_den a0 a1 a2 M false i hb
  have B := mmult512_8_den a0 a1 a2 M true i hb
  ⟨⟨A.1, B.1⟩, ⟨A.2.1, B.2.1⟩, ⟨A.2.2, B.2.2⟩⟩

/-- the defect D4, as a theorem about the lane kernel: adding two lane values 2^64-1 (each a legitimate output of
    mult_avx512, e.g. 0x5555555555555555·3) with add_avx512_b_c gives 2^32-3, not the sum 2^33-4 -/
theorem C14_b_c_chain_is_wrong :
    let x : V8 := V8.splat 0xFFFFFFFFFFFFFFFF#64
    ((Gen.Avx512.add_avx512_b_c x x).get 0).toNat % P = 4294967293 ∧
    ((x.get 0).toNat + (x.get 0).toNat) % P = 8589934588 := by
  intro x
  decide

end GoldilocksVerif.C14
