/-
  C05 — "For all power-of-two sizes N <= N_ext, all column counts, phase and block settings, thread counts and with or
  without scratch buffer, extendPol delivers out[k][c] = f_c(g*w_Next^k) for k < N_ext, where f_c is the unique polynomial
  of degree < N with f_c(w_N^j) = in[j][c] and g = 7 is the library's coset shift. Output and input may be the same buffer
  of N_ext rows."

  The first part is about the hand model `Model/Ntt.lean` (see Props/C03.lean for the scope: all shapes, all inputs; the thread
  count is outside the sequential model, a caller scratch buffer is in the last section, on the translated `extendPol`;
  model = code for log2 n ≤ 30).
  A polynomial of degree < N is its coefficient vector `f : Nat → F`; its value at `z` is `∑ i < N, f i * z^i`.
-/
import GoldilocksVerif.Lemmas.NttShapes
import GoldilocksVerif.Lemmas.BridgeNttComputeR
import GoldilocksVerif.Lemmas.BridgeNttExtend
import GoldilocksVerif.Lemmas.BridgeNttExtendEq
import GoldilocksVerif.Lemmas.BridgeNttExtendBuf
import GoldilocksVerif.Lemmas.BridgeNttHist
import GoldilocksVerif.Lemmas.BridgeNttProp

namespace GoldilocksVerif.C05
open GoldilocksVerif.Model.Ntt GoldilocksVerif.NttSpec Finset

/-- the library's coset shift is 7 -/
theorem C05_shift_is_seven : den Gen.Scalar.shift__r = 7 := den_shift

/-- C05 (uniqueness half): two polynomials of degree < N = 2^dn that agree on all N-th roots of unity `w_N^j` have the
    same coefficients — "the unique polynomial of degree < N with f(w_N^j) = in[j]" is well defined -/
theorem C05_interpolant_unique (dn : Nat) (hdn : dn ≤ 32) (f g : Nat → F)
    (h : ∀ j, j < 2 ^ dn → ∑ i ∈ range (2 ^ dn), f i * (omega dn ^ j) ^ i = ∑ i ∈ range (2 ^ dn), g i * (omega dn ^ j) ^ i) :
    ∀ i, i < 2 ^ dn → f i = g i := by
  intro i hi
  have h1 := (lde_welldef (omega_prim dn hdn) (two_pow_ne_zero dn) (fun j => evalPoly (2 ^ dn) g (omega dn ^ j)) f).mp
    (fun j hj => h j hj) i hi
  have h2 := (lde_welldef (omega_prim dn hdn) (two_pow_ne_zero dn) (fun j => evalPoly (2 ^ dn) g (omega dn ^ j)) g).mp
    (fun j _ => rfl) i hi
  rw [h1, h2]

/-- C05 (main statement): `extendPol` never aborts and, for every column `c`, there is a polynomial `f` of degree < N
    interpolating the input column on the N-th roots of unity such that the output column is `f` on the coset `7·w_Next^k`.
    `same = true`: output and input are the same buffer of N_ext rows. -/
theorem C05_extendPol (maxDomainSize extension : Nat) (o : Obj) (hobj : mkObj maxDomainSize extension = some o)
    (hext : extension ≤ 1) (dn de : Nat) (hn : 2 ^ dn ≤ maxDomainSize) (hne : dn ≤ de) (hde : de ≤ 32)
    (ncols nphase nblock : Nat) (hnc : 1 ≤ ncols) (same : Bool) (outB inB : Buf)
    (hin : inB.size = (if same then 2 ^ de else 2 ^ dn) * ncols) (hout : same = false → outB.size = 2 ^ de * ncols) :
    ∃ o' out, extendPol o same outB inB (2 ^ de) (2 ^ dn) ncols nphase nblock = .ok (o', out) ∧
      out.size = 2 ^ de * ncols ∧
      ∀ c, c < ncols → ∃ f : Nat → F,
        (∀ j, j < 2 ^ dn → ∑ i ∈ range (2 ^ dn), f i * (omega dn ^ j) ^ i = den (inB.getD (j * ncols + c) 0#64)) ∧
        (∀ k, k < 2 ^ de →
          den (out.getD (k * ncols + c) 0#64) = ∑ i ∈ range (2 ^ dn), f i * (7 * omega de ^ k) ^ i) := by
  have hO := mkObj_ok_le maxDomainSize extension o hobj hext dn hn
  have hsz : (if same then inB else outB).size = 2 ^ de * ncols := by
    cases same
    · exact hout rfl
    · simpa using hin
  obtain ⟨o', out, e, s, _, _, c⟩ := extendPol_spec o _ hO same outB inB dn de ncols nphase nblock (Nat.le_refl _) hne hde hnc
    (by rw [hsz])
  exact ⟨o', out, e, by rw [s, hsz], lde_interpolant dn de hO.dle inB out ncols c⟩

/-- non-vacuity: the hypotheses are satisfiable (N = 4, N_ext = 16 on an object of size 8, in place on 16 rows) -/
example : ∃ o o' out, mkObj 8 1 = some o ∧
    extendPol o true #[] (Array.replicate (2 ^ 4 * 2) 3#64) (2 ^ 4) (2 ^ 2) 2 3 1 = .ok (o', out) := by
  obtain ⟨o, ho⟩ := mkObj_some 8 1 (by decide)
  obtain ⟨o', out, e, _⟩ := C05_extendPol 8 1 o ho (by omega) 2 4 (by omega) (by omega) (by omega) 2 3 1 (by omega) true #[]
    (Array.replicate (2 ^ 4 * 2) 3#64) (by simp) (by simp)
  exact ⟨o, o', out, ho, e⟩

/-! ### the model GENERATED from ntt_goldilocks.cpp / .hpp (see Props/C03.lean, DESIGN.NTTGEN.md) -/
section generated
open GoldilocksVerif.BridgeNtt Gen.NttGen

/-- generated `computeR(N)` (1 ≤ N < 2^31): the tables `r[i] = 7^i`, `r_[i] = 7^i / N` of the model's `computeR`, in two new
    blocks at the end of the heap, `r`, `r_`, `r_N` of the object pointing to them; nothing else changes -/
theorem C05_generated_computeR (fuel : Nat) (hf : 64 ≤ fuel) (hp : Heap) (self : NTT_Goldilocks) (o : Obj) (N : Nat)
    (hN : 1 ≤ N) (hN31 : N < 2 ^ 31)
    (hpti : hp.block self.powTwoInv.blk = o.powTwoInv) (hoff : self.powTwoInv.off = 0)
    (hblk : self.powTwoInv.blk < hp.size) :
    NTT_computeR fuel hp self (N : Int) =
      some ((hp.push (computeR o N).2.1).push (computeR o N).2.2,
            { self with r := ⟨hp.size, 0⟩, r_ := ⟨hp.size + 1, 0⟩, r_N := BitVec.ofNat 64 N }) :=
  computeR_gen fuel hf hp self o N hN hN31 hpti hoff hblk

/-- **the property on the generated function**: the TRANSLATED `extendPol` (no caller buffer, one column block,
    2 ≤ N = 2^dn ≤ N_ext = 2^de ≤ 2^30, output = input block or another block), called on ANY reachable object state
    (`o.base` constructed, the `r` / `r_` cache satisfying its invariant — absent, built for this N, or built for another N and
    then freed and rebuilt): it returns, and the output block holds for every column the values f(7·ω_de^k) of the
    interpolant f of the input column.  Covers the local transform object (constructed and destroyed inside), the scratch
    block shared by the two transforms, and the cache refresh.  Route: generated `NTT_iters` = the model's `nttIters` with the
    actual scratch content, whose field-level specification holds for every scratch content. -/
theorem C05_generated_extendPol (maxDomainSize extension : Nat) (o : Obj) (hbase : mkObj maxDomainSize extension = some o.base)
    (hwf : o.wf) (hext : extension ≤ 1) (dn de : Nat) (hdn1 : 1 ≤ dn) (hn : 2 ^ dn ≤ maxDomainSize) (hne : dn ≤ de) (hde : de ≤ 30)
    (fuel : Nat) (hf : 64 ≤ fuel) (hp : Heap) (self : NTT_Goldilocks) (hrep : ObjRep hp self o) (hin : ObjIn hp self)
    (hdisj : ObjDisj self)
    (Out In : Nat) (hOut : Out < hp.size) (hIn : In < hp.size) (hOut0 : Out ≠ 0)
    (hfrOut : ObjFrame self Out) (hfrIn : ObjFrame self In)
    (ncols : Nat) (nphase nblock : BitVec 64) (hnc : 1 ≤ ncols) (hbound : 2 ^ de * ncols * 8 < 2 ^ 64)
    (hnb : clampBlock nblock.toNat ncols = 1) (hout : 2 ^ de * ncols ≤ (hp.block Out).size) :
    ∃ hp' self', NTT_extendPol fuel hp self ⟨Out, 0⟩ ⟨In, 0⟩ (bv (2 ^ de)) (bv (2 ^ dn)) (bv ncols) Ptr.null nphase nblock =
        some (hp', self') ∧ (hp'.block Out).size = (hp.block Out).size ∧
      ∀ c, c < ncols → ∃ f : Nat → F,
        (∀ j, j < 2 ^ dn →
          ∑ i ∈ range (2 ^ dn), f i * (omega dn ^ j) ^ i = den ((hp.block In).getD (j * ncols + c) 0#64)) ∧
        (∀ k, k < 2 ^ de →
          den ((hp'.block Out).getD (k * ncols + c) 0#64) = ∑ i ∈ range (2 ^ dn), f i * (7 * omega de ^ k) ^ i) := by
  obtain ⟨hp', self', _, e, hsz, _, _, _, _, c⟩ := extendPol_gen_lde ⟨hbase, hwf, hext, hn⟩ fuel hf hp self hrep hin hdisj
    Out In none hOut hIn hOut0 hfrOut hfrIn de ncols hne hde hnc hbound nphase nblock hout (by omega) ScratchOk.none
  exact ⟨hp', self', e, hsz, lde_interpolant dn de (by omega) _ _ ncols c⟩

end generated

/-! ### the generated model, EVERY `nblock`, sizes from 1, and EQUALITY with the hand model (Lemmas/BridgeNttExtendEq.lean)
  `C05_generated_extendPol` above covers one column block, N ≥ 2, and states the property.  Below: the TRANSLATED `extendPol`
  EQUALS the hand model's `extendPol` bit for bit (the generated code shares one dirty scratch block between its two transforms,
  the hand model takes fresh zero-filled ones: `Model.Ntt.nttIters_aux_irrelevant`), for every `nblock` and 1 ≤ N ≤ N_ext ≤ 2^30,
  and the object state it returns represents, with the final heap, the hand model's object after the call. -/
section generated_all
open GoldilocksVerif.BridgeNtt Gen.NttGen

/-- generated `extendPol` = the model's `extendPol`, bit for bit (no caller buffer, every `nblock`, 1 ≤ 2^dn ≤ 2^de ≤ 2^30, output =
    input block or another block, any cache state); afterwards the returned object state with the final heap represents the model's
    object `o'` (tables unchanged, the refreshed cache), the object owns existing and distinct blocks, the caller's blocks other than
    the output are unchanged and are not the object's.  Fuel: 64, and for N = 1 more than the column count -/
theorem C05_generated_extendPol_eq_model (fuel : Nat) (hf : 64 ≤ fuel) (hp : Heap) (self : NTT_Goldilocks) (o : Obj)
    (hrep : ObjRep hp self o) (hin : ObjIn hp self) (hdisj : ObjDisj self) (hos : o.s ≤ 32) (hext31 : o.extension < 2 ^ 31)
    (Out In : Nat) (hOut : Out < hp.size) (hIn : In < hp.size) (hOut0 : Out ≠ 0)
    (hfrOut : ObjFrame self Out) (hfrIn : ObjFrame self In)
    (dn de nc : Nat) (hde : dn ≤ de) (hde30 : de ≤ 30) (hdns : dn ≤ o.s) (hnc : 1 ≤ nc)
    (hbound : 2 ^ de * nc * 8 < 2 ^ 64) (nphase nblock : BitVec 64)
    (hout : 2 ^ de * nc ≤ (hp.block Out).size) (hf1 : dn = 0 → nc < fuel) :
    match extendPol o (decide (Out = In)) (hp.block Out) (hp.block In) (2 ^ de) (2 ^ dn) nc nphase.toNat nblock.toNat with
    | .ok (o', out) => ∃ hp' self',
        NTT_extendPol fuel hp self ⟨Out, 0⟩ ⟨In, 0⟩ (bv (2 ^ de)) (bv (2 ^ dn)) (bv nc) Ptr.null nphase nblock =
          some (hp', self') ∧
        hp'.block Out = out ∧ ObjRep hp' self' o' ∧ ObjIn hp' self' ∧ ObjDisj self' ∧ hp.size ≤ hp'.size ∧
        (∀ c, c < hp.size → c ≠ Out → ObjFrame self c → hp'.block c = hp.block c) ∧
        (∀ c, c < hp.size → ObjFrame self c → ObjFrame self' c)
    | .error _ =>
        NTT_extendPol fuel hp self ⟨Out, 0⟩ ⟨In, 0⟩ (bv (2 ^ de)) (bv (2 ^ dn)) (bv nc) Ptr.null nphase nblock = none :=
  extendPol_gen_eq fuel hf hp self o hrep hin hdisj hos hext31 Out In hOut hIn hOut0 hfrOut hfrIn dn de nc hde hde30 hdns hnc hbound
    nphase nblock hout hf1

/-- **the property on the generated function, every `nblock`, 1 ≤ N = 2^dn ≤ N_ext = 2^de ≤ 2^30**, on any reachable object state -/
theorem C05_generated_extendPol_all (maxDomainSize extension : Nat) (o : Obj) (hbase : mkObj maxDomainSize extension = some o.base)
    (hwf : o.wf) (hext : extension ≤ 1) (dn de : Nat) (hn : 2 ^ dn ≤ maxDomainSize) (hne : dn ≤ de) (hde : de ≤ 30)
    (fuel : Nat) (hf : 64 ≤ fuel) (hp : Heap) (self : NTT_Goldilocks) (hrep : ObjRep hp self o) (hin : ObjIn hp self)
    (hdisj : ObjDisj self)
    (Out In : Nat) (hOut : Out < hp.size) (hIn : In < hp.size) (hOut0 : Out ≠ 0)
    (hfrOut : ObjFrame self Out) (hfrIn : ObjFrame self In)
    (ncols : Nat) (nphase nblock : BitVec 64) (hnc : 1 ≤ ncols) (hbound : 2 ^ de * ncols * 8 < 2 ^ 64)
    (hout : 2 ^ de * ncols ≤ (hp.block Out).size) (hf1 : dn = 0 → ncols < fuel) :
    ∃ hp' self' o', NTT_extendPol fuel hp self ⟨Out, 0⟩ ⟨In, 0⟩ (bv (2 ^ de)) (bv (2 ^ dn)) (bv ncols) Ptr.null nphase nblock =
        some (hp', self') ∧ (hp'.block Out).size = (hp.block Out).size ∧
      ObjRep hp' self' o' ∧ o'.wf ∧ o'.base = o.base ∧
      ∀ c, c < ncols → ∃ f : Nat → F,
        (∀ j, j < 2 ^ dn →
          ∑ i ∈ range (2 ^ dn), f i * (omega dn ^ j) ^ i = den ((hp.block In).getD (j * ncols + c) 0#64)) ∧
        (∀ k, k < 2 ^ de →
          den ((hp'.block Out).getD (k * ncols + c) 0#64) = ∑ i ∈ range (2 ^ dn), f i * (7 * omega de ^ k) ^ i) := by
  obtain ⟨hp', self', o', e, hsz, _, r, w, b, c⟩ := extendPol_gen_lde ⟨hbase, hwf, hext, hn⟩ fuel hf hp self hrep hin hdisj
    Out In none hOut hIn hOut0 hfrOut hfrIn de ncols hne hde hnc hbound nphase nblock hout hf1 ScratchOk.none
  exact ⟨hp', self', o', e, hsz, r, w, b, lde_interpolant dn de (by omega) _ _ ncols c⟩

end generated_all

/-! ### the generated model WITH A CALLER SCRATCH BUFFER (`buffer != NULL`; Lemmas/BridgeNttExtendBuf.lean)
  The C05 statement says "with or without scratch buffer".  The hand model has no caller buffer (it takes fresh zero-filled
  scratch per transform); the TRANSLATED `extendPol` passes the caller's block `B` — whatever it holds — to both transforms.
  Below: for every content of `B` the translated function EQUALS the hand model's `extendPol` bit for bit, under the documented
  preconditions on the buffer (an existing block other than the output's, the input's and the object's, at least N_ext·ncols
  words); the buffer block keeps its size. -/
section generated_buffer
open GoldilocksVerif.BridgeNtt Gen.NttGen

/-- generated `extendPol` with a caller buffer = the model's `extendPol`, bit for bit (every `nblock`, 1 ≤ 2^dn ≤ 2^de ≤ 2^30, output =
    input block or another block, any cache state, ANY buffer content); afterwards as in `C05_generated_extendPol_eq_model`, the
    buffer block has its size, the caller's blocks other than the output and the buffer are unchanged -/
theorem C05_generated_extendPol_buffer_eq_model (fuel : Nat) (hf : 64 ≤ fuel) (hp : Heap) (self : NTT_Goldilocks) (o : Obj)
    (hrep : ObjRep hp self o) (hin : ObjIn hp self) (hdisj : ObjDisj self) (hos : o.s ≤ 32) (hext31 : o.extension < 2 ^ 31)
    (Out In B : Nat) (hOut : Out < hp.size) (hIn : In < hp.size) (hB : B < hp.size) (hOut0 : Out ≠ 0) (hB0 : B ≠ 0)
    (hOB : Out ≠ B) (hIB : In ≠ B)
    (hfrOut : ObjFrame self Out) (hfrIn : ObjFrame self In) (hfrB : ObjFrame self B)
    (dn de nc : Nat) (hde : dn ≤ de) (hde30 : de ≤ 30) (hdns : dn ≤ o.s) (hnc : 1 ≤ nc)
    (hbound : 2 ^ de * nc * 8 < 2 ^ 64) (nphase nblock : BitVec 64)
    (hout : 2 ^ de * nc ≤ (hp.block Out).size) (hbuf : 2 ^ de * nc ≤ (hp.block B).size) (hf1 : dn = 0 → nc < fuel) :
    match extendPol o (decide (Out = In)) (hp.block Out) (hp.block In) (2 ^ de) (2 ^ dn) nc nphase.toNat nblock.toNat with
    | .ok (o', out) => ∃ hp' self',
        NTT_extendPol fuel hp self ⟨Out, 0⟩ ⟨In, 0⟩ (bv (2 ^ de)) (bv (2 ^ dn)) (bv nc) ⟨B, 0⟩ nphase nblock =
          some (hp', self') ∧
        hp'.block Out = out ∧ ObjRep hp' self' o' ∧ ObjIn hp' self' ∧ ObjDisj self' ∧ hp.size ≤ hp'.size ∧
        (hp'.block B).size = (hp.block B).size ∧
        (∀ c, c < hp.size → c ≠ Out → c ≠ B → ObjFrame self c → hp'.block c = hp.block c) ∧
        (∀ c, c < hp.size → ObjFrame self c → ObjFrame self' c)
    | .error _ =>
        NTT_extendPol fuel hp self ⟨Out, 0⟩ ⟨In, 0⟩ (bv (2 ^ de)) (bv (2 ^ dn)) (bv nc) ⟨B, 0⟩ nphase nblock = none :=
  extendPol_gen_buf_eq fuel hf hp self o hrep hin hdisj hos hext31 Out In B hOut hIn hB hOut0 hB0 hOB hIB hfrOut hfrIn hfrB dn de nc
    hde hde30 hdns hnc hbound nphase nblock hout hbuf hf1

/-- **the property on the generated function called with a caller scratch buffer, every `nblock`, 1 ≤ N = 2^dn ≤ N_ext = 2^de ≤ 2^30**,
    on any reachable object state, for ANY content of the buffer: it returns, and the output block holds for every column the
    values f(7·ω_de^k) of the interpolant f of the input column -/
theorem C05_generated_extendPol_buffer_all (maxDomainSize extension : Nat) (o : Obj)
    (hbase : mkObj maxDomainSize extension = some o.base)
    (hwf : o.wf) (hext : extension ≤ 1) (dn de : Nat) (hn : 2 ^ dn ≤ maxDomainSize) (hne : dn ≤ de) (hde : de ≤ 30)
    (fuel : Nat) (hf : 64 ≤ fuel) (hp : Heap) (self : NTT_Goldilocks) (hrep : ObjRep hp self o) (hin : ObjIn hp self)
    (hdisj : ObjDisj self)
    (Out In B : Nat) (hOut : Out < hp.size) (hIn : In < hp.size) (hB : B < hp.size) (hOut0 : Out ≠ 0) (hB0 : B ≠ 0)
    (hOB : Out ≠ B) (hIB : In ≠ B)
    (hfrOut : ObjFrame self Out) (hfrIn : ObjFrame self In) (hfrB : ObjFrame self B)
    (ncols : Nat) (nphase nblock : BitVec 64) (hnc : 1 ≤ ncols) (hbound : 2 ^ de * ncols * 8 < 2 ^ 64)
    (hout : 2 ^ de * ncols ≤ (hp.block Out).size) (hbuf : 2 ^ de * ncols ≤ (hp.block B).size) (hf1 : dn = 0 → ncols < fuel) :
    ∃ hp' self' o', NTT_extendPol fuel hp self ⟨Out, 0⟩ ⟨In, 0⟩ (bv (2 ^ de)) (bv (2 ^ dn)) (bv ncols) ⟨B, 0⟩ nphase nblock =
        some (hp', self') ∧ (hp'.block Out).size = (hp.block Out).size ∧ (hp'.block B).size = (hp.block B).size ∧
      ObjRep hp' self' o' ∧ o'.wf ∧ o'.base = o.base ∧
      ∀ c, c < ncols → ∃ f : Nat → F,
        (∀ j, j < 2 ^ dn →
          ∑ i ∈ range (2 ^ dn), f i * (omega dn ^ j) ^ i = den ((hp.block In).getD (j * ncols + c) 0#64)) ∧
        (∀ k, k < 2 ^ de →
          den ((hp'.block Out).getD (k * ncols + c) 0#64) = ∑ i ∈ range (2 ^ dn), f i * (7 * omega de ^ k) ^ i) := by
  obtain ⟨hp', self', o', e, hsz, hb, r, w, b, c⟩ := extendPol_gen_lde ⟨hbase, hwf, hext, hn⟩ fuel hf hp self hrep hin
    hdisj Out In (some B) hOut hIn hOut0 hfrOut hfrIn de ncols hne hde hnc hbound nphase nblock hout hf1
    (ScratchOk.some hB hB0 hOB hIB hfrB hbuf)
  exact ⟨hp', self', o', e, hsz, hb B rfl, r, w, b, lde_interpolant dn de (by omega) _ _ ncols c⟩

/-- non-vacuity: the hypotheses are satisfiable — the TRANSLATED constructor on a heap with three caller blocks (input: 4 rows of 2
    columns; output: 8 rows; scratch buffer: 16 words of junk), then the translated `extendPol` 4 → 8 with the buffer, two column
    blocks: both return -/
example : ∃ st0 hp' self',
    NTT_ctor 64 ⟨#[#[], Array.replicate 8 5#64, Array.replicate 16 0#64, Array.replicate 16 9#64]⟩ NTT_Goldilocks.init 8#64 1#32
      ((1 : Nat) : Int) = some st0 ∧
    NTT_extendPol 64 st0.1 st0.2 ⟨2, 0⟩ ⟨1, 0⟩ (bv (2 ^ 3)) (bv (2 ^ 2)) (bv 2) ⟨3, 0⟩ 3#64 2#64 = some (hp', self') := by
  obtain ⟨o0, ho0⟩ := mkObj_some 8 1 (by decide)
  obtain ⟨st0, hc, hinv, hblk⟩ := ctor_inv 64 (by omega)
    ⟨#[#[], Array.replicate 8 5#64, Array.replicate 16 0#64, Array.replicate 16 9#64]⟩ (by decide) NTT_Goldilocks.init 8#64 1#32 1
    (by decide) o0 ho0
  obtain ⟨⟨o, hbase, hwf, hrep⟩, hin, hdisj, hsize, huser⟩ := hinv
  have hsz : 4 ≤ st0.1.size := hsize
  obtain ⟨_, _, f1, s1⟩ := huser 1 ⟨by decide, by decide⟩
  obtain ⟨_, _, f2, s2⟩ := huser 2 ⟨by decide, by decide⟩
  obtain ⟨_, _, f3, s3⟩ := huser 3 ⟨by decide, by decide⟩
  obtain ⟨hp', self', _, hrun, _⟩ := C05_generated_extendPol_buffer_all 8 1 o (by rw [hbase]; exact ho0) hwf (by omega) 2 3
    (by omega) (by omega) (by omega) 64 (by omega) st0.1 st0.2 hrep hin hdisj 2 1 3 (by omega) (by omega) (by omega) (by omega)
    (by omega) (by omega) (by omega) f2 f1 f3 2 3#64 2#64 (by omega) (by omega) (by rw [s2]; decide) (by rw [s3]; decide)
    (by omega)
  exact ⟨st0, hp', self', hc, hrun⟩

end generated_buffer

end GoldilocksVerif.C05
