/-
  C15 — Conversions are total, canonical, round-trip; predicates ignore representation.

  About the hand models of Model/Conv.lean (tied to goldilocks_base_field_tools.hpp by the correspondence run,
  GMP included) and the generated `toU64`, `equal`, `isZero`, `isOne`, `isNegone` of Gen/Scalar.lean.
  `den x : ZMod p` is the field element a representation denotes; integers are cast into ZMod p.

  Defects of the C++ shown with replays by this check and repaired by `fix:` commits in /repo: `fromScalar/fromString`
  returned the wrong residue for integers below -p (D1), `toS32` rejected -2^31 (D2).  The models below are those of
  the repaired code.
-/
import GoldilocksVerif.Lemmas.ConvF
import GoldilocksVerif.Lemmas.BridgeConv

namespace GoldilocksVerif.C15
open GoldilocksVerif Model Gen.Scalar

/-- every integer, of any sign and magnitude, converts to its residue; the result is canonical -/
theorem C15_fromScalar (x : Int) : den (fromScalar x) = (x : F) ∧ (fromScalar x).toNat < P ∧
    (fromScalar x).toNat = (x % (P : Int)).toNat :=
  ⟨fromScalar_den x, fromScalar_lt x, fromScalar_toNat x⟩

/-- strings: whatever integer the numeral denotes (any radix 2..36, any sign), the result is its residue -/
theorem C15_fromString (s : String) (radix : Nat) (x : Int) (h : parseInt radix s = some x) :
    fromString s radix = some (fromScalar x) ∧ den (fromScalar x) = (x : F) := by
  refine ⟨?_, fromScalar_den x⟩
  unfold fromString; rw [h]; rfl

/-- signed 64-bit and 32-bit integers (two's complement) convert to their residue -/
theorem C15_fromS64 (x : BitVec 64) : den (fromS64 x) = ((x.toInt : Int) : F) := fromS64_den x
theorem C15_fromS32 (x : BitVec 32) : den (fromS32 x) = ((x.toInt : Int) : F) := fromS32_den x

/-- unsigned 64-bit: stored raw, denotes its residue -/
theorem C15_fromU64 (x : BitVec 64) : den (fromU64__rE x) = ((x.toNat : Nat) : F) := by
  rw [den_fromU64]; rfl

/-- toU64: the canonical value in [0,p) of the same field element -/
theorem C15_toU64 (a : BitVec 64) : (toU64__rE a).toNat < P ∧ den (toU64__rE a) = den a ∧
    (toU64__rE a).toNat = a.toNat % P :=
  ⟨toU64_r_lt a, den_toU64 a, Model.toU64_r_toNat a⟩

/-- toS64: the centred value in [-(p-1)/2, (p-1)/2] of the same field element -/
theorem C15_toS64 (a : BitVec 64) :
    -(((P - 1) / 2 : Nat) : Int) ≤ toS64 a ∧ toS64 a ≤ (((P - 1) / 2 : Nat) : Int) ∧ ((toS64 a : Int) : F) = den a :=
  ⟨(toS64_range a).1, (toS64_range a).2, toS64_den a⟩

/-- toS32: success exactly when the centred value lies in [-2^31, 2^31), and then it is that value -/
theorem C15_toS32 (a : BitVec 64) :
    ((toS32 a).1 = true ↔ (-2^31 ≤ toS64 a ∧ toS64 a < 2^31)) ∧ ((toS32 a).1 = true → (toS32 a).2 = toS64 a) :=
  toS32_spec a

theorem C15_roundtrip_u64 (x : BitVec 64) (h : x.toNat < P) : toU64__rE (fromU64__rE x) = x := rt_u64 x h
theorem C15_roundtrip_s64 (x : BitVec 64) (h : -(((P - 1) / 2 : Nat) : Int) ≤ x.toInt ∧ x.toInt ≤ (((P - 1) / 2 : Nat) : Int)) :
    toS64 (fromS64 x) = x.toInt := by
  rw [P_half] at h
  exact rt_s64 x h
/-- every signed 32-bit value, including INT32_MIN, survives the round trip -/
theorem C15_roundtrip_s32 (x : BitVec 32) : toS32 (fromS32 x) = (true, x.toInt) := rt_s32 x

/-- equality and the predicates depend only on residue classes -/
theorem C15_predicates (a b : BitVec 64) :
    (equal a b = true ↔ den a = den b) ∧ (isZero a = true ↔ den a = 0) ∧
    (isOne a = true ↔ den a = 1) ∧ (isNegone a = true ↔ den a = -1) :=
  ⟨equal_iff a b, (predicates a).1, (predicates a).2.1, (predicates a).2.2⟩

/-- toString prints the numeral of the canonical value, so it depends only on the residue class -/
theorem C15_toString_class (a b : BitVec 64) (radix : Nat) (h : den a = den b) : toStringR a radix = toStringR b radix := by
  unfold toStringR
  have := (den_eq_iff a b).mp h
  rw [Model.toU64_r_toNat, Model.toU64_r_toNat, this]

/-- non-vacuity: the witness of defect D1 (x = -p-1) is covered -/
example : (fromScalar (-(P : Int) - 1)).toNat = P - 1 := by
  rw [fromScalar_toNat]; decide

/-! ## The conversions as TRANSLATED from goldilocks_base_field_tools.hpp (Gen/ConvGen.lean, regenerated on every run)

  `mpz_class` arithmetic is translated to `Int` (`%` = `Int.tmod`); GMP's numeral parser / printer stay modelled (externs
  `Mpz.ofString` = `parseInt`, `Mpz.getStr` = the digit loop `toDigitsR`); `int64_t` / `int32_t` are two's complement bit
  vectors.  Bridge theorems: Lemmas/BridgeConv.lean.  See DESIGN.CONV.md. -/
section generated
open Gen.ConvGen BridgeConv

/-- every translated conversion IS the hand model's function (for every fuel; `result` parameters: every previous value) -/
theorem C15_generated_eq_model :
    (∀ x, fromS64__ei x = fromS64 x) ∧ (∀ x, fromS64__ri x = fromS64 x) ∧
    (∀ x, fromS32__ei x = fromS32 x) ∧ (∀ x, fromS32__ri x = fromS32 x) ∧
    (∀ x, fromScalar__eZ x = fromScalar x) ∧ (∀ x, fromScalar__rZ x = fromScalar x) ∧
    (∀ fuel s radix, fromString__eSi fuel s radix = fromString s radix.toNat) ∧
    (∀ fuel s radix, fromString__rSi fuel s radix = fromString s radix.toNat) ∧
    (∀ r a, toS64__iE r a = BitVec.ofInt 64 (toS64 a)) ∧ (∀ a, toS64__rE a = BitVec.ofInt 64 (toS64 a)) ∧
    (∀ r a, Gen.ConvGen.toS32 r a = if (toS32 a).1 then (true, BitVec.ofInt 32 (toS32 a).2) else (false, r)) ∧
    (∀ a radix, toString__sEi a radix = toStringR a radix.toNat) ∧
    (∀ a radix, toString__rEi a radix = toStringR a radix.toNat) :=
  ⟨fromS64_e_gen_eq, fromS64_r_gen_eq, fromS32_e_gen_eq, fromS32_r_gen_eq, fromScalar_e_gen_eq, fromScalar_r_gen_eq,
   fromString_e_gen_eq, fromString_r_gen_eq, toS64_i_gen_eq, toS64_r_gen_eq, toS32_gen_eq, toString_s_gen_eq,
   toString_r_gen_eq⟩

/-- translated `fromScalar`: every integer, of any sign and magnitude, converts to its canonical residue -/
theorem C15_generated_fromScalar (x : Int) :
    den (fromScalar__rZ x) = (x : F) ∧ (fromScalar__rZ x).toNat < P ∧ (fromScalar__rZ x).toNat = (x % (P : Int)).toNat ∧
    fromScalar__eZ x = fromScalar__rZ x := by
  rw [fromScalar_r_gen_eq, fromScalar_e_gen_eq]
  exact ⟨fromScalar_den x, fromScalar_lt x, fromScalar_toNat x, rfl⟩

/-- translated `fromString`: it returns exactly when the (modelled) parser accepts the numeral, and then the result is the
    residue of the integer the numeral denotes; a refused numeral (C++: `std::invalid_argument`) is `none` -/
theorem C15_generated_fromString (fuel : Nat) (s : String) (radix : Int) :
    (∀ x, parseInt radix.toNat s = some x →
        fromString__rSi fuel s radix = some (fromScalar x) ∧ fromString__eSi fuel s radix = some (fromScalar x) ∧
        den (fromScalar x) = (x : F) ∧ (fromScalar x).toNat < P) ∧
    (parseInt radix.toNat s = none → fromString__rSi fuel s radix = none ∧ fromString__eSi fuel s radix = none) := by
  rw [fromString_r_gen_eq, fromString_e_gen_eq]
  unfold fromString
  constructor
  · intro x h
    rw [h]
    exact ⟨rfl, rfl, fromScalar_den x, fromScalar_lt x⟩
  · intro h
    rw [h]
    exact ⟨rfl, rfl⟩

/-- translated `fromS64` / `fromS32`: the two's complement value converts to its residue -/
theorem C15_generated_fromS64 (x : BitVec 64) :
    den (fromS64__ri x) = ((x.toInt : Int) : F) ∧ fromS64__ei x = fromS64__ri x := by
  rw [fromS64_r_gen_eq, fromS64_e_gen_eq]
  exact ⟨fromS64_den x, rfl⟩

theorem C15_generated_fromS32 (x : BitVec 32) :
    den (fromS32__ri x) = ((x.toInt : Int) : F) ∧ fromS32__ei x = fromS32__ri x := by
  rw [fromS32_r_gen_eq, fromS32_e_gen_eq]
  exact ⟨fromS32_den x, rfl⟩

/-- translated `toS64`: the signed value of the result is the centred representative of the same field element, whatever
    `result` held before -/
theorem C15_generated_toS64 (r a : BitVec 64) :
    -(((P - 1) / 2 : Nat) : Int) ≤ (toS64__iE r a).toInt ∧ (toS64__iE r a).toInt ≤ (((P - 1) / 2 : Nat) : Int) ∧
    (((toS64__iE r a).toInt : Int) : F) = den a ∧ toS64__rE a = toS64__iE r a := by
  rw [toS64_i_gen_toInt, toS64_r_gen_eq, toS64_i_gen_eq]
  exact ⟨(toS64_range a).1, (toS64_range a).2, toS64_den a, rfl⟩

/-- translated `toS32`: success exactly when the centred value lies in [-2^31, 2^31); then `result` is that value (two's
    complement); on failure `result` is left as it was -/
theorem C15_generated_toS32 (r : BitVec 32) (a : BitVec 64) :
    ((Gen.ConvGen.toS32 r a).1 = true ↔ (-2^31 ≤ (toS64__rE a).toInt ∧ (toS64__rE a).toInt < 2^31)) ∧
    ((Gen.ConvGen.toS32 r a).1 = true → ((Gen.ConvGen.toS32 r a).2.toInt : Int) = (toS64__rE a).toInt) ∧
    ((Gen.ConvGen.toS32 r a).1 = false → (Gen.ConvGen.toS32 r a).2 = r) := by
  rw [toS32_gen_eq, toS64_r_gen_toInt]
  obtain ⟨s1, s2⟩ := toS32_spec a
  by_cases h : (toS32 a).1 = true
  · rw [if_pos h]
    have hr := s1.mp h
    refine ⟨⟨fun _ => hr, fun _ => rfl⟩, fun _ => ?_, fun hf => by simp at hf⟩
    show (BitVec.ofInt 32 (toS32 a).2).toInt = toS64 a
    rw [s2 h]
    exact BitVec.toInt_ofInt_eq_self (by decide) hr.1 hr.2
  · rw [if_neg h]
    refine ⟨⟨fun hf => by simp at hf, fun hr => absurd (s1.mpr hr) h⟩, fun hf => by simp at hf, fun _ => rfl⟩

theorem C15_generated_roundtrip_s64 (x r : BitVec 64)
    (h : -(((P - 1) / 2 : Nat) : Int) ≤ x.toInt ∧ x.toInt ≤ (((P - 1) / 2 : Nat) : Int)) :
    toS64__iE r (fromS64__ri x) = x := by
  apply BitVec.eq_of_toInt_eq
  rw [toS64_i_gen_toInt, fromS64_r_gen_eq]
  exact C15_roundtrip_s64 x h

/-- every `int32_t`, including INT32_MIN, survives `fromS32` then `toS32` -/
theorem C15_generated_roundtrip_s32 (x r : BitVec 32) : Gen.ConvGen.toS32 r (fromS32__ri x) = (true, x) := by
  rw [toS32_gen_eq, fromS32_r_gen_eq, rt_s32 x]
  show (true, BitVec.ofInt 32 x.toInt) = (true, x)
  rw [BitVec.ofInt_toInt]

/-- translated `toString` depends only on the residue class -/
theorem C15_generated_toString_class (a b : BitVec 64) (radix : Int) (h : den a = den b) :
    toString__rEi a radix = toString__rEi b radix ∧ toString__sEi a radix = toString__rEi a radix := by
  rw [toString_r_gen_eq, toString_r_gen_eq, toString_s_gen_eq]
  exact ⟨C15_toString_class a b radix.toNat h, rfl⟩

/-- non-vacuity: the witness of defect D1 (x = -p-1) through the translated function -/
example : (fromScalar__rZ (-(P : Int) - 1)).toNat = P - 1 := by
  rw [fromScalar_r_gen_eq, fromScalar_toNat]; decide

end generated

end GoldilocksVerif.C15
