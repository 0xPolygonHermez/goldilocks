-- GENERATED by tools/extspec.py from the C++ SIGNATURES (routine name, parameter types and names) of the current source.
-- Do not edit.  One theorem per batched / AVX2 / AVX512 cubic-extension overload: for element k the written
-- coefficients denote (in ZMod p) the K3 sum / difference / product of the k-th designated operands.
import GoldilocksVerif.Lemmas.ExtWrapL
namespace GoldilocksVerif.C16Gen
open GoldilocksVerif

/-- `sub13c_avx512(__m512i & c0_, __m512i & c1_, __m512i & c2_, Goldilocks::Element * a, Goldilocks::Element * b, uint64_t stride_a)` -/
theorem G3_sub13c_avx512_spec (a : Region) (b : Region) (stride_a : BitVec 64) :
    Planar8 (fun k => K3.sub ((base1 a (posS stride_a)) k) ((ext3 b posC) k)) (Gen.ExtWrap.G3_sub13c_avx512 a b stride_a).1 (Gen.ExtWrap.G3_sub13c_avx512 a b stride_a).2.1 (Gen.ExtWrap.G3_sub13c_avx512 a b stride_a).2.2 := by
  ext_body Gen.ExtWrap.G3_sub13c_avx512
  intro k hk
  ext_lane8 hk

/-- `sub31c_avx512(Goldilocks3::Element_avx512 & c_, Goldilocks::Element * a, Goldilocks::Element b, uint64_t stride_a)` -/
theorem G3_sub31c_avx512_spec (c_ : VRegion8) (a : Region) (b : BitVec 64) (stride_a : BitVec 64) :
    PlanarV8 (fun k => K3.sub ((ext3 a (posS stride_a)) k) ((val1 b) k)) c_ (Gen.ExtWrap.G3_sub31c_avx512 c_ a b stride_a) := by
  ext_body Gen.ExtWrap.G3_sub31c_avx512
  exact PlanarV8.of_sets fun k hk => by ext_lane8 hk

/-- `sub33c_avx512(Goldilocks3::Element_avx512 & c_, __m512i * a_, Goldilocks::Element * b)` -/
theorem G3_sub33c_avx512__nnp_spec (c_ : VRegion8) (a_ : VRegion8) (b : Region) :
    PlanarV8 (fun k => K3.sub ((vreg8 a_) k) ((ext3 b posC) k)) c_ (Gen.ExtWrap.G3_sub33c_avx512__nnp c_ a_ b) := by
  ext_body Gen.ExtWrap.G3_sub33c_avx512__nnp
  exact PlanarV8.of_sets fun k hk => by ext_lane8 hk

/-- `sub33c_avx512(Goldilocks3::Element_avx512 & c_, Goldilocks::Element * a, Goldilocks::Element * b, uint64_t stride_a)` -/
theorem G3_sub33c_avx512__nppE_spec (c_ : VRegion8) (a : Region) (b : Region) (stride_a : BitVec 64) :
    PlanarV8 (fun k => K3.sub ((ext3 a (posS stride_a)) k) ((ext3 b posC) k)) c_ (Gen.ExtWrap.G3_sub33c_avx512__nppE c_ a b stride_a) := by
  ext_body Gen.ExtWrap.G3_sub33c_avx512__nppE
  exact PlanarV8.of_sets fun k hk => by ext_lane8 hk

/-- `sub33c_avx512(__m512i & c0_, __m512i & c1_, __m512i & c2_, Goldilocks::Element * a, Goldilocks::Element * b, uint64_t stride_a)` -/
theorem G3_sub33c_avx512__wwwppE_spec (a : Region) (b : Region) (stride_a : BitVec 64) :
    Planar8 (fun k => K3.sub ((ext3 a (posS stride_a)) k) ((ext3 b posC) k)) (Gen.ExtWrap.G3_sub33c_avx512__wwwppE a b stride_a).1 (Gen.ExtWrap.G3_sub33c_avx512__wwwppE a b stride_a).2.1 (Gen.ExtWrap.G3_sub33c_avx512__wwwppE a b stride_a).2.2 := by
  ext_body Gen.ExtWrap.G3_sub33c_avx512__wwwppE
  intro k hk
  ext_lane8 hk

/-- `sub_avx512(Goldilocks3::Element_avx512 & c_, __m512i * a_, __m512i * b_)` -/
theorem G3_sub_avx512__nnn_spec (c_ : VRegion8) (a_ : VRegion8) (b_ : VRegion8) :
    PlanarV8 (fun k => K3.sub ((vreg8 a_) k) ((vreg8 b_) k)) c_ (Gen.ExtWrap.G3_sub_avx512__nnn c_ a_ b_) := by
  ext_body Gen.ExtWrap.G3_sub_avx512__nnn
  exact PlanarV8.of_sets fun k hk => by ext_lane8 hk

/-- `sub_avx512(Goldilocks3::Element_avx512 & c_, __m512i * a_, Goldilocks::Element * b, uint64_t stride_b)` -/
theorem G3_sub_avx512__nnpE_spec (c_ : VRegion8) (a_ : VRegion8) (b : Region) (stride_b : BitVec 64) :
    PlanarV8 (fun k => K3.sub ((vreg8 a_) k) ((ext3 b (posS stride_b)) k)) c_ (Gen.ExtWrap.G3_sub_avx512__nnpE c_ a_ b stride_b) := by
  ext_body Gen.ExtWrap.G3_sub_avx512__nnpE
  exact PlanarV8.of_sets fun k hk => by ext_lane8 hk

end GoldilocksVerif.C16Gen
