/-
  C09 — Cubic extension arithmetic is exact in F_p[x]/(x^3 - x - 1).

  `K3` is the coefficient-triple representation of F_p[x]/(x^3-x-1) with the schoolbook product reduced by x^3 = x+1
  (Lemmas/ExtF.lean); `den3 r : K3` is the element a 3-word region denotes, in any representation of its coefficients.
  The statements are about `Gen.Ext.*`, regenerated from goldilocks_cubic_extension.hpp INCLUDING one generated model
  per aliased call pattern (out==a, out==b, a==b, all three: in those the aliased parameters share one variable, so a
  read after a write sees the written value), and about the hand models of inv/div/mulScalar/batchInverse.

  Defect D3 of the C++ (`isOne` tested result[0] three times) was shown with a replay by this check and is repaired by a
  `fix:` commit in /repo.
-/
import GoldilocksVerif.Lemmas.ExtF
import GoldilocksVerif.Lemmas.ExtIrred
import GoldilocksVerif.Lemmas.ExtBatch
import GoldilocksVerif.Lemmas.BridgeExt
import GoldilocksVerif.Lemmas.BridgeExtBatch
import GoldilocksVerif.Lemmas.BridgeExtScalar

namespace GoldilocksVerif.C09
open GoldilocksVerif Gen.Ext Model

/-- add, all operand forms; outputs may alias inputs -/
theorem C09_add (result a b : Region) (s : BitVec 64) :
    den3 (G3_add__a3A3A3 result a b) = K3.add (den3 a) (den3 b) ∧
    den3 (G3_add__a3A3E result a s) = K3.add (den3 a) (K3.ofBase (den s)) ∧
    den3 (G3_add__a3EA3 result s b) = K3.add (K3.ofBase (den s)) (den3 b) ∧
    den3 (G3_add__a3A3U result a s) = K3.add (den3 a) (K3.ofBase (den s)) :=
  ⟨add_den _ _ _, add_base_den _ _ _, add_base_l_den _ _ _, add_int_den _ _ _⟩

theorem C09_add_aliased (x y : Region) (s : BitVec 64) :
    den3 (G3_add__a3A3A3_al_result_a x y) = K3.add (den3 x) (den3 y) ∧
    den3 (G3_add__a3A3A3_al_result_b x y) = K3.add (den3 y) (den3 x) ∧
    den3 (G3_add__a3A3A3_al_a_b x y) = K3.add (den3 y) (den3 y) ∧
    den3 (G3_add__a3A3A3_al_result_a_al_result_b x) = K3.add (den3 x) (den3 x) ∧
    den3 (G3_add__a3A3E_al_result_a x s) = K3.add (den3 x) (K3.ofBase (den s)) ∧
    den3 (G3_add__a3EA3_al_result_b x s) = K3.add (K3.ofBase (den s)) (den3 x) ∧
    den3 (G3_add__a3A3U_al_result_a x s) = K3.add (den3 x) (K3.ofBase (den s)) :=
  ⟨add_den x x y, add_den x y x, add_den x y y, add_den x x x, add_base_den x x s, add_base_l_den x s x,
   add_int_den x x s⟩

/-- sub and neg -/
theorem C09_sub (result a b : Region) (s : BitVec 64) :
    den3 (G3_sub__a3a3a3 result a b) = K3.sub (den3 a) (den3 b) ∧
    den3 (G3_sub__a3a3E result a s) = K3.sub (den3 a) (K3.ofBase (den s)) ∧
    den3 (G3_sub__a3Ea3 result s b) = K3.sub (K3.ofBase (den s)) (den3 b) ∧
    den3 (G3_sub__a3a3e result a s) = K3.sub (den3 a) (K3.ofBase (den s)) ∧
    den3 (G3_neg result a) = K3.neg (den3 a) :=
  ⟨sub_den _ _ _, sub_base_den _ _ _, sub_base_l_den _ _ _, sub_int_den _ _ _, neg_den _ _⟩

theorem C09_sub_aliased (x y : Region) (s : BitVec 64) :
    den3 (G3_sub__a3a3a3_al_result_a x y) = K3.sub (den3 x) (den3 y) ∧
    den3 (G3_sub__a3a3a3_al_result_b x y) = K3.sub (den3 y) (den3 x) ∧
    den3 (G3_sub__a3a3a3_al_a_b x y) = K3.sub (den3 y) (den3 y) ∧
    den3 (G3_sub__a3a3a3_al_result_a_al_result_b x) = K3.sub (den3 x) (den3 x) ∧
    den3 (G3_sub__a3a3E_al_result_a x s) = K3.sub (den3 x) (K3.ofBase (den s)) ∧
    den3 (G3_sub__a3Ea3_al_result_b x s) = K3.sub (K3.ofBase (den s)) (den3 x) ∧
    den3 (G3_sub__a3a3e_al_result_a x s) = K3.sub (den3 x) (K3.ofBase (den s)) ∧
    den3 (G3_neg_al_result_a x) = K3.neg (den3 x) :=
  ⟨sub_den x x y, sub_den x y x, sub_den x y y, sub_den x x x, sub_base_den x x s, sub_base_l_den x s x,
   sub_int_den x x s, neg_den x x⟩

/-- mul (six base products recombined with x^3 = x+1) and square, all operand forms -/
theorem C09_mul (result a b : Region) (s : BitVec 64) :
    den3 (G3_mul__a3a3a3 result a b) = K3.mul (den3 a) (den3 b) ∧
    den3 (G3_mul__ppp result a b) = K3.mul (den3 a) (den3 b) ∧
    den3 (G3_mul__a3a3e result a s) = K3.mul (den3 a) (K3.ofBase (den s)) ∧
    den3 (G3_mul__a3Ea3 result s b) = K3.mul (K3.ofBase (den s)) (den3 b) ∧
    den3 (G3_mul__a3a3E result a s) = K3.mul (den3 a) (K3.ofBase (den s)) ∧
    den3 (G3_square result a) = K3.mul (den3 a) (den3 a) :=
  ⟨mul_den _ _ _, mul_ptr_den _ _ _, mul_base_den _ _ _, mul_base_l_den _ _ _, mul_int_den _ _ _, square_den _ _⟩

theorem C09_mul_aliased (x y : Region) (s : BitVec 64) :
    den3 (G3_mul__a3a3a3_al_result_a x y) = K3.mul (den3 x) (den3 y) ∧
    den3 (G3_mul__a3a3a3_al_result_b x y) = K3.mul (den3 y) (den3 x) ∧
    den3 (G3_mul__a3a3a3_al_a_b x y) = K3.mul (den3 y) (den3 y) ∧
    den3 (G3_mul__a3a3a3_al_result_a_al_result_b x) = K3.mul (den3 x) (den3 x) ∧
    den3 (G3_mul__ppp_al_result_a x y) = K3.mul (den3 x) (den3 y) ∧
    den3 (G3_mul__ppp_al_result_b x y) = K3.mul (den3 y) (den3 x) ∧
    den3 (G3_mul__ppp_al_result_a_al_result_b x) = K3.mul (den3 x) (den3 x) ∧
    den3 (G3_mul__a3a3e_al_result_a x s) = K3.mul (den3 x) (K3.ofBase (den s)) ∧
    den3 (G3_mul__a3Ea3_al_result_b x s) = K3.mul (K3.ofBase (den s)) (den3 x) ∧
    den3 (G3_mul__a3a3E_al_result_a x s) = K3.mul (den3 x) (K3.ofBase (den s)) ∧
    den3 (G3_square_al_result_a x) = K3.mul (den3 x) (den3 x) :=
  ⟨mul_den x x y, mul_den x y x, mul_den x y y, mul_den x x x, mul_ptr_den x x y, mul_ptr_den x y x,
   mul_ptr_den x x x, mul_base_den x x s, mul_base_l_den x s x, mul_int_den x x s, square_den x x⟩

/-- zero / one / copy -/
theorem C09_constants (result src : Region) :
    den3 G3_zero__r = K3.zero ∧ den3 G3_one__r = K3.one ∧ den3 (G3_zero__a3 result) = K3.zero ∧
    den3 (G3_one__a3 result) = K3.one ∧ den3 (G3_copy__a3A3 result src) = den3 src :=
  ⟨den3_zero_r, den3_one_r, zero_a3_den _, one_a3_den _, (copy_den _ _).1⟩

/-- the is-one predicate holds exactly for the element (1,0,0), in every representation of the coefficients -/
theorem C09_isOne (r : Region) : G3_isOne r = true ↔ den3 r = K3.one := isOne_den r

/-- division by a base element: refused exactly on the zero class, otherwise result · b = a -/
theorem C09_div (a : E3) (b : BitVec 64) :
    (g3div a b = none ↔ den b = 0) ∧ (∀ r, g3div a b = some r → K3.mul (denE r) (K3.ofBase (den b)) = denE a) :=
  g3div_den a b

/-- multiplication by a decimal string: by the residue of the integer the numeral denotes (any sign, any size) -/
theorem C09_mulScalar (a : E3) (s : String) (x : Int) (h : parseInt 10 s = some x) :
    ∃ r, g3mulScalar a s = some r ∧ denE r = K3.mul (denE a) (K3.ofBase (x : F)) := g3mulScalar_den a s x h

/-- x³ − x − 1 has no root in F_p, so F_p[x]/(x³ − x − 1) is a field: the quantity t of `Goldilocks3::inv` (minus the norm)
    vanishes only at the zero element (Lemmas/ExtIrred.lean: x^p computed in the kernel, Fermat, an explicit Bézout identity) -/
theorem C09_irreducible : (∀ r : F, r ^ 3 ≠ r + 1) ∧ (∀ a : K3, K3.tval a = 0 ↔ a = K3.zero) :=
  ⟨cubic_no_root, K3.tval_eq_zero_iff⟩

/-- inversion of every non-zero element (any representation of the coefficients) returns, and result · a = 1 -/
theorem C09_inv (a : E3) (h : denE a ≠ K3.zero) : ∃ r, g3inv a = some r ∧ K3.mul (denE r) (denE a) = K3.one :=
  Option.total_of_none_iff (g3inv_none_iff a) (g3inv_den a).2 h

/-- inversion is refused exactly on the zero class (every representation of 0) -/
theorem C09_inv_refusal (a : E3) : g3inv a = none ↔ denE a = K3.zero := g3inv_none_iff a

/- A weaker form that does not depend on the irreducibility argument. -/
theorem C09_inv_partial (a : E3) :
    (g3inv a = none ↔ K3.tval (denE a) = 0) ∧
    (∀ r, g3inv a = some r → K3.mul (denE r) (denE a) = K3.one) ∧
    (K3.tval (denE a) ≠ 0 → ∃ r, g3inv a = some r ∧ K3.mul (denE r) (denE a) = K3.one) :=
  ⟨(g3inv_den a).1, (g3inv_den a).2, Option.total_of_none_iff (g3inv_den a).1 (g3inv_den a).2⟩

/-- batch inversion (prefix products, one inversion, backward sweep) equals element-wise inversion for every array
    length ≥ 1: it is refused exactly for the empty array or when some element is zero, and whenever it returns, the result
    has the length of the input and res[i] · src[i] = 1 for every i.  The model `Model.g3batchInverse` is tied to the code by
    the correspondence run (lengths 1..66, every output element compared). -/
theorem C09_batchInverse (src : List E3) :
    (g3batchInverse src = none ↔ src = [] ∨ ∃ x ∈ src, denE x = K3.zero) ∧
    (∀ res, g3batchInverse src = some res →
      res.length = src.length ∧
      ∀ (i : Nat) (h1 : i < res.length) (h2 : i < src.length), K3.mul (denE res[i]) (denE src[i]) = K3.one) ∧
    ((∀ x ∈ src, denE x ≠ K3.zero) → src ≠ [] →
      ∃ res, g3batchInverse src = some res ∧ res.length = src.length ∧
        ∀ (i : Nat) (h1 : i < res.length) (h2 : i < src.length), K3.mul (denE res[i]) (denE src[i]) = K3.one) := by
  have hsome : ∀ res, g3batchInverse src = some res →
      res.length = src.length ∧
      ∀ (i : Nat) (h1 : i < res.length) (h2 : i < src.length), K3.mul (denE res[i]) (denE src[i]) = K3.one := by
    intro res h
    have hf := g3batchInverse_forall2 src res h
    exact ⟨hf.length_eq, fun i h1 h2 => List.Forall₂.get hf h1 h2⟩
  exact ⟨g3batchInverse_none_iff src, hsome, fun hnz hne => Option.total_of_none_iff (g3batchInverse_none_iff src) hsome
    (fun h => h.elim hne (fun hx => hx.elim fun x hx' => hnz x hx'.1 hx'.2))⟩

/-- the inverse is unique, so `inv` and `batchInverse` agree element-wise as field elements -/
theorem C09_batchInverse_eq_inv (src res : List E3) (h : g3batchInverse src = some res) (i : Nat)
    (h1 : i < res.length) (h2 : i < src.length) (r : E3) (hr : g3inv src[i] = some r) : denE res[i] = denE r := by
  have hf := g3batchInverse_forall2 src res h
  exact K3.inv_unique _ _ _ (List.Forall₂.get hf h1 h2) ((g3inv_den _).2 r hr)

/-! ## The same statements about the TRANSLATED inversion and division

  `Gen.ExtInvGen.G3_inv___a3a3 / G3_inv___pp / G3_div` are regenerated from the C++ text of `Goldilocks3::inv` (both
  overloads) and `Goldilocks3::div` on every run; they call the translated `Goldilocks::inv` (`none` = exit(-1), Euclid loop
  bounded by `fuel`).  The statements hold for every fuel ≥ `invFuel` = 129.  An added special case in the C++ (a "fast
  path") changes the generated definition, and `G3_inv_gen_unfold` (Lemmas/BridgeExt.lean) fails. -/

/-- the translated inversion IS the hand model `g3inv` on the three coefficient words, written to result[0..2] -/
theorem C09_generated_inv_eq_model (fuel : Nat) (hf : invFuel ≤ fuel) (result a : Region) :
    Gen.ExtInvGen.G3_inv___a3a3 fuel result a = (g3inv (E3.ofRegion a)).map (put3 result) ∧
    Gen.ExtInvGen.G3_inv___pp fuel result a = (g3inv (E3.ofRegion a)).map (put3 result) :=
  ⟨G3_inv_gen_eq fuel hf result a, G3_inv_pp_gen_eq fuel hf result a⟩

/-- translated inv: every non-zero element (any representation of the coefficients) is inverted, result · a = 1, and only
    words 0,1,2 of the result region are written -/
theorem C09_generated_inv (fuel : Nat) (hf : invFuel ≤ fuel) (result a : Region) (h : den3 a ≠ K3.zero) :
    ∃ r, Gen.ExtInvGen.G3_inv___a3a3 fuel result a = some r ∧ Gen.ExtInvGen.G3_inv___pp fuel result a = some r ∧
      K3.mul (den3 r) (den3 a) = K3.one ∧ ∀ k, 3 ≤ k → r k = result k := by
  obtain ⟨r, hi, h1, h2⟩ := Option.total_of_none_iff (G3_inv_gen_spec fuel hf result a).1 (G3_inv_gen_spec fuel hf result a).2 h
  exact ⟨r, hi, by rw [G3_inv_pp_gen_eq fuel hf, ← G3_inv_gen_eq fuel hf, hi], h1, h2⟩

/-- translated inv: the process is ended exactly on the zero class -/
theorem C09_generated_inv_refusal (fuel : Nat) (hf : invFuel ≤ fuel) (result a : Region) :
    Gen.ExtInvGen.G3_inv___a3a3 fuel result a = none ↔ den3 a = K3.zero := (G3_inv_gen_spec fuel hf result a).1

/-- translated div by a base element: refused exactly on the zero class of the divisor, otherwise result · b = a -/
theorem C09_generated_div (fuel : Nat) (hf : invFuel ≤ fuel) (result a : Region) (b : BitVec 64) :
    (Gen.ExtInvGen.G3_div fuel result a b = none ↔ den b = 0) ∧
    (∀ r, Gen.ExtInvGen.G3_div fuel result a b = some r → K3.mul (den3 r) (K3.ofBase (den b)) = den3 a) :=
  G3_div_gen_spec fuel hf result a b

/-- translated `batchInverse(res, src, size)` (prefix products in a run-time sized stack array, one inversion, the descending
    loop as a fuel-bounded fold, memcpy of `size` rows), proved DIRECTLY on the generated function: for every array length
    1 ≤ size < 2^59, all regions, and every fuel ≥ 129 that exceeds size, the process is ended exactly when some src[i] is the
    zero element (any representation of its coefficients); otherwise res[i] · src[i] = 1 for every i < size and nothing
    beyond row size−1 of `res` is written.  Row i of a region = words 3i, 3i+1, 3i+2. -/
theorem C09_generated_batchInverse (fuel : Nat) (res src : Region) (size : BitVec 64)
    (h1 : 1 ≤ size.toNat) (hsz : size.toNat < 2 ^ 59) (hf : invFuel ≤ fuel) (hf2 : size.toNat < fuel) :
    (Gen.ExtInvGen.G3_batchInverse fuel res src size = none ↔
      ∃ i, i < size.toNat ∧ den3 (Region.shift src (3 * i)) = K3.zero) ∧
    (∀ r, Gen.ExtInvGen.G3_batchInverse fuel res src size = some r →
      (∀ i, i < size.toNat → K3.mul (den3 (Region.shift r (3 * i))) (den3 (Region.shift src (3 * i))) = K3.one) ∧
      ∀ k, 3 * size.toNat ≤ k → r k = res k) :=
  G3_batchInverse_gen_spec fuel res src size h1 hsz hf hf2

/-- hence the translated batch inversion agrees element-wise, as field elements, with the translated single inversion -/
theorem C09_generated_batchInverse_eq_inv (fuel : Nat) (res src r out a' : Region) (size : BitVec 64)
    (h1 : 1 ≤ size.toNat) (hsz : size.toNat < 2 ^ 59) (hf : invFuel ≤ fuel) (hf2 : size.toNat < fuel)
    (h : Gen.ExtInvGen.G3_batchInverse fuel res src size = some r) (i : Nat) (hi : i < size.toNat)
    (hinv : Gen.ExtInvGen.G3_inv___a3a3 fuel out (Region.shift src (3 * i)) = some a') :
    den3 (Region.shift r (3 * i)) = den3 a' :=
  K3.inv_unique _ _ _ (((G3_batchInverse_gen_spec fuel res src size h1 hsz hf hf2).2 r h).1 i hi)
    ((G3_inv_gen_spec fuel hf out _).2 a' hinv).1

/-- translated `mulScalar(result, a, decimal string)` (Gen/ExtScalarGen.lean: three calls of the translated `fromString` with
    the default radix 10): for every numeral denoting the integer x (any sign, any size) it returns a·x in K3, writes only
    words 0,1,2 of the result, and equals the hand model; a string GMP rejects ends the call (`none`) -/
theorem C09_generated_mulScalar (fuel : Nat) (result a : Region) (s : String) :
    Gen.ExtScalarGen.G3_mulScalar fuel result a s = (g3mulScalar (E3.ofRegion a) s).map (put3 result) ∧
    (∀ x : Int, parseInt 10 s = some x →
      ∃ r, Gen.ExtScalarGen.G3_mulScalar fuel result a s = some r ∧
        den3 r = K3.mul (den3 a) (K3.ofBase (x : F)) ∧ ∀ k, 3 ≤ k → r k = result k) := by
  refine ⟨G3_mulScalar_gen_eq fuel result a s, fun x hx => ?_⟩
  obtain ⟨e, he, hd⟩ := g3mulScalar_den (E3.ofRegion a) s x hx
  refine ⟨put3 result e, ?_, ?_, fun k hk => put3_frame result e k hk⟩
  · rw [G3_mulScalar_gen_eq, he]; rfl
  · rw [den3_put3, hd]; rfl

/-- non-vacuity: an element with non-canonical coefficients that is one -/
example : den3 (Region.ofList [18446744069414584322#64, 18446744069414584321#64, 0#64]) = K3.one := by
  rw [← C09_isOne]; decide

end GoldilocksVerif.C09
