/-
  C13 — AVX2 dot / sparse / dense 12-wide matrix kernels equal the product mod p.

  About `Gen.Avx2Mat.*` (regenerated from goldilocks_base_field_avx.hpp).  `den x` is the field element a
  64-bit representation denotes (any representation, canonical or not); `dot12 a0 a1 a2 M off` is
  Σ_{j<3,k<4} a_j[k]·M[off+4j+k], the inner product of the 12-element state held in (a0,a1,a2) with
  twelve consecutive coefficients.  Matrices are arbitrary memory regions.
-/
import GoldilocksVerif.Lemmas.Avx2MatF

namespace GoldilocksVerif.C13
open Gen.Avx2Mat GoldilocksVerif

/-- spmv_avx_4x12: c[i] = Σ_j a_j[i]·b[4j+i], every state, every coefficient array -/
theorem C13_spmv_avx_4x12 (a0 a1 a2 : V4) (b : Region) (i : Fin 4) :
    den ((spmv_avx_4x12 a0 a1 a2 b).get i) =
      den (a0.get i) * den (b i.val) + den (a1.get i) * den (b (4 + i.val)) + den (a2.get i) * den (b (8 + i.val)) :=
  spmv_den a0 a1 a2 b i

/-- aligned variants compute the same function (alignment itself is a C18 matter) -/
theorem C13_aligned_variants (a0 a1 a2 : V4) (b : Region) :
    spmv_avx_4x12_a a0 a1 a2 b = spmv_avx_4x12 a0 a1 a2 b ∧
    mmult_avx_4x12_a a0 a1 a2 b = mmult_avx_4x12 a0 a1 a2 b ∧
    mmult_avx_a a0 a1 a2 b = mmult_avx a0 a1 a2 b ∧
    dot_avx_a a0 a1 a2 b = dot_avx a0 a1 a2 b :=
  ⟨spmv_a_eq _ _ _ _, mmult_4x12_a_eq _ _ _ _, mmult_a_eq _ _ _ _, dot_a_eq _ _ _ _⟩

/-- dot_avx: the horizontal sum = inner product of the state with b[0..12) -/
theorem C13_dot_avx (a0 a1 a2 : V4) (b : Region) : den (dot_avx a0 a1 a2 b) = dot12 a0 a1 a2 b 0 :=
  dot_den a0 a1 a2 b

/-- mmult_avx_4x12: lane i = row i of the 4x12 block times the state -/
theorem C13_mmult_avx_4x12 (a0 a1 a2 : V4) (M : Region) (i : Fin 4) :
    den ((mmult_avx_4x12 a0 a1 a2 M).get i) = dot12 a0 a1 a2 M (12 * i.val) :=
  mmult_4x12_den a0 a1 a2 M i

/-- mmult_avx: the full 12x12 matrix-vector product (row-major M), result element 4r+i in lane i of register r -/
theorem C13_mmult_avx (a0 a1 a2 : V4) (M : Region) (i : Fin 4) :
    den ((mmult_avx a0 a1 a2 M).1.get i) = dot12 a0 a1 a2 M (12 * i.val) ∧
    den ((mmult_avx a0 a1 a2 M).2.1.get i) = dot12 a0 a1 a2 M (48 + 12 * i.val) ∧
    den ((mmult_avx a0 a1 a2 M).2.2.get i) = dot12 a0 a1 a2 M (96 + 12 * i.val) :=
  mmult_den a0 a1 a2 M i

/-- spmv_avx_4x12_8: every state, whenever the twelve coefficients are below 2^8 -/
theorem C13_spmv_avx_4x12_8 (a0 a1 a2 : V4) (b : Region) (i : Fin 4) (hb : ∀ k, k < 12 → (b k).toNat < 2^8) :
    den ((spmv_avx_4x12_8 a0 a1 a2 b).get i) =
      den (a0.get i) * den (b i.val) + den (a1.get i) * den (b (4 + i.val)) + den (a2.get i) * den (b (8 + i.val)) :=
  spmv_8_den a0 a1 a2 b hb i

theorem C13_mmult_avx_4x12_8 (a0 a1 a2 : V4) (M : Region) (i : Fin 4) (hb : ∀ k, k < 48 → (M k).toNat < 2^8) :
    den ((mmult_avx_4x12_8 a0 a1 a2 M).get i) = dot12 a0 a1 a2 M (12 * i.val) :=
  mmult_4x12_8_den a0 a1 a2 M i hb

/-- mmult_avx_8: full 12x12 product with 8-bit coefficients -/
theorem C13_mmult_avx_8 (a0 a1 a2 : V4) (M : Region) (i : Fin 4) (hb : ∀ k, k < 144 → (M k).toNat < 2^8) :
    den ((mmult_avx_8 a0 a1 a2 M).1.get i) = dot12 a0 a1 a2 M (12 * i.val) ∧
    den ((mmult_avx_8 a0 a1 a2 M).2.1.get i) = dot12 a0 a1 a2 M (48 + 12 * i.val) ∧
    den ((mmult_avx_8 a0 a1 a2 M).2.2.get i) = dot12 a0 a1 a2 M (96 + 12 * i.val) :=
  mmult_8_den a0 a1 a2 M i hb

/-- non-vacuity of the 8-bit hypothesis -/
example : ∃ M : Region, (∀ k, k < 144 → (M k).toNat < 2^8) ∧ (M 5).toNat = 255 :=
  ⟨⟨fun _ => 255#64⟩, fun _ _ => by show (255#64 : BitVec 64).toNat < 2^8; decide, by decide⟩

end GoldilocksVerif.C13
