/-
  C08 — Merkle tree buffer and root are the binary Poseidon tree over row digests.

  About `Model.merkleTree` (leaf digests followed level by level by the hashes of adjacent digest pairs) and
  `Model.batchLeaf`, the models of the six builders of poseidon_goldilocks.cpp, generic in the leaf and node hash and tied
  to the code by the correspondence run over the shape grid (every element of every tree buffer compared).
  Before the `fix:` commit the AVX512 builders were out of bounds for a single row (D5) and had a zero-length array for zero
  columns (D11); both found by the correspondence run.
-/
import GoldilocksVerif.Lemmas.MerkleL
import GoldilocksVerif.Lemmas.BridgeMerkle
import GoldilocksVerif.Lemmas.BridgePerm
import GoldilocksVerif.Lemmas.BridgeMerkleBatch
import GoldilocksVerif.Lemmas.BridgeMerkle512
import GoldilocksVerif.Gen.MerkleSizeGen

namespace GoldilocksVerif.C08
open GoldilocksVerif.Model

/-- for every power-of-two number of rows (including one): the buffer has exactly the size `getTreeNumElements` reports,
    which is 4·(2·rows − 1) -/
theorem C08_buffer_size (leaf node : List Wd → List Wd) (hl : ∀ x, (leaf x).length = 4) (hn : ∀ x, (node x).length = 4)
    (rows : List (List Wd)) (k : Nat) (hr : rows.length = 2 ^ k) :
    (merkleTree leaf node rows).length = treeNumElements rows.length ∧
    treeNumElements rows.length = 4 * (2 * rows.length - 1) := merkleTree_length leaf node hl hn rows k hr

/-- the buffer starts with the row digests in order -/
theorem C08_leaves_first (leaf node : List Wd → List Wd) (rows : List (List Wd)) :
    (merkleTree leaf node rows).take (rows.flatMap leaf).length = rows.flatMap leaf := by
  unfold merkleTree
  simp

/-- the root is the last four elements of the buffer and equals the recursive pairwise hash of the digests -/
theorem C08_root_is_last_four (leaf node : List Wd → List Wd) (hl : ∀ x, (leaf x).length = 4) (hn : ∀ x, (node x).length = 4)
    (rows : List (List Wd)) (k : Nat) (hr : rows.length = 2 ^ k) :
    (merkleTree leaf node rows).drop ((merkleTree leaf node rows).length - 4) = rootOf node k (rows.flatMap leaf) := by
  have hk : k ≤ rows.length := by rw [hr]; exact Nat.le_of_lt Nat.lt_two_pow_self
  have hleaves : (rows.flatMap leaf).length = 4 * 2 ^ k := by rw [leaves_length leaf hl rows, hr]
  unfold merkleTree
  rw [hr]
  exact upperLevels_last node hn k (2 ^ k) _ (by rw [← hr]; exact hk) hleaves

/-- every backend produces the same tree when its leaf and node hashes agree (C06/C07 give that agreement) -/
theorem C08_backends_agree (l1 l2 n1 n2 : List Wd → List Wd) (hl : ∀ x, l1 x = l2 x) (hn : ∀ x, n1 x = n2 x)
    (rows : List (List Wd)) : merkleTree l1 n1 rows = merkleTree l2 n2 rows := by
  have e1 : l1 = l2 := funext hl
  have e2 : n1 = n2 := funext hn
  rw [e1, e2]

/-- the batched builder's leaf: digest of the concatenated digests of consecutive column batches; with one batch covering
    all columns it is the digest of the digest of the row -/
theorem C08_batch_leaf_single_batch (lh : List Wd → List Wd) (cols dim batch : Nat) (row : List Wd)
    (hc : 0 < cols) (hb : cols ≤ batch) (hrow : row.length = cols * dim) :
    batchLeaf lh cols dim batch row = lh (lh row) := by
  unfold batchLeaf
  have hnb : (cols + batch - 1) / batch = 1 := by
    have h1 : batch ≤ cols + batch - 1 := by omega
    have h2 : cols + batch - 1 < 2 * batch := by omega
    have hbp : 0 < batch := by omega
    exact Nat.div_eq_of_lt_le (by omega) (by omega)
  simp only [hc, if_true, hnb]
  simp only [List.range_one, List.map_cons, List.map_nil, Nat.sub_self, Nat.zero_mul, Nat.sub_zero, if_true, List.drop_zero,
    List.flatten_cons, List.flatten_nil, List.append_nil]
  rw [← hrow, List.take_of_length_le (Nat.le_refl _)]

/-! ## The same statement about the TRANSLATED builders `merkletree_seq` and `merkletree_avx`

  `Gen.MerkleGen.Pos_merkletree_seq / Pos_merkletree_avx` are regenerated from poseidon_goldilocks.cpp on every run (the two
  `#pragma omp parallel for` loops sequentially, `while (pending > 1)` as a fuel-bounded fold, `floor((pending - 1) / 2) + 1`
  through doubles holding integers).  For rows = 2^k (k ≤ 48: the doubles stay exact and the word offsets do not wrap, with
  room to spare), rows·cols·dim < 2^64, every tree / input region, every `nThreads`, every fuel > rows and > cols·dim: the
  builder returns, the first 4·(2·rows − 1) words of the tree buffer are `Model.merkleTree` of the rows (row i = input words
  i·cols·dim … (i+1)·cols·dim − 1), nothing beyond them is written.
  Hence C08_buffer_size / C08_leaves_first / C08_root_is_last_four apply to what the translated code builds.
  Proofs: Lemmas/BridgeMerkle.lean (generic in the two hashes), Lemmas/BridgeSponge.lean, Lemmas/BridgePerm.lean. -/

/-- translated `merkletree_seq`, no hypothesis on the hashes: leaf = sponge with the translated scalar permutation,
    node = translated `hash_seq` of the eight words zero-padded to twelve -/
theorem C08_generated_merkletree_seq (fuel : Nat) (tree input : GoldilocksVerif.Region) (num_cols num_rows : BitVec 64)
    (nThreads : Int) (dim : BitVec 64) (k : Nat)
    (hR : num_rows.toNat = 2 ^ k) (hk : k ≤ 48) (hprod : 2 ^ k * (num_cols.toNat * dim.toNat) < 2 ^ 64)
    (hf1 : num_cols.toNat * dim.toNat < fuel) (hf2 : 2 ^ k < fuel) :
    ∃ t, Gen.MerkleGen.Pos_merkletree_seq fuel tree input num_cols num_rows nThreads dim = some t ∧
      GoldilocksVerif.Region.toList t (4 * (2 * 2 ^ k - 1)) =
        merkleTree (linearHash GoldilocksVerif.permSeqList) (fun x => GoldilocksVerif.nodeSeqList (x ++ zeros 4))
          (GoldilocksVerif.rowsOf input (num_cols.toNat * dim.toNat) (2 ^ k)) ∧
      ∀ i, 4 * (2 * 2 ^ k - 1) ≤ i → t i = tree i := by
  rw [GoldilocksVerif.mt_seq_generic]
  exact GoldilocksVerif.mtGenG_spec _ _ GoldilocksVerif.leafHash_seq _ GoldilocksVerif.nodeSeqList
    GoldilocksVerif.hash_seq_node fuel tree input num_cols num_rows nThreads dim k hR hk hprod hf1 hf2

/-- translated `merkletree_avx`: the same statement for every list function `perm` describing the translated AVX2
    permutation on its first twelve words (`hP`) and every `nodeF` describing the translated `hash` (`hH`) -/
theorem C08_generated_merkletree_avx (perm nodeF : List Wd → List Wd)
    (hP : ∀ s, GoldilocksVerif.Region.toList (Gen.LinearHashGen.Pos_hash_full_result_al_state_input s) 12 =
      perm (GoldilocksVerif.Region.toList s 12))
    (hH : GoldilocksVerif.NodeHash Gen.PosAvx2.Pos_hash nodeF)
    (fuel : Nat) (tree input : GoldilocksVerif.Region) (num_cols num_rows : BitVec 64)
    (nThreads : Int) (dim : BitVec 64) (k : Nat)
    (hR : num_rows.toNat = 2 ^ k) (hk : k ≤ 48) (hprod : 2 ^ k * (num_cols.toNat * dim.toNat) < 2 ^ 64)
    (hf1 : num_cols.toNat * dim.toNat < fuel) (hf2 : 2 ^ k < fuel) :
    ∃ t, Gen.MerkleGen.Pos_merkletree_avx fuel tree input num_cols num_rows nThreads dim = some t ∧
      GoldilocksVerif.Region.toList t (4 * (2 * 2 ^ k - 1)) =
        merkleTree (linearHash perm) (fun x => nodeF (x ++ zeros 4))
          (GoldilocksVerif.rowsOf input (num_cols.toNat * dim.toNat) (2 ^ k)) ∧
      ∀ i, 4 * (2 * 2 ^ k - 1) ≤ i → t i = tree i := by
  rw [GoldilocksVerif.mt_avx_generic]
  exact GoldilocksVerif.mtGenG_spec _ _ (GoldilocksVerif.leafHash_avx perm hP) _ nodeF hH fuel tree input num_cols
    num_rows nThreads dim k hR hk hprod hf1 hf2

/-- translated `merkletree_avx`, WITHOUT hypotheses on the hashes: leaf = sponge over the translated AVX2 permutation
    (`permAvxList`), node = translated AVX2 `hash` of the eight words zero-padded to twelve (`nodeAvxList`) -/
theorem C08_generated_merkletree_avx_is_tree (fuel : Nat) (tree input : GoldilocksVerif.Region) (num_cols num_rows : BitVec 64)
    (nThreads : Int) (dim : BitVec 64) (k : Nat)
    (hR : num_rows.toNat = 2 ^ k) (hk : k ≤ 48) (hprod : 2 ^ k * (num_cols.toNat * dim.toNat) < 2 ^ 64)
    (hf1 : num_cols.toNat * dim.toNat < fuel) (hf2 : 2 ^ k < fuel) :
    ∃ t, Gen.MerkleGen.Pos_merkletree_avx fuel tree input num_cols num_rows nThreads dim = some t ∧
      GoldilocksVerif.Region.toList t (4 * (2 * 2 ^ k - 1)) =
        merkleTree (linearHash GoldilocksVerif.permAvxList) (fun x => GoldilocksVerif.nodeAvxList (x ++ zeros 4))
          (GoldilocksVerif.rowsOf input (num_cols.toNat * dim.toNat) (2 ^ k)) ∧
      ∀ i, 4 * (2 * 2 ^ k - 1) ≤ i → t i = tree i :=
  C08_generated_merkletree_avx GoldilocksVerif.permAvxList GoldilocksVerif.nodeAvxList GoldilocksVerif.perm_avx_hP
    GoldilocksVerif.hash_avx_node fuel tree input num_cols num_rows nThreads dim k hR hk hprod hf1 hf2

/-- so the root the translated scalar builder leaves in the last four words of the buffer is the recursive pairwise hash of the
    row digests (C08_root_is_last_four on what the translated code builds) -/
theorem C08_generated_merkletree_seq_root (fuel : Nat) (tree input t : GoldilocksVerif.Region) (num_cols num_rows : BitVec 64)
    (nThreads : Int) (dim : BitVec 64) (k : Nat)
    (hR : num_rows.toNat = 2 ^ k) (hk : k ≤ 48) (hprod : 2 ^ k * (num_cols.toNat * dim.toNat) < 2 ^ 64)
    (hf1 : num_cols.toNat * dim.toNat < fuel) (hf2 : 2 ^ k < fuel)
    (ht : Gen.MerkleGen.Pos_merkletree_seq fuel tree input num_cols num_rows nThreads dim = some t) :
    (GoldilocksVerif.Region.toList t (4 * (2 * 2 ^ k - 1))).drop (4 * (2 * 2 ^ k - 1) - 4) =
      rootOf (fun x => GoldilocksVerif.nodeSeqList (x ++ zeros 4)) k
        ((GoldilocksVerif.rowsOf input (num_cols.toNat * dim.toNat) (2 ^ k)).flatMap (linearHash GoldilocksVerif.permSeqList)) := by
  obtain ⟨t', ht', hM, _⟩ := C08_generated_merkletree_seq fuel tree input num_cols num_rows nThreads dim k hR hk hprod hf1 hf2
  rw [ht] at ht'
  cases ht'
  have hlen : (GoldilocksVerif.rowsOf input (num_cols.toNat * dim.toNat) (2 ^ k)).length = 2 ^ k := by
    simp [GoldilocksVerif.rowsOf]
  have hroot := C08_root_is_last_four (linearHash GoldilocksVerif.permSeqList)
    (fun x => GoldilocksVerif.nodeSeqList (x ++ zeros 4))
    (linearHash_length _ (fun s => by rw [GoldilocksVerif.permSeqList_length]; omega))
    (fun x => GoldilocksVerif.nodeSeqList_length _) _ k hlen
  rw [← hM] at hroot
  rw [GoldilocksVerif.Region.length_toList] at hroot
  exact hroot

/-- non-vacuity: four rows give a 28-element buffer -/
example : (merkleTree (fun r => r.take 4) (fun x => x.take 4) [[1,2,3,4],[5,6,7,8],[9,10,11,12],[13,14,15,16]]).length = 28 := by
  decide

/-! ## The TRANSLATED batched builders `merkletree_batch_seq` and `merkletree_batch_avx`

  For rows = 2^k (k ≤ 48), rows·cols·dim < 2^64, batch_size ≥ 1, cols + batch_size < 2^62 (so `num_cols + batch_size - 1` and
  `nbatches * CAPACITY` do not wrap), every tree / input region, every `nThreads`, every fuel > rows, > cols·dim and
  > 4·(cols + 1) (the linear hash of `buff0`, nbatches ≤ max cols 1): the builder returns, the first 4·(2·rows − 1) words of
  the tree buffer are `Model.merkleTree (Model.batchLeaf lh cols dim batch)` of the rows, nothing beyond them is written.
  num_cols = 0 is covered (nbatches = 1, nlastb = 0: the leaf is lh (lh [])).
  Proofs: Lemmas/BridgeMerkleBatch.lean (generic in the two hashes). -/

/-- translated `merkletree_batch_seq`, no hypothesis on the hashes -/
theorem C08_generated_merkletree_batch_seq (fuel : Nat) (tree input : GoldilocksVerif.Region)
    (num_cols num_rows batch_size : BitVec 64) (nThreads : Int) (dim : BitVec 64) (k : Nat)
    (hR : num_rows.toNat = 2 ^ k) (hk : k ≤ 48) (hprod : 2 ^ k * (num_cols.toNat * dim.toNat) < 2 ^ 64)
    (hb : 1 ≤ batch_size.toNat) (hcb : num_cols.toNat + batch_size.toNat < 2 ^ 62)
    (hf1 : num_cols.toNat * dim.toNat < fuel) (hf2 : 2 ^ k < fuel) (hf3 : 4 * (num_cols.toNat + 1) < fuel) :
    ∃ t, Gen.MerkleGen.Pos_merkletree_batch_seq fuel tree input num_cols num_rows batch_size nThreads dim = some t ∧
      GoldilocksVerif.Region.toList t (4 * (2 * 2 ^ k - 1)) =
        merkleTree (batchLeaf (linearHash GoldilocksVerif.permSeqList) num_cols.toNat dim.toNat batch_size.toNat)
          (fun x => GoldilocksVerif.nodeSeqList (x ++ zeros 4))
          (GoldilocksVerif.rowsOf input (num_cols.toNat * dim.toNat) (2 ^ k)) ∧
      ∀ i, 4 * (2 * 2 ^ k - 1) ≤ i → t i = tree i := by
  rw [GoldilocksVerif.mtb_seq_generic]
  exact GoldilocksVerif.mtbGenG_spec _ _ GoldilocksVerif.leafHash_seq _ GoldilocksVerif.nodeSeqList
    GoldilocksVerif.hash_seq_node fuel tree input num_cols num_rows batch_size dim k hR hk hprod hb hcb hf1 hf2 hf3

/-- translated `merkletree_batch_avx`, no hypothesis on the hashes: leaf = batched sponge over the translated AVX2 permutation,
    node = translated AVX2 `hash` -/
theorem C08_generated_merkletree_batch_avx (fuel : Nat) (tree input : GoldilocksVerif.Region)
    (num_cols num_rows batch_size : BitVec 64) (nThreads : Int) (dim : BitVec 64) (k : Nat)
    (hR : num_rows.toNat = 2 ^ k) (hk : k ≤ 48) (hprod : 2 ^ k * (num_cols.toNat * dim.toNat) < 2 ^ 64)
    (hb : 1 ≤ batch_size.toNat) (hcb : num_cols.toNat + batch_size.toNat < 2 ^ 62)
    (hf1 : num_cols.toNat * dim.toNat < fuel) (hf2 : 2 ^ k < fuel) (hf3 : 4 * (num_cols.toNat + 1) < fuel) :
    ∃ t, Gen.MerkleGen.Pos_merkletree_batch_avx fuel tree input num_cols num_rows batch_size nThreads dim = some t ∧
      GoldilocksVerif.Region.toList t (4 * (2 * 2 ^ k - 1)) =
        merkleTree (batchLeaf (linearHash GoldilocksVerif.permAvxList) num_cols.toNat dim.toNat batch_size.toNat)
          (fun x => GoldilocksVerif.nodeAvxList (x ++ zeros 4))
          (GoldilocksVerif.rowsOf input (num_cols.toNat * dim.toNat) (2 ^ k)) ∧
      ∀ i, 4 * (2 * 2 ^ k - 1) ≤ i → t i = tree i := by
  rw [GoldilocksVerif.mtb_avx_generic]
  exact GoldilocksVerif.mtbGenG_spec _ _ (GoldilocksVerif.leafHash_avx _ GoldilocksVerif.perm_avx_hP) _
    GoldilocksVerif.nodeAvxList GoldilocksVerif.hash_avx_node fuel tree input num_cols num_rows batch_size dim k hR hk hprod
    hb hcb hf1 hf2 hf3

/-! ## The TRANSLATED AVX512 builder `merkletree_avx512` and the default wrapper `merkletree`

  The leaf loop hashes two rows per iteration through the translated `linear_hash_avx512` (8 words = two digests written at
  tree + 4·i); for rows = 2^k the odd-last-row branch (one-state `linear_hash`) is taken exactly when rows = 1.  The level loop
  calls the AVX2 `hash`.  Unconditionally (`C08_generated_merkletree_avx512`): the leaf level is `leaves512` = the pair digests
  `linearHash512 perm512List (row_2m ++ row_2m+1)` in order (first half = digest slot of row 2m, second half = slot of row
  2m+1), followed by the pairwise levels (`treeOfLeaves` = `Model.merkleTree` with the leaf level given).  That the two halves
  are the one-row sponges needs C06's interleaving statement about the two-state permutation BIT FOR BIT (C06 has it at field
  level only): with it as hypothesis (`C08_generated_merkletree_avx512_is_tree`) the buffer is
  `Model.merkleTree (linearHash permAvxList) node rows`, the tree `C08_generated_merkletree_avx_is_tree` gives for the AVX2 builder.
  Proofs: Lemmas/BridgeMerkle512.lean. -/

/-- translated `merkletree_avx512`, no hypothesis on the hashes -/
theorem C08_generated_merkletree_avx512 (fuel : Nat) (tree input : GoldilocksVerif.Region) (num_cols num_rows : BitVec 64)
    (nThreads : Int) (dim : BitVec 64) (k : Nat)
    (hR : num_rows.toNat = 2 ^ k) (hk : k ≤ 48) (hprod : 2 ^ k * (num_cols.toNat * dim.toNat) < 2 ^ 64)
    (hf1 : num_cols.toNat * dim.toNat < fuel) (hf2 : 2 ^ k < fuel) :
    ∃ t, Gen.MerkleGen.Pos_merkletree_avx512 fuel tree input num_cols num_rows nThreads dim = some t ∧
      GoldilocksVerif.Region.toList t (4 * (2 * 2 ^ k - 1)) =
        GoldilocksVerif.treeOfLeaves (fun x => GoldilocksVerif.nodeAvxList (x ++ zeros 4)) (2 ^ k)
          (GoldilocksVerif.leaves512 (linearHash GoldilocksVerif.permAvxList) (linearHash512 GoldilocksVerif.perm512List)
            input (num_cols.toNat * dim.toNat) k) ∧
      ∀ i, 4 * (2 * 2 ^ k - 1) ≤ i → t i = tree i := by
  rw [GoldilocksVerif.mt512_generic]
  exact GoldilocksVerif.mt512GenG_spec _ _ _ _ (GoldilocksVerif.leafHash_avx _ GoldilocksVerif.perm_avx_hP)
    GoldilocksVerif.pairHash_avx512 _ GoldilocksVerif.nodeAvxList GoldilocksVerif.hash_avx_node
    fuel tree input num_cols num_rows dim k hR hk hprod hf1 hf2

/-- two equally long inputs through `linearHash512 perm512List` = the two `linearHash permAvxList` digests, under the
    interleaving hypothesis (C07_avx512) -/
theorem C08_pair_digests
    (h : ∀ a b, a.length = 12 → b.length = 12 →
      GoldilocksVerif.perm512List (interleave a b) = interleave (GoldilocksVerif.permAvxList a) (GoldilocksVerif.permAvxList b))
    (a b : List Wd) (hl : a.length = b.length) :
    linearHash512 GoldilocksVerif.perm512List (a ++ b) a.length =
      linearHash GoldilocksVerif.permAvxList a ++ linearHash GoldilocksVerif.permAvxList b :=
  linearHash512_eq GoldilocksVerif.permAvxList GoldilocksVerif.perm512List h
    (fun s _ => GoldilocksVerif.permAvxList_length s) a b hl

/-- translated `merkletree_avx512` builds the SAME tree as the translated AVX2 builder, the one remaining hypothesis being the
    interleaving statement about the translated two-state permutation (bit for bit) -/
theorem C08_generated_merkletree_avx512_is_tree
    (h : ∀ a b, a.length = 12 → b.length = 12 →
      GoldilocksVerif.perm512List (interleave a b) = interleave (GoldilocksVerif.permAvxList a) (GoldilocksVerif.permAvxList b))
    (fuel : Nat) (tree input : GoldilocksVerif.Region) (num_cols num_rows : BitVec 64)
    (nThreads : Int) (dim : BitVec 64) (k : Nat)
    (hR : num_rows.toNat = 2 ^ k) (hk : k ≤ 48) (hprod : 2 ^ k * (num_cols.toNat * dim.toNat) < 2 ^ 64)
    (hf1 : num_cols.toNat * dim.toNat < fuel) (hf2 : 2 ^ k < fuel) :
    ∃ t, Gen.MerkleGen.Pos_merkletree_avx512 fuel tree input num_cols num_rows nThreads dim = some t ∧
      GoldilocksVerif.Region.toList t (4 * (2 * 2 ^ k - 1)) =
        merkleTree (linearHash GoldilocksVerif.permAvxList) (fun x => GoldilocksVerif.nodeAvxList (x ++ zeros 4))
          (GoldilocksVerif.rowsOf input (num_cols.toNat * dim.toNat) (2 ^ k)) ∧
      ∀ i, 4 * (2 * 2 ^ k - 1) ≤ i → t i = tree i := by
  obtain ⟨t, h1, h2, h3⟩ := C08_generated_merkletree_avx512 fuel tree input num_cols num_rows nThreads dim k hR hk hprod hf1 hf2
  refine ⟨t, h1, ?_, h3⟩
  rw [h2, GoldilocksVerif.merkleTree_eq_treeOfLeaves, GoldilocksVerif.leaves512_rows _ _ (C08_pair_digests h)]

/-- the default wrapper `merkletree` (this build: it calls `merkletree_avx512`): the same two statements -/
theorem C08_generated_merkletree_default (fuel : Nat) (tree input : GoldilocksVerif.Region) (num_cols num_rows : BitVec 64)
    (nThreads : Int) (dim : BitVec 64) (k : Nat)
    (hR : num_rows.toNat = 2 ^ k) (hk : k ≤ 48) (hprod : 2 ^ k * (num_cols.toNat * dim.toNat) < 2 ^ 64)
    (hf1 : num_cols.toNat * dim.toNat < fuel) (hf2 : 2 ^ k < fuel) :
    ∃ t, Gen.MerkleGen.Pos_merkletree fuel tree input num_cols num_rows nThreads dim = some t ∧
      GoldilocksVerif.Region.toList t (4 * (2 * 2 ^ k - 1)) =
        GoldilocksVerif.treeOfLeaves (fun x => GoldilocksVerif.nodeAvxList (x ++ zeros 4)) (2 ^ k)
          (GoldilocksVerif.leaves512 (linearHash GoldilocksVerif.permAvxList) (linearHash512 GoldilocksVerif.perm512List)
            input (num_cols.toNat * dim.toNat) k) ∧
      (∀ i, 4 * (2 * 2 ^ k - 1) ≤ i → t i = tree i) ∧
      ((∀ a b, a.length = 12 → b.length = 12 → GoldilocksVerif.perm512List (interleave a b) =
          interleave (GoldilocksVerif.permAvxList a) (GoldilocksVerif.permAvxList b)) →
        GoldilocksVerif.Region.toList t (4 * (2 * 2 ^ k - 1)) =
          merkleTree (linearHash GoldilocksVerif.permAvxList) (fun x => GoldilocksVerif.nodeAvxList (x ++ zeros 4))
            (GoldilocksVerif.rowsOf input (num_cols.toNat * dim.toNat) (2 ^ k))) := by
  rw [GoldilocksVerif.mt_default_generic]
  obtain ⟨t, h1, h2, h3⟩ := C08_generated_merkletree_avx512 fuel tree input num_cols num_rows nThreads dim k hR hk hprod hf1 hf2
  refine ⟨t, h1, h2, h3, fun h => ?_⟩
  rw [h2, GoldilocksVerif.merkleTree_eq_treeOfLeaves, GoldilocksVerif.leaves512_rows _ _ (C08_pair_digests h)]

/-! ## The TRANSLATED `merkletree_batch_avx512` and the default wrapper `merkletree_batch`

  Two rows per iteration: per column batch one `linear_hash_avx512` of the two row slices copied back to back into `buff1`
  (`memcpy` of dim·nn·8 bytes: cols·dim < 2^61 so the byte count does not wrap), first digest halves to buff0[0 .. 4·nbatches),
  second halves to buff0[4·nbatches .. 8·nbatches), then one `linear_hash_avx512` of the two halves of buff0
  (`GoldilocksVerif.batchLeaf512`); rows = 1 goes through the one-state branch (= the AVX2 batched leaf).  cols + batch_size < 2^61
  (buff0 has 8·nbatches words).  As for `merkletree_avx512`: unconditional statement with the pair digests
  (`leavesB512`), and `Model.merkleTree (Model.batchLeaf (linearHash permAvxList) ..)` under the bit-for-bit interleaving
  hypothesis.  Proofs: Lemmas/BridgeMerkle512.lean. -/

/-- translated `merkletree_batch_avx512`, no hypothesis on the hashes -/
theorem C08_generated_merkletree_batch_avx512 (fuel : Nat) (tree input : GoldilocksVerif.Region)
    (num_cols num_rows batch_size : BitVec 64) (nThreads : Int) (dim : BitVec 64) (k : Nat)
    (hR : num_rows.toNat = 2 ^ k) (hk : k ≤ 48) (hprod : 2 ^ k * (num_cols.toNat * dim.toNat) < 2 ^ 64)
    (h61 : num_cols.toNat * dim.toNat < 2 ^ 61)
    (hb : 1 ≤ batch_size.toNat) (hcb : num_cols.toNat + batch_size.toNat < 2 ^ 61)
    (hf1 : num_cols.toNat * dim.toNat < fuel) (hf2 : 2 ^ k < fuel) (hf3 : 4 * (num_cols.toNat + 1) < fuel) :
    ∃ t, Gen.MerkleGen.Pos_merkletree_batch_avx512 fuel tree input num_cols num_rows batch_size nThreads dim = some t ∧
      GoldilocksVerif.Region.toList t (4 * (2 * 2 ^ k - 1)) =
        GoldilocksVerif.treeOfLeaves (fun x => GoldilocksVerif.nodeAvxList (x ++ zeros 4)) (2 ^ k)
          (GoldilocksVerif.leavesB512 (linearHash GoldilocksVerif.permAvxList) (linearHash512 GoldilocksVerif.perm512List)
            input num_cols.toNat dim.toNat batch_size.toNat k) ∧
      ∀ i, 4 * (2 * 2 ^ k - 1) ≤ i → t i = tree i := by
  rw [GoldilocksVerif.mtb512_generic fuel tree input num_cols num_rows batch_size nThreads dim hb hcb]
  exact GoldilocksVerif.mtb512GenG_spec _ _ _ _ (GoldilocksVerif.leafHash_avx _ GoldilocksVerif.perm_avx_hP)
    GoldilocksVerif.pairHash_avx512 _ GoldilocksVerif.nodeAvxList GoldilocksVerif.hash_avx_node
    fuel tree input num_cols num_rows batch_size dim k hR hk hprod h61 hb hcb hf1 hf2 hf3

/-- translated `merkletree_batch_avx512` builds the SAME tree as the translated AVX2 batched builder, under the interleaving
    hypothesis about the translated two-state permutation (bit for bit) -/
theorem C08_generated_merkletree_batch_avx512_is_tree
    (h : ∀ a b, a.length = 12 → b.length = 12 →
      GoldilocksVerif.perm512List (interleave a b) = interleave (GoldilocksVerif.permAvxList a) (GoldilocksVerif.permAvxList b))
    (fuel : Nat) (tree input : GoldilocksVerif.Region)
    (num_cols num_rows batch_size : BitVec 64) (nThreads : Int) (dim : BitVec 64) (k : Nat)
    (hR : num_rows.toNat = 2 ^ k) (hk : k ≤ 48) (hprod : 2 ^ k * (num_cols.toNat * dim.toNat) < 2 ^ 64)
    (h61 : num_cols.toNat * dim.toNat < 2 ^ 61)
    (hb : 1 ≤ batch_size.toNat) (hcb : num_cols.toNat + batch_size.toNat < 2 ^ 61)
    (hf1 : num_cols.toNat * dim.toNat < fuel) (hf2 : 2 ^ k < fuel) (hf3 : 4 * (num_cols.toNat + 1) < fuel) :
    ∃ t, Gen.MerkleGen.Pos_merkletree_batch_avx512 fuel tree input num_cols num_rows batch_size nThreads dim = some t ∧
      GoldilocksVerif.Region.toList t (4 * (2 * 2 ^ k - 1)) =
        merkleTree (batchLeaf (linearHash GoldilocksVerif.permAvxList) num_cols.toNat dim.toNat batch_size.toNat)
          (fun x => GoldilocksVerif.nodeAvxList (x ++ zeros 4))
          (GoldilocksVerif.rowsOf input (num_cols.toNat * dim.toNat) (2 ^ k)) ∧
      ∀ i, 4 * (2 * 2 ^ k - 1) ≤ i → t i = tree i := by
  obtain ⟨t, h1, h2, h3⟩ := C08_generated_merkletree_batch_avx512 fuel tree input num_cols num_rows batch_size nThreads dim k
    hR hk hprod h61 hb hcb hf1 hf2 hf3
  refine ⟨t, h1, ?_, h3⟩
  rw [h2, GoldilocksVerif.merkleTree_eq_treeOfLeaves,
    GoldilocksVerif.leavesB512_rows _ _ (C08_pair_digests h)
      (linearHash_length _ (fun s => by rw [GoldilocksVerif.permAvxList_length]; omega)) _ _ _ _ _ hb]

/-- the default wrapper `merkletree_batch` (this build: it calls `merkletree_batch_avx512`): the same two statements -/
theorem C08_generated_merkletree_batch_default (fuel : Nat) (tree input : GoldilocksVerif.Region)
    (num_cols num_rows batch_size : BitVec 64) (nThreads : Int) (dim : BitVec 64) (k : Nat)
    (hR : num_rows.toNat = 2 ^ k) (hk : k ≤ 48) (hprod : 2 ^ k * (num_cols.toNat * dim.toNat) < 2 ^ 64)
    (h61 : num_cols.toNat * dim.toNat < 2 ^ 61)
    (hb : 1 ≤ batch_size.toNat) (hcb : num_cols.toNat + batch_size.toNat < 2 ^ 61)
    (hf1 : num_cols.toNat * dim.toNat < fuel) (hf2 : 2 ^ k < fuel) (hf3 : 4 * (num_cols.toNat + 1) < fuel) :
    ∃ t, Gen.MerkleGen.Pos_merkletree_batch fuel tree input num_cols num_rows batch_size nThreads dim = some t ∧
      GoldilocksVerif.Region.toList t (4 * (2 * 2 ^ k - 1)) =
        GoldilocksVerif.treeOfLeaves (fun x => GoldilocksVerif.nodeAvxList (x ++ zeros 4)) (2 ^ k)
          (GoldilocksVerif.leavesB512 (linearHash GoldilocksVerif.permAvxList) (linearHash512 GoldilocksVerif.perm512List)
            input num_cols.toNat dim.toNat batch_size.toNat k) ∧
      (∀ i, 4 * (2 * 2 ^ k - 1) ≤ i → t i = tree i) ∧
      ((∀ a b, a.length = 12 → b.length = 12 → GoldilocksVerif.perm512List (interleave a b) =
          interleave (GoldilocksVerif.permAvxList a) (GoldilocksVerif.permAvxList b)) →
        GoldilocksVerif.Region.toList t (4 * (2 * 2 ^ k - 1)) =
          merkleTree (batchLeaf (linearHash GoldilocksVerif.permAvxList) num_cols.toNat dim.toNat batch_size.toNat)
            (fun x => GoldilocksVerif.nodeAvxList (x ++ zeros 4))
            (GoldilocksVerif.rowsOf input (num_cols.toNat * dim.toNat) (2 ^ k))) := by
  rw [GoldilocksVerif.mtb_default_generic]
  obtain ⟨t, h1, h2, h3⟩ := C08_generated_merkletree_batch_avx512 fuel tree input num_cols num_rows batch_size nThreads dim k
    hR hk hprod h61 hb hcb hf1 hf2 hf3
  refine ⟨t, h1, h2, h3, fun h => ?_⟩
  rw [h2, GoldilocksVerif.merkleTree_eq_treeOfLeaves,
    GoldilocksVerif.leavesB512_rows _ _ (C08_pair_digests h)
      (linearHash_length _ (fun s => by rw [GoldilocksVerif.permAvxList_length]; omega)) _ _ _ _ _ hb]

/-- non-vacuity of the pair leaf level: with `leaf2` = "hash both halves separately" the AVX512 leaf level of four rows is
    the level of the four row digests -/
example : GoldilocksVerif.leaves512 (fun r => r.take 4) (fun l n => (l.take n).take 4 ++ (l.drop n).take 4)
    (GoldilocksVerif.Region.ofList [1,2,3,4,5,6,7,8,9,10,11,12,13,14,15,16,17,18,19,20]) 5 2 =
    [1,2,3,4, 6,7,8,9, 11,12,13,14, 16,17,18,19] := by decide

/-- the TRANSLATED `MerklehashGoldilocks::getTreeNumElements` (Gen/MerkleSizeGen.lean, regenerated from
    merklehash_goldilocks.hpp on every run) is the hand model `treeNumElements` for every degree ≥ 1: as a 64-bit word without
    any bound, and as a number (no wrap-around, = 4·(2·degree − 1), the buffer size of `C08_buffer_size`) below 2^61.
    degree = 0 is outside the property (a tree has at least one row): the C++ expression wraps to 2^64 − 4 there, the hand
    model over the naturals says 0.  Proved over `Nat` (`omega`), whatever way the expression is factored. -/
theorem C08_generated_getTreeNumElements (degree : BitVec 64) (h : 1 ≤ degree.toNat) :
    Gen.MerkleSizeGen.MerklehashGoldilocks_getTreeNumElements degree = BitVec.ofNat 64 (treeNumElements degree.toNat) ∧
    (degree.toNat < 2 ^ 61 →
      (Gen.MerkleSizeGen.MerklehashGoldilocks_getTreeNumElements degree).toNat = treeNumElements degree.toNat ∧
      treeNumElements degree.toNat = 4 * (2 * degree.toNat - 1)) := by
  have e : (Gen.MerkleSizeGen.MerklehashGoldilocks_getTreeNumElements degree).toNat =
      treeNumElements degree.toNat % 2 ^ 64 := by
    unfold Gen.MerkleSizeGen.MerklehashGoldilocks_getTreeNumElements treeNumElements
    bv_omega
  refine ⟨BitVec.eq_of_toNat_eq (by rw [e, BitVec.toNat_ofNat]), fun hlt => ?_⟩
  have h2 : treeNumElements degree.toNat = 4 * (2 * degree.toNat - 1) := by unfold treeNumElements; omega
  refine ⟨?_, h2⟩
  rw [e, h2]
  omega

end GoldilocksVerif.C08
