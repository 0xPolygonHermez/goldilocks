-- GENERATED by tools/extspec.py from the C++ SIGNATURES (routine name, parameter types and names) of the current source.
-- Do not edit.  One theorem per batched / AVX2 / AVX512 cubic-extension overload: for element k the written
-- coefficients denote (in ZMod p) the K3 sum / difference / product of the k-th designated operands.
import GoldilocksVerif.Lemmas.ExtWrapL
namespace GoldilocksVerif.C16Gen
open GoldilocksVerif

/-- `add13_batch(Goldilocks::Element * result, const Goldilocks::Element * a, const Goldilocks::Element * b)` -/
theorem G3_add13_batch__pPP_spec (result : Region) (a : Region) (b : Region) :
    Scatter3 4 (posD 3) (fun k => K3.add ((base1 a (posD 1)) k) ((ext3 b (posD 3)) k)) result (Gen.ExtWrap.G3_add13_batch__pPP result a b) := by
  ext_body Gen.ExtWrap.G3_add13_batch__pPP
  ext_elems4

/-- `add13_batch(Goldilocks::Element * result, const Goldilocks::Element * a, const Goldilocks::Element * b, uint64_t offset_a, uint64_t offset_b)` -/
theorem G3_add13_batch__pPPEE_spec (result : Region) (a : Region) (b : Region) (offset_a : BitVec 64) (offset_b : BitVec 64) :
    Scatter3 4 (posD 3) (fun k => K3.add ((base1 a (posS offset_a)) k) ((ext3 b (posS offset_b)) k)) result (Gen.ExtWrap.G3_add13_batch__pPPEE result a b offset_a offset_b) := by
  ext_body Gen.ExtWrap.G3_add13_batch__pPPEE
  ext_elems4

/-- `add13c_batch(Goldilocks::Element * result, const Goldilocks::Element * a, const Goldilocks::Element * b)` -/
theorem G3_add13c_batch__pPP_spec (result : Region) (a : Region) (b : Region) :
    Scatter3 4 (posD 3) (fun k => K3.add ((base1 a (posD 1)) k) ((ext3 b posC) k)) result (Gen.ExtWrap.G3_add13c_batch__pPP result a b) := by
  ext_body Gen.ExtWrap.G3_add13c_batch__pPP
  ext_elems4

/-- `add13c_batch(Goldilocks::Element * result, const Goldilocks::Element * a, const Goldilocks::Element * b, uint64_t offset_a)` -/
theorem G3_add13c_batch__pPPE_spec (result : Region) (a : Region) (b : Region) (offset_a : BitVec 64) :
    Scatter3 4 (posD 3) (fun k => K3.add ((base1 a (posS offset_a)) k) ((ext3 b posC) k)) result (Gen.ExtWrap.G3_add13c_batch__pPPE result a b offset_a) := by
  ext_body Gen.ExtWrap.G3_add13c_batch__pPPE
  ext_elems4

/-- `add1c3c_batch(Goldilocks::Element * result, const Goldilocks::Element a, const Goldilocks::Element * b)` -/
theorem G3_add1c3c_batch_spec (result : Region) (a : BitVec 64) (b : Region) :
    Scatter3 4 (posD 3) (fun k => K3.add ((val1 a) k) ((ext3 b posC) k)) result (Gen.ExtWrap.G3_add1c3c_batch result a b) := by
  ext_body Gen.ExtWrap.G3_add1c3c_batch
  ext_elems4

/-- `add31_batch(Goldilocks::Element * result, const Goldilocks::Element * a, const Goldilocks::Element * b, uint64_t stride_a, uint64_t stride_b)` -/
theorem G3_add31_batch_spec (result : Region) (a : Region) (b : Region) (stride_a : BitVec 64) (stride_b : BitVec 64) :
    Scatter3 4 (posD 3) (fun k => K3.add ((ext3 a (posS stride_a)) k) ((base1 b (posS stride_b)) k)) result (Gen.ExtWrap.G3_add31_batch result a b stride_a stride_b) := by
  ext_body Gen.ExtWrap.G3_add31_batch
  ext_elems4

/-- `add33c_batch(Goldilocks::Element * result, const Goldilocks::Element * a, const Goldilocks::Element * b)` -/
theorem G3_add33c_batch__pPP_spec (result : Region) (a : Region) (b : Region) :
    Scatter3 4 (posD 3) (fun k => K3.add ((ext3 a (posD 3)) k) ((ext3 b posC) k)) result (Gen.ExtWrap.G3_add33c_batch__pPP result a b) := by
  ext_body Gen.ExtWrap.G3_add33c_batch__pPP
  ext_elems4

/-- `add33c_batch(Goldilocks::Element * result, Goldilocks::Element * a, Goldilocks::Element * b, uint64_t stride_a)` -/
theorem G3_add33c_batch__pppE_spec (result : Region) (a : Region) (b : Region) (stride_a : BitVec 64) :
    Scatter3 4 (posD 3) (fun k => K3.add ((ext3 a (posS stride_a)) k) ((ext3 b posC) k)) result (Gen.ExtWrap.G3_add33c_batch__pppE result a b stride_a) := by
  ext_body Gen.ExtWrap.G3_add33c_batch__pppE
  ext_elems4

/-- `add_batch(Goldilocks::Element * result, const Goldilocks::Element * a, const Goldilocks::Element * b)` -/
theorem G3_add_batch__pPP_spec (result : Region) (a : Region) (b : Region) :
    Scatter3 4 (posD 3) (fun k => K3.add ((ext3 a (posD 3)) k) ((ext3 b (posD 3)) k)) result (Gen.ExtWrap.G3_add_batch__pPP result a b) := by
  ext_body Gen.ExtWrap.G3_add_batch__pPP
  ext_elems4

/-- `add_batch(Goldilocks::Element * result, const Goldilocks::Element * a, const Goldilocks::Element * b, uint64_t stride_a, uint64_t stride_b)` -/
theorem G3_add_batch__pPPEE_spec (result : Region) (a : Region) (b : Region) (stride_a : BitVec 64) (stride_b : BitVec 64) :
    Scatter3 4 (posD 3) (fun k => K3.add ((ext3 a (posS stride_a)) k) ((ext3 b (posS stride_b)) k)) result (Gen.ExtWrap.G3_add_batch__pPPEE result a b stride_a stride_b) := by
  ext_body Gen.ExtWrap.G3_add_batch__pPPEE
  ext_elems4

end GoldilocksVerif.C16Gen
