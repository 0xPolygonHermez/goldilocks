-- GENERATED by tools/extspec.py from the C++ SIGNATURES (routine name, parameter types and names) of the current source.
-- Do not edit.  One theorem per batched / AVX2 / AVX512 cubic-extension overload: for element k the written
-- coefficients denote (in ZMod p) the K3 sum / difference / product of the k-th designated operands.
import GoldilocksVerif.Lemmas.ExtWrapL
namespace GoldilocksVerif.C16Gen
open GoldilocksVerif

/-- `sub13c_batch(Goldilocks::Element * result, Goldilocks::Element * a, Goldilocks::Element * b, uint64_t stride_a)` -/
theorem G3_sub13c_batch_spec (result : Region) (a : Region) (b : Region) (stride_a : BitVec 64) :
    Scatter3 4 (posD 3) (fun k => K3.sub ((base1 a (posS stride_a)) k) ((ext3 b posC) k)) result (Gen.ExtWrap.G3_sub13c_batch result a b stride_a) := by
  ext_body Gen.ExtWrap.G3_sub13c_batch
  ext_elems4

/-- `sub31_batch(Goldilocks::Element * result, Goldilocks::Element * a, Goldilocks::Element * b, uint64_t stride_a, uint32_t stride_b)` -/
theorem G3_sub31_batch_spec (result : Region) (a : Region) (b : Region) (stride_a : BitVec 64) (stride_b : BitVec 32) :
    Scatter3 4 (posD 3) (fun k => K3.sub ((ext3 a (posS stride_a)) k) ((base1 b (posS (BitVec.setWidth 64 stride_b))) k)) result (Gen.ExtWrap.G3_sub31_batch result a b stride_a stride_b) := by
  ext_body Gen.ExtWrap.G3_sub31_batch
  ext_elems4

/-- `sub31c_batch(Goldilocks::Element * result, Goldilocks::Element * a, Goldilocks::Element b, uint64_t stride_a)` -/
theorem G3_sub31c_batch_spec (result : Region) (a : Region) (b : BitVec 64) (stride_a : BitVec 64) :
    Scatter3 4 (posD 3) (fun k => K3.sub ((ext3 a (posS stride_a)) k) ((val1 b) k)) result (Gen.ExtWrap.G3_sub31c_batch result a b stride_a) := by
  ext_body Gen.ExtWrap.G3_sub31c_batch
  ext_elems4

/-- `sub33c_batch(Goldilocks::Element * result, Goldilocks::Element * a, Goldilocks::Element * b, uint64_t stride_a)` -/
theorem G3_sub33c_batch__pppE_spec (result : Region) (a : Region) (b : Region) (stride_a : BitVec 64) :
    Scatter3 4 (posD 3) (fun k => K3.sub ((ext3 a (posS stride_a)) k) ((ext3 b posC) k)) result (Gen.ExtWrap.G3_sub33c_batch__pppE result a b stride_a) := by
  ext_body Gen.ExtWrap.G3_sub33c_batch__pppE
  ext_elems4

/-- `sub33c_batch(Goldilocks::Element * result, Goldilocks::Element * a, Goldilocks::Element * b)` -/
theorem G3_sub33c_batch__ppp_spec (result : Region) (a : Region) (b : Region) :
    Scatter3 4 (posD 3) (fun k => K3.sub ((ext3 a (posD 3)) k) ((ext3 b posC) k)) result (Gen.ExtWrap.G3_sub33c_batch__ppp result a b) := by
  ext_body Gen.ExtWrap.G3_sub33c_batch__ppp
  ext_elems4

/-- `sub_batch(Goldilocks::Element * result, Goldilocks::Element * a, Goldilocks::Element * b)` -/
theorem G3_sub_batch__ppp_spec (result : Region) (a : Region) (b : Region) :
    Scatter3 4 (posD 3) (fun k => K3.sub ((ext3 a (posD 3)) k) ((ext3 b (posD 3)) k)) result (Gen.ExtWrap.G3_sub_batch__ppp result a b) := by
  ext_body Gen.ExtWrap.G3_sub_batch__ppp
  ext_elems4

/-- `sub_batch(Goldilocks::Element * result, Goldilocks::Element * a, Goldilocks::Element * b, uint64_t stride_a, uint64_t stride_b)` -/
theorem G3_sub_batch__pppEE_spec (result : Region) (a : Region) (b : Region) (stride_a : BitVec 64) (stride_b : BitVec 64) :
    Scatter3 4 (posD 3) (fun k => K3.sub ((ext3 a (posS stride_a)) k) ((ext3 b (posS stride_b)) k)) result (Gen.ExtWrap.G3_sub_batch__pppEE result a b stride_a stride_b) := by
  ext_body Gen.ExtWrap.G3_sub_batch__pppEE
  ext_elems4

end GoldilocksVerif.C16Gen
