/-
  C20 — GPU field arithmetic (`gl64_t`, PTX inline asm) and the device root tables.

  All statements are about `Gen.Ptx.*`, the definitions regenerated on every run by `tools/tr_ptx.py`
  from the PTX `asm` blocks (and the C++ that feeds them) of `/repo/src/gl64_t.cuh`, over the PTX
  semantics of `Isa/Ptx.lean`, and about `Gen.PtxTables.*`, the literals of `/repo/src/ntt_goldilocks.cuh`
  and `Goldilocks::W` of `/repo/src/goldilocks_base_field.cpp`.
  Configuration: `GL64_PARTIALLY_REDUCED` undefined (this repository's), so `to()` is the final
  reduction and `from()` is empty.  `_sm70` = `__CUDA_ARCH__ >= 700`, `_pre70` = `__CUDA_ARCH__ < 700`.

  Addition / subtraction / negation require canonical operands (`toNat < P`), as the header does in
  this configuration.  Multiplication (by element and by 32-bit word), squaring and the final
  reduction are proved for ALL 64-bit operands: that is the header's documented tolerance
  ("either multiplication variant can handle partially reduced inputs"), which `operator^=` relies on.

  The translator emits a function twice (`_sm70` / `_pre70`) exactly when its translation, or that of
  anything it calls, differs between the two architectures; `add_assign`, `sub_assign`, `cneg`, `neg`,
  `final_reduce` carry no suffix because their code is the same for both, so their theorems cover both.

  There is no GPU / nvcc in the sandbox: the tie to the source is regeneration only, and the PTX semantics of
  `Isa/Ptx.lean` (written from the PTX ISA manual) is trusted, not validated on hardware.
-/
import GoldilocksVerif.Lemmas.PtxArith

namespace GoldilocksVerif.C20
open Gen.Ptx Gen.PtxTables GoldilocksVerif GoldilocksVerif.PtxN

theorem lt_of_eq_mod {x y : Nat} (h : x = y % P) : x < P := h ▸ Nat.mod_lt _ P_pos

theorem to_of_mod {x : BitVec 64} {n : Nat} (h : x.toNat % P = n % P) : (to_ x).toNat = n % P := by
  rw [to_toNat, h]

/-- `a += b` and `a + b` -/
theorem C20_add (a b : BitVec 64) (ha : a.toNat < P) (hb : b.toNat < P) :
    (add_assign a b).toNat = (a.toNat + b.toNat) % P ∧ (add_assign a b).toNat < P ∧
    plus a b = add_assign a b := by
  have h : (add_assign a b).toNat = (a.toNat + b.toNat) % P :=
    add_assign_spec a b ha hb
  exact ⟨h, lt_of_eq_mod h, rfl⟩

/-- `a -= b` and `a - b` -/
theorem C20_sub (a b : BitVec 64) (ha : a.toNat < P) (hb : b.toNat < P) :
    (sub_assign a b).toNat = (a.toNat + (P - b.toNat)) % P ∧ (sub_assign a b).toNat < P ∧
    ((sub_assign a b).toNat + b.toNat) % P = a.toNat % P ∧
    minus a b = sub_assign a b := by
  have h : (sub_assign a b).toNat = (a.toNat + (P - b.toNat)) % P :=
    sub_assign_spec a b ha hb
  refine ⟨h, lt_of_eq_mod h, ?_, rfl⟩
  rw [h, Nat.mod_add_mod]
  have e : a.toNat + (P - b.toNat) + b.toNat = a.toNat + P := by omega
  rw [e, Nat.add_mod_right]

/-- `a.cneg(flag)` and the friend `cneg(a, flag)` -/
theorem C20_cneg (a : BitVec 64) (flag : Bool) (ha : a.toNat < P) :
    (cneg a flag).toNat = (if flag = true then (P - a.toNat) % P else a.toNat) ∧ (cneg a flag).toNat < P ∧
    cneg_f a flag = cneg a flag := by
  have h : (cneg a flag).toNat = (if flag = true then (P - a.toNat) % P else a.toNat) :=
    cneg_spec a flag ha
  refine ⟨h, ?_, rfl⟩
  rw [h]
  split
  · exact Nat.mod_lt _ P_pos
  · exact ha

/-- unary minus -/
theorem C20_neg (a : BitVec 64) (ha : a.toNat < P) :
    (neg a).toNat = (P - a.toNat) % P ∧ ((neg a).toNat + a.toNat) % P = 0 := by
  have h0 : neg a = cneg a true := rfl
  have h : (neg a).toNat = (P - a.toNat) % P := by
    rw [h0, (C20_cneg a true ha).1]; rfl
  refine ⟨h, ?_⟩
  rw [h, Nat.mod_add_mod]
  have e : P - a.toNat + a.toNat = P := by omega
  rw [e, Nat.mod_self]

/-- `reduce()` = `to()`; the constructor from `uint64_t`; the conversion back -/
theorem C20_final_reduce (a : BitVec 64) :
    (final_reduce a).toNat = a.toNat % P ∧ (final_reduce a).toNat < P ∧
    to_ a = final_reduce a ∧ of_u64 a = final_reduce a ∧ to_u64 a = a := by
  have h : (final_reduce a).toNat = a.toNat % P :=
    final_reduce_spec a
  exact ⟨h, lt_of_eq_mod h, rfl, rfl, rfl⟩

/-- `reduce(uint32_t temp[4])`: folds ANY four 32-bit words (2^64 ≡ 2^32 - 1, 2^96 ≡ -1) into a 64-bit value
    congruent to the 128-bit number they denote; both variants; the incoming `val` is irrelevant -/
theorem C20_reduce4 (v : BitVec 64) (t0 t1 t2 t3 : BitVec 32) :
    (reduce4_sm70 v t0 t1 t2 t3).toNat % P =
      (t0.toNat + t1.toNat * 2 ^ 32 + t2.toNat * 2 ^ 64 + t3.toNat * 2 ^ 96) % P ∧
    (reduce4_pre70 v t0 t1 t2 t3).toNat % P =
      (t0.toNat + t1.toNat * 2 ^ 32 + t2.toNat * 2 ^ 64 + t3.toNat * 2 ^ 96) % P :=
  ⟨reduce4_sm70_mod v t0 t1 t2 t3, reduce4_pre70_mod v t0 t1 t2 t3⟩

/-- the un-reduced product `mul(b)` (what `operator^=` chains): congruent to the exact product and a
    64-bit value, for partially reduced operands too -/
theorem C20_mul_raw (a b : BitVec 64) :
    (mul_raw_sm70 a b).toNat % P = (a.toNat * b.toNat) % P ∧
    (mul_raw_pre70 a b).toNat % P = (a.toNat * b.toNat) % P :=
  ⟨mul_raw_sm70_mod a b, mul_raw_pre70_mod a b⟩

/-- `a * b`, `a *= b`, `__CUDA_ARCH__ >= 700` -/
theorem C20_mul_sm70 (a b : BitVec 64) :
    (mul_sm70 a b).toNat = (a.toNat * b.toNat) % P ∧ (mul_sm70 a b).toNat < P ∧
    mul_assign_sm70 a b = mul_sm70 a b := by
  have h : (mul_sm70 a b).toNat = (a.toNat * b.toNat) % P := to_of_mod (mul_raw_sm70_mod a b)
  exact ⟨h, lt_of_eq_mod h, rfl⟩

/-- `a * b`, `a *= b`, `__CUDA_ARCH__ < 700` -/
theorem C20_mul_pre70 (a b : BitVec 64) :
    (mul_pre70 a b).toNat = (a.toNat * b.toNat) % P ∧ (mul_pre70 a b).toNat < P ∧
    mul_assign_pre70 a b = mul_pre70 a b := by
  have h : (mul_pre70 a b).toNat = (a.toNat * b.toNat) % P := to_of_mod (mul_raw_pre70_mod a b)
  exact ⟨h, lt_of_eq_mod h, rfl⟩

/-- `a.sqr()`, `sqr(a)`, `__CUDA_ARCH__ >= 700` -/
theorem C20_sqr_sm70 (a : BitVec 64) :
    (sqr_sm70 a).toNat = (a.toNat * a.toNat) % P ∧ (sqr_sm70 a).toNat < P ∧ sqr_f_sm70 a = sqr_sm70 a := by
  have e : sqr_sm70 a = mul_sm70 a a := rfl
  rw [e]
  exact ⟨(C20_mul_sm70 a a).1, (C20_mul_sm70 a a).2.1, rfl⟩

/-- `a.sqr()`, `sqr(a)`, `__CUDA_ARCH__ < 700` -/
theorem C20_sqr_pre70 (a : BitVec 64) :
    (sqr_pre70 a).toNat = (a.toNat * a.toNat) % P ∧ (sqr_pre70 a).toNat < P ∧ sqr_f_pre70 a = sqr_pre70 a := by
  have e : sqr_pre70 a = mul_pre70 a a := rfl
  rw [e]
  exact ⟨(C20_mul_pre70 a a).1, (C20_mul_pre70 a a).2.1, rfl⟩

/-- `a * w`, `a *= w` for a 32-bit word, `__CUDA_ARCH__ >= 700` -/
theorem C20_mul_u32_sm70 (a : BitVec 64) (w : BitVec 32) :
    (mul_u32_sm70 a w).toNat = (a.toNat * w.toNat) % P ∧ (mul_u32_sm70 a w).toNat < P ∧
    mul_u32_assign_sm70 a w = mul_u32_sm70 a w := by
  have h : (mul_u32_sm70 a w).toNat = (a.toNat * w.toNat) % P := to_of_mod (mul_u32_raw_sm70_mod a w)
  exact ⟨h, lt_of_eq_mod h, rfl⟩

/-- `a * w`, `a *= w` for a 32-bit word, `__CUDA_ARCH__ < 700` -/
theorem C20_mul_u32_pre70 (a : BitVec 64) (w : BitVec 32) :
    (mul_u32_pre70 a w).toNat = (a.toNat * w.toNat) % P ∧ (mul_u32_pre70 a w).toNat < P ∧
    mul_u32_assign_pre70 a w = mul_u32_pre70 a w := by
  have h : (mul_u32_pre70 a w).toNat = (a.toNat * w.toNat) % P := to_of_mod (mul_u32_raw_pre70_mod a w)
  exact ⟨h, lt_of_eq_mod h, rfl⟩

/-- the two instruction variants return the same words -/
theorem C20_arch_variants_agree (a b : BitVec 64) (w : BitVec 32) :
    mul_sm70 a b = mul_pre70 a b ∧ sqr_sm70 a = sqr_pre70 a ∧ mul_u32_sm70 a w = mul_u32_pre70 a w := by
  refine ⟨?_, ?_, ?_⟩
  · apply BitVec.eq_of_toNat_eq; rw [(C20_mul_sm70 a b).1, (C20_mul_pre70 a b).1]
  · apply BitVec.eq_of_toNat_eq; rw [(C20_sqr_sm70 a).1, (C20_sqr_pre70 a).1]
  · apply BitVec.eq_of_toNat_eq; rw [(C20_mul_u32_sm70 a w).1, (C20_mul_u32_pre70 a w).1]

/-- non-vacuity of the canonicity hypotheses: a small value, and the largest canonical one -/
example : (5#64).toNat < P ∧ (18446744069414584320#64).toNat < P ∧
    (add_assign 18446744069414584320#64 18446744069414584320#64).toNat = 18446744069414584319 := by
  refine ⟨by decide, by decide, ?_⟩
  rw [(C20_add _ _ (by decide) (by decide)).1]
  decide

/-- every table has 33 rows -/
theorem C20_tables_length :
    omegas.length = 33 ∧ omegas_inv.length = 33 ∧ domain_size_inverse.length = 33 ∧ cpuW.length = 33 := by
  decide +kernel

/-- the device roots are the CPU roots `Goldilocks::W` -/
theorem C20_tables_omegas_eq_cpu : omegas = cpuW := by
  decide +kernel

/-- row by row: canonical entries, same root as the CPU table, `omegas_inv[i]` is its modular inverse,
    `domain_size_inverse[i]` is the inverse of `2^i` -/
theorem C20_tables_rows : ∀ i, i < 33 →
    omegas.getD i 0 < P ∧ omegas_inv.getD i 0 < P ∧ domain_size_inverse.getD i 0 < P ∧
    omegas.getD i 0 = cpuW.getD i 0 ∧
    (omegas.getD i 0 * omegas_inv.getD i 0) % P = 1 ∧
    (domain_size_inverse.getD i 0 * 2 ^ i) % P = 1 := by
  decide +kernel

/-- the roots really are the principal `2^i`-th roots: `ω₀ = 1`, `ω₁ = -1`, `ω_{i+1}² = ω_i` -/
theorem C20_tables_root_chain :
    omegas.getD 0 0 = 1 ∧ omegas.getD 1 0 = P - 1 ∧
    ∀ i, i < 32 → (omegas.getD (i + 1) 0 * omegas.getD (i + 1) 0) % P = omegas.getD i 0 := by
  decide +kernel

end GoldilocksVerif.C20
