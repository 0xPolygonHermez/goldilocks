-- GENERATED by tools/extspec.py from the C++ SIGNATURES (routine name, parameter types and names) of the current source.
-- Do not edit.  One theorem per batched / AVX2 / AVX512 cubic-extension overload: for element k the written
-- coefficients denote (in ZMod p) the K3 sum / difference / product of the k-th designated operands.
import GoldilocksVerif.Lemmas.ExtWrapL
namespace GoldilocksVerif.C16Gen
open GoldilocksVerif

/-- `copy_avx512(Goldilocks::Element * dst, const __m512i a0_, const __m512i a1_, const __m512i a2_)` -/
theorem G3_copy_avx512_spec (dst : Region) (a0_ : V8) (a1_ : V8) (a2_ : V8) :
    ScatterExact 8 (posD 3) (word8 a0_ a1_ a2_) dst (Gen.ExtWrap.G3_copy_avx512 dst a0_ a1_ a2_) := by
  ext_body Gen.ExtWrap.G3_copy_avx512
  ext_words_exact

end GoldilocksVerif.C16Gen
