/-
  C04 — "Over the same configuration space as the forward transform, the inverse transform delivers
  out[k][c] = n^-1 * sum_j in[j][c]*w_n^(-j*k), so that INTT(NTT(x)) and NTT(INTT(x)) both return x as field elements
  for every x. A null destination means in place."

  The first part is about the hand model `Model/Ntt.lean` (see Props/C03.lean for the scope: all shapes, all inputs; the thread
  count is outside the sequential model, a caller scratch buffer is in the `…_buffer` theorems on the translated `INTT`;
  model = code for log2 n ≤ 30).
-/
import GoldilocksVerif.Lemmas.NttShapes
import GoldilocksVerif.Lemmas.BridgeNttTop
import GoldilocksVerif.Lemmas.BridgeNttBuf
import GoldilocksVerif.Lemmas.BridgeNttBlocks
import GoldilocksVerif.Lemmas.BridgeNttBufEq

namespace GoldilocksVerif.C04
open GoldilocksVerif.Model.Ntt GoldilocksVerif.NttSpec Finset

/-- C04 (main statement): the inverse transform never aborts and delivers the inverse DFT of every column;
    the source is returned unchanged when the destination is another buffer, a null destination behaves as in place. -/
theorem C04_inverse_transform (maxDomainSize extension : Nat) (o : Obj) (hobj : mkObj maxDomainSize extension = some o)
    (hext : extension ≤ 1) (d : Nat) (hn : 2 ^ d ≤ maxDomainSize)
    (ncols nphase nblock : Nat) (hnc : 1 ≤ ncols) (mode : DstMode) (dstB srcB : Buf)
    (hsrc : srcB.size = 2 ^ d * ncols) (hdst : mode = .other → dstB.size = 2 ^ d * ncols) :
    ∃ out, intt o mode dstB srcB (2 ^ d) ncols nphase nblock false
        = .ok (out, if mode = .other then srcB else out) ∧
      out.size = 2 ^ d * ncols ∧
      ∀ k c, k < 2 ^ d → c < ncols →
        den (out.getD (k * ncols + c) 0#64)
          = ((2 ^ d : Nat) : F)⁻¹ * ∑ j ∈ range (2 ^ d), den (srcB.getD (j * ncols + c) 0#64) * (omega d)⁻¹ ^ (j * k) :=
  intt_inverse_mk maxDomainSize extension o hobj hext d hn ncols nphase nblock hnc mode dstB srcB hsrc hdst

/-- C04: INTT(NTT(x)) = x as field elements — any two configurations (phase, block, destination mode) of the two calls -/
theorem C04_intt_of_ntt (maxDomainSize extension : Nat) (o : Obj) (hobj : mkObj maxDomainSize extension = some o)
    (hext : extension ≤ 1) (d : Nat) (hn : 2 ^ d ≤ maxDomainSize) (ncols : Nat) (hnc : 1 ≤ ncols)
    (nphase1 nblock1 nphase2 nblock2 : Nat) (mode1 mode2 : DstMode) (dst1 dst2 x : Buf)
    (hx : x.size = 2 ^ d * ncols) (hd1 : mode1 = .other → dst1.size = 2 ^ d * ncols)
    (hd2 : mode2 = .other → dst2.size = 2 ^ d * ncols) :
    ∃ y z, ntt o mode1 dst1 x (2 ^ d) ncols nphase1 nblock1 false false = .ok (y, if mode1 = .other then x else y) ∧
      intt o mode2 dst2 y (2 ^ d) ncols nphase2 nblock2 false = .ok (z, if mode2 = .other then y else z) ∧
      ∀ k c, k < 2 ^ d → c < ncols → den (z.getD (k * ncols + c) 0#64) = den (x.getD (k * ncols + c) 0#64) := by
  have hd32 := (mkObj_ok_le maxDomainSize extension o hobj hext d hn).dle
  obtain ⟨y, e1, hy, c1⟩ := ntt_forward_mk maxDomainSize extension o hobj hext d hn ncols nphase1 nblock1 hnc mode1 dst1 x hx hd1
  obtain ⟨z, e2, _, c2⟩ := intt_inverse_mk maxDomainSize extension o hobj hext d hn ncols nphase2 nblock2 hnc mode2 dst2 y hy hd2
  refine ⟨y, z, e1, e2, ?_⟩
  intro k c hk hc
  show cell z ncols k c = cell x ncols k c
  rw [c2 k c hk hc, idft_congr _ _ _ (dft (omega d) (2 ^ d) (fun j => cell x ncols j c)) k (fun j hj => c1 j c hj hc),
    idft_dft (omega_prim d hd32) (two_pow_ne_zero d) _ hk]

/-- C04: NTT(INTT(x)) = x as field elements -/
theorem C04_ntt_of_intt (maxDomainSize extension : Nat) (o : Obj) (hobj : mkObj maxDomainSize extension = some o)
    (hext : extension ≤ 1) (d : Nat) (hn : 2 ^ d ≤ maxDomainSize) (ncols : Nat) (hnc : 1 ≤ ncols)
    (nphase1 nblock1 nphase2 nblock2 : Nat) (mode1 mode2 : DstMode) (dst1 dst2 x : Buf)
    (hx : x.size = 2 ^ d * ncols) (hd1 : mode1 = .other → dst1.size = 2 ^ d * ncols)
    (hd2 : mode2 = .other → dst2.size = 2 ^ d * ncols) :
    ∃ y z, intt o mode1 dst1 x (2 ^ d) ncols nphase1 nblock1 false = .ok (y, if mode1 = .other then x else y) ∧
      ntt o mode2 dst2 y (2 ^ d) ncols nphase2 nblock2 false false = .ok (z, if mode2 = .other then y else z) ∧
      ∀ k c, k < 2 ^ d → c < ncols → den (z.getD (k * ncols + c) 0#64) = den (x.getD (k * ncols + c) 0#64) := by
  have hd32 := (mkObj_ok_le maxDomainSize extension o hobj hext d hn).dle
  obtain ⟨y, e1, hy, c1⟩ := intt_inverse_mk maxDomainSize extension o hobj hext d hn ncols nphase1 nblock1 hnc mode1 dst1 x hx hd1
  obtain ⟨z, e2, _, c2⟩ := ntt_forward_mk maxDomainSize extension o hobj hext d hn ncols nphase2 nblock2 hnc mode2 dst2 y hy hd2
  refine ⟨y, z, e1, e2, ?_⟩
  intro k c hk hc
  show cell z ncols k c = cell x ncols k c
  rw [c2 k c hk hc, dft_congr _ _ _ (idft (omega d) (2 ^ d) (fun j => cell x ncols j c)) k (fun j hj => c1 j c hj hc),
    dft_idft (omega_prim d hd32) (two_pow_ne_zero d) _ hk]

/-- C04: a null destination means in place — for ALL arguments -/
theorem C04_null_means_in_place (o : Obj) (dstB srcB : Buf) (size ncols nphase nblock : Nat) (extend : Bool) :
    intt o .null dstB srcB size ncols nphase nblock extend = intt o .same dstB srcB size ncols nphase nblock extend :=
  intt_null o dstB srcB size ncols nphase nblock extend

/-- C04: when the destination is a different buffer the source is left unchanged — for ALL arguments -/
theorem C04_source_unchanged (o : Obj) (dstB srcB : Buf) (size ncols nphase nblock : Nat) (d s' : Buf)
    (h : intt o .other dstB srcB size ncols nphase nblock false = .ok (d, s')) : s' = srcB :=
  intt_other_src o dstB srcB size ncols nphase nblock false d s' h

/-- C04: size 0 or zero columns is a no-op -/
theorem C04_noop (o : Obj) (mode : DstMode) (dstB srcB : Buf) (size ncols nphase nblock : Nat)
    (h : ncols = 0 ∨ size = 0) :
    intt o mode dstB srcB size ncols nphase nblock false = .ok (if mode = .other then dstB else srcB, srcB) :=
  intt_noop o mode dstB srcB size ncols nphase nblock false h

/-- non-vacuity: the hypotheses of the round-trip statement are satisfiable (size 8 in an object of size 8, 2 columns,
    forward into another buffer with 3 phases / 2 blocks, inverse in place through a null destination) -/
example : ∃ o y z, mkObj 8 1 = some o ∧
    ntt o .other (Array.replicate (2 ^ 3 * 2) 0#64) (Array.replicate (2 ^ 3 * 2) 5#64) (2 ^ 3) 2 3 2 false false
      = .ok (y, Array.replicate (2 ^ 3 * 2) 5#64) ∧
    intt o .null #[] y (2 ^ 3) 2 1 1 false = .ok (z, z) := by
  obtain ⟨o, ho⟩ := mkObj_some 8 1 (by decide)
  obtain ⟨y, z, e1, e2, _⟩ := C04_intt_of_ntt 8 1 o ho (by omega) 3 (by omega) 2 (by omega) 3 2 1 1 .other .null
    (Array.replicate (2 ^ 3 * 2) 0#64) #[] (Array.replicate (2 ^ 3 * 2) 5#64) (by simp) (by simp) (by simp)
  exact ⟨o, y, z, ho, e1, e2⟩

/-! ### the model GENERATED from ntt_goldilocks.cpp / .hpp (see Props/C03.lean, DESIGN.NTTGEN.md) -/
section generated
open GoldilocksVerif.BridgeNtt Gen.NttGen

/-- generated `INTT` = the model's `intt` (default call shape: no caller scratch buffer, one column block,
    2 ≤ size = 2^K ≤ 2^30) -/
theorem C04_generated_INTT_eq_model (fuel : Nat) (hf : 64 ≤ fuel) (hp : Heap) (self : NTT_Goldilocks) (o : Obj)
    (hrep : ObjRep hp self o) (hin : ObjIn hp self) (D Sx : Nat) (hD : D < hp.size) (hSx : Sx < hp.size) (hD0 : D ≠ 0)
    (hfrD : ObjFrame self D) (mode : DstMode) (hmode : mode = .other ↔ D ≠ Sx)
    (dst : Ptr) (hdst : (if (dst == Ptr.null) = true then (⟨Sx, 0⟩ : Ptr) else dst) = ⟨D, 0⟩)
    (K N NC : Nat) (nphase nblock : BitVec 64) (extend : Bool)
    (hK1 : 1 ≤ K) (hK : K ≤ 30) (hN : N = 2 ^ K) (hKs : K ≤ o.s) (hos : o.s ≤ 32) (hNC1 : 1 ≤ NC)
    (hNNC8 : N * NC * 8 < 2 ^ 64) (hext31 : o.extension < 2 ^ 31) (hcache : extend = true → o.rcache ≠ none)
    (hnb : clampBlock nblock.toNat NC = 1) :
    match intt o mode (hp.block D) (hp.block Sx) N NC nphase.toNat nblock.toNat extend with
    | .ok (d, _) => NTT_INTT fuel hp self dst ⟨Sx, 0⟩ (bv N) (bv NC) Ptr.null nphase nblock extend = some (hp.setBlock D d)
    | .error _ => NTT_INTT fuel hp self dst ⟨Sx, 0⟩ (bv N) (bv NC) Ptr.null nphase nblock extend = none :=
  INTT_gen_all fuel hp self o hrep hin D Sx hD hSx hD0 hfrD mode hmode dst hdst K N NC nphase nblock extend hK hN hKs hos hNC1
    hNNC8 hext31 hcache (itersFuel_le self K NC fuel hf (by omega))

/-- **the property on the generated function, caller scratch buffer**: the TRANSLATED `INTT` with a buffer block of at least
    size·ncols words and ANY content returns, changes only the destination and the buffer block, and the destination block
    holds the inverse DFT of every column -/
theorem C04_generated_inverse_transform_buffer (maxDomainSize extension : Nat) (o : Obj)
    (hobj : mkObj maxDomainSize extension = some o) (hext : extension ≤ 1) (d : Nat) (hd1 : 1 ≤ d) (hd30 : d ≤ 30)
    (hn : 2 ^ d ≤ maxDomainSize)
    (fuel : Nat) (hf : 64 ≤ fuel) (hp : Heap) (self : NTT_Goldilocks) (hrep : ObjRep hp self o)
    (D Sx B : Nat) (hD : D < hp.size) (hB : B < hp.size) (hD0 : D ≠ 0) (hB0 : B ≠ 0) (hDB : D ≠ B) (hSB : Sx ≠ B)
    (hfrD : ObjFrame self D) (hfrB : ObjFrame self B)
    (dst : Ptr) (hdst : (if (dst == Ptr.null) = true then (⟨Sx, 0⟩ : Ptr) else dst) = ⟨D, 0⟩)
    (ncols : Nat) (nphase nblock : BitVec 64) (hnc : 1 ≤ ncols) (hbound : 2 ^ d * ncols * 8 < 2 ^ 64)
    (hnb : clampBlock nblock.toNat ncols = 1)
    (hsrc : (hp.block Sx).size = 2 ^ d * ncols) (hdsts : (hp.block D).size = 2 ^ d * ncols)
    (hbuf : 2 ^ d * ncols ≤ (hp.block B).size) :
    ∃ out X', NTT_INTT fuel hp self dst ⟨Sx, 0⟩ (bv (2 ^ d)) (bv ncols) ⟨B, 0⟩ nphase nblock false =
        some ((hp.setBlock D out).setBlock B X') ∧
      out.size = 2 ^ d * ncols ∧
      ∀ k c, k < 2 ^ d → c < ncols →
        den (out.getD (k * ncols + c) 0#64)
          = ((2 ^ d : Nat) : F)⁻¹ * ∑ j ∈ range (2 ^ d), den ((hp.block Sx).getD (j * ncols + c) 0#64) * (omega d)⁻¹ ^ (j * k) := by
  obtain ⟨hds, hs32, hext31⟩ := mkObj_bounds maxDomainSize extension o hobj hext d hn
  obtain ⟨out, e, hsz, hdft⟩ := nttIters_inverse o _ (mkObj_ok_le maxDomainSize extension o hobj hext d hn) (hp.block D)
    (hp.block Sx) (hp.block B) (decide (D = Sx)) d ncols nphase.toNat (Nat.le_refl _) (by by_cases h : D = Sx <;> simp [h, hsrc, hdsts]) hbuf
  have hg := INTT_gen_buf fuel hf hp self o hrep D Sx B hD hB hD0 hB0 hDB hSB hfrD hfrB dst hdst d (2 ^ d) ncols nphase nblock
    false hd1 hd30 rfl hds hs32 hnc hbound hext31 (by intro h; cases h) hnb
  rw [e] at hg
  obtain ⟨X', hX, _⟩ := hg
  refine ⟨out, X', hX, ?_, hdft⟩
  rw [hsz]; by_cases h : D = Sx <;> simp [h, hsrc, hdsts]

end generated

/-! ### the generated model, EVERY `nblock` and size 1 (see the section of the same name in Props/C03.lean) -/
section generated_all
open GoldilocksVerif.BridgeNtt Gen.NttGen

/-- generated `INTT` = the model's `intt`, every `nblock`, every size 1 ≤ 2^K ≤ 2^30, bit for bit; nothing but the destination
    block changes.  Fuel: `itersFuel` (64 for K ≥ 1; Props/C03.lean `C03_generated_fuel`) -/
theorem C04_generated_INTT_eq_model_all (fuel : Nat) (hp : Heap) (self : NTT_Goldilocks) (o : Obj)
    (hrep : ObjRep hp self o) (hin : ObjIn hp self) (D Sx : Nat) (hD : D < hp.size) (hSx : Sx < hp.size) (hD0 : D ≠ 0)
    (hfrD : ObjFrame self D) (mode : DstMode) (hmode : mode = .other ↔ D ≠ Sx)
    (dst : Ptr) (hdst : (if (dst == Ptr.null) = true then (⟨Sx, 0⟩ : Ptr) else dst) = ⟨D, 0⟩)
    (K N NC : Nat) (nphase nblock : BitVec 64) (extend : Bool)
    (hK : K ≤ 30) (hN : N = 2 ^ K) (hKs : K ≤ o.s) (hos : o.s ≤ 32) (hNC1 : 1 ≤ NC)
    (hNNC8 : N * NC * 8 < 2 ^ 64) (hext31 : o.extension < 2 ^ 31) (hcache : extend = true → o.rcache ≠ none)
    (hf : itersFuel self K NC ≤ fuel) :
    match intt o mode (hp.block D) (hp.block Sx) N NC nphase.toNat nblock.toNat extend with
    | .ok (d, _) => NTT_INTT fuel hp self dst ⟨Sx, 0⟩ (bv N) (bv NC) Ptr.null nphase nblock extend = some (hp.setBlock D d)
    | .error _ => NTT_INTT fuel hp self dst ⟨Sx, 0⟩ (bv N) (bv NC) Ptr.null nphase nblock extend = none :=
  INTT_gen_all fuel hp self o hrep hin D Sx hD hSx hD0 hfrD mode hmode dst hdst K N NC nphase nblock extend hK hN hKs hos hNC1
    hNNC8 hext31 hcache hf

/-- **the property on the generated function, every `nblock`, every size 1 ≤ 2^d ≤ min(maxDomainSize, 2^30)**: the TRANSLATED
    `INTT` returns, changes only the destination block, and that block holds the inverse DFT of every column -/
theorem C04_generated_inverse_transform_all (maxDomainSize extension : Nat) (o : Obj)
    (hobj : mkObj maxDomainSize extension = some o) (hext : extension ≤ 1) (d : Nat) (hd30 : d ≤ 30) (hn : 2 ^ d ≤ maxDomainSize)
    (fuel : Nat) (hp : Heap) (self : NTT_Goldilocks) (hrep : ObjRep hp self o) (hin : ObjIn hp self)
    (D Sx : Nat) (hD : D < hp.size) (hSx : Sx < hp.size) (hD0 : D ≠ 0) (hfrD : ObjFrame self D)
    (mode : DstMode) (hmode : mode = .other ↔ D ≠ Sx)
    (dst : Ptr) (hdst : (if (dst == Ptr.null) = true then (⟨Sx, 0⟩ : Ptr) else dst) = ⟨D, 0⟩)
    (ncols : Nat) (nphase nblock : BitVec 64) (hnc : 1 ≤ ncols) (hbound : 2 ^ d * ncols * 8 < 2 ^ 64)
    (hsrc : (hp.block Sx).size = 2 ^ d * ncols) (hdsts : mode = .other → (hp.block D).size = 2 ^ d * ncols)
    (hf : itersFuel self d ncols ≤ fuel) :
    ∃ out, NTT_INTT fuel hp self dst ⟨Sx, 0⟩ (bv (2 ^ d)) (bv ncols) Ptr.null nphase nblock false = some (hp.setBlock D out) ∧
      out.size = 2 ^ d * ncols ∧
      ∀ k c, k < 2 ^ d → c < ncols →
        den (out.getD (k * ncols + c) 0#64)
          = ((2 ^ d : Nat) : F)⁻¹ * ∑ j ∈ range (2 ^ d), den ((hp.block Sx).getD (j * ncols + c) 0#64) * (omega d)⁻¹ ^ (j * k) := by
  obtain ⟨hds, hs32, hext31⟩ := mkObj_bounds maxDomainSize extension o hobj hext d hn
  obtain ⟨out, e, hsz, hdft⟩ := C04_inverse_transform maxDomainSize extension o hobj hext d hn ncols nphase.toNat nblock.toNat
    hnc mode (hp.block D) (hp.block Sx) hsrc hdsts
  have hg := INTT_gen_all fuel hp self o hrep hin D Sx hD hSx hD0 hfrD mode hmode dst hdst d (2 ^ d) ncols nphase nblock false
    hd30 rfl hds hs32 hnc hbound hext31 (by intro h; cases h) hf
  rw [e] at hg
  exact ⟨out, hg, hsz, hdft⟩

/-- **the property on the generated function**: the TRANSLATED `INTT` returns, changes only the destination block, and
    that block holds the inverse DFT of every column -/
theorem C04_generated_inverse_transform (maxDomainSize extension : Nat) (o : Obj) (hobj : mkObj maxDomainSize extension = some o)
    (hext : extension ≤ 1) (d : Nat) (hd1 : 1 ≤ d) (hd30 : d ≤ 30) (hn : 2 ^ d ≤ maxDomainSize)
    (fuel : Nat) (hf : 64 ≤ fuel) (hp : Heap) (self : NTT_Goldilocks) (hrep : ObjRep hp self o) (hin : ObjIn hp self)
    (D Sx : Nat) (hD : D < hp.size) (hSx : Sx < hp.size) (hD0 : D ≠ 0) (hfrD : ObjFrame self D)
    (mode : DstMode) (hmode : mode = .other ↔ D ≠ Sx)
    (dst : Ptr) (hdst : (if (dst == Ptr.null) = true then (⟨Sx, 0⟩ : Ptr) else dst) = ⟨D, 0⟩)
    (ncols : Nat) (nphase nblock : BitVec 64) (hnc : 1 ≤ ncols) (hbound : 2 ^ d * ncols * 8 < 2 ^ 64)
    (hnb : clampBlock nblock.toNat ncols = 1)
    (hsrc : (hp.block Sx).size = 2 ^ d * ncols) (hdsts : mode = .other → (hp.block D).size = 2 ^ d * ncols) :
    ∃ out, NTT_INTT fuel hp self dst ⟨Sx, 0⟩ (bv (2 ^ d)) (bv ncols) Ptr.null nphase nblock false = some (hp.setBlock D out) ∧
      out.size = 2 ^ d * ncols ∧
      ∀ k c, k < 2 ^ d → c < ncols →
        den (out.getD (k * ncols + c) 0#64)
          = ((2 ^ d : Nat) : F)⁻¹ * ∑ j ∈ range (2 ^ d), den ((hp.block Sx).getD (j * ncols + c) 0#64) * (omega d)⁻¹ ^ (j * k) := 
  C04_generated_inverse_transform_all maxDomainSize extension o hobj hext d hd30 hn fuel hp self hrep hin D Sx hD hSx hD0 hfrD
    mode hmode dst hdst ncols nphase nblock hnc hbound hsrc hdsts (itersFuel_le self d ncols fuel hf (by omega))

/-- generated `INTT` WITH a caller scratch buffer (any content) = the model's `intt`, bit for bit, every `nblock`, every size -/
theorem C04_generated_INTT_buffer_eq_model (fuel : Nat) (hp : Heap) (self : NTT_Goldilocks) (o : Obj)
    (hrep : ObjRep hp self o) (hin : ObjIn hp self) (D Sx B : Nat) (hD : D < hp.size) (hSx : Sx < hp.size) (hB : B < hp.size)
    (hD0 : D ≠ 0) (hB0 : B ≠ 0) (hDB : D ≠ B) (hSB : Sx ≠ B) (hfrD : ObjFrame self D) (hfrB : ObjFrame self B)
    (mode : DstMode) (hmode : mode = .other ↔ D ≠ Sx)
    (dst : Ptr) (hdst : (if (dst == Ptr.null) = true then (⟨Sx, 0⟩ : Ptr) else dst) = ⟨D, 0⟩)
    (K N NC : Nat) (nphase nblock : BitVec 64) (extend : Bool)
    (hK : K ≤ 30) (hN : N = 2 ^ K) (hKs : K ≤ o.s) (hos : o.s ≤ 32) (hNC1 : 1 ≤ NC)
    (hNNC8 : N * NC * 8 < 2 ^ 64) (hext31 : o.extension < 2 ^ 31) (hcache : extend = true → o.rcache ≠ none)
    (hf : itersFuel self K NC ≤ fuel) (hdsz : N * NC ≤ (hp.block D).size) (hbuf : N * NC ≤ (hp.block B).size) :
    match intt o mode (hp.block D) (hp.block Sx) N NC nphase.toNat nblock.toNat extend with
    | .ok (d, _) => ∃ X', NTT_INTT fuel hp self dst ⟨Sx, 0⟩ (bv N) (bv NC) ⟨B, 0⟩ nphase nblock extend =
        some ((hp.setBlock D d).setBlock B X') ∧ X'.size = (hp.block B).size
    | .error _ => NTT_INTT fuel hp self dst ⟨Sx, 0⟩ (bv N) (bv NC) ⟨B, 0⟩ nphase nblock extend = none :=
  INTT_gen_buf_all fuel hp self o hrep hin D Sx B hD hSx hB hD0 hB0 hDB hSB hfrD hfrB mode hmode dst hdst K N NC nphase nblock
    extend hK hN hKs hos hNC1 hNNC8 hext31 hcache hf hdsz hbuf

/-- **the property on the generated function, caller scratch buffer, every `nblock`, every size 1 ≤ 2^d** -/
theorem C04_generated_inverse_transform_buffer_all (maxDomainSize extension : Nat) (o : Obj)
    (hobj : mkObj maxDomainSize extension = some o) (hext : extension ≤ 1) (d : Nat) (hd30 : d ≤ 30)
    (hn : 2 ^ d ≤ maxDomainSize)
    (fuel : Nat) (hp : Heap) (self : NTT_Goldilocks) (hrep : ObjRep hp self o) (hin : ObjIn hp self)
    (D Sx B : Nat) (hD : D < hp.size) (hSx : Sx < hp.size) (hB : B < hp.size) (hD0 : D ≠ 0) (hB0 : B ≠ 0) (hDB : D ≠ B)
    (hSB : Sx ≠ B) (hfrD : ObjFrame self D) (hfrB : ObjFrame self B)
    (mode : DstMode) (hmode : mode = .other ↔ D ≠ Sx)
    (dst : Ptr) (hdst : (if (dst == Ptr.null) = true then (⟨Sx, 0⟩ : Ptr) else dst) = ⟨D, 0⟩)
    (ncols : Nat) (nphase nblock : BitVec 64) (hnc : 1 ≤ ncols) (hbound : 2 ^ d * ncols * 8 < 2 ^ 64)
    (hsrc : (hp.block Sx).size = 2 ^ d * ncols) (hdsts : (hp.block D).size = 2 ^ d * ncols)
    (hbuf : 2 ^ d * ncols ≤ (hp.block B).size) (hf : itersFuel self d ncols ≤ fuel) :
    ∃ out X', NTT_INTT fuel hp self dst ⟨Sx, 0⟩ (bv (2 ^ d)) (bv ncols) ⟨B, 0⟩ nphase nblock false =
        some ((hp.setBlock D out).setBlock B X') ∧
      out.size = 2 ^ d * ncols ∧ X'.size = (hp.block B).size ∧
      ∀ k c, k < 2 ^ d → c < ncols →
        den (out.getD (k * ncols + c) 0#64)
          = ((2 ^ d : Nat) : F)⁻¹ * ∑ j ∈ range (2 ^ d), den ((hp.block Sx).getD (j * ncols + c) 0#64) * (omega d)⁻¹ ^ (j * k) := by
  obtain ⟨hds, hs32, hext31⟩ := mkObj_bounds maxDomainSize extension o hobj hext d hn
  obtain ⟨out, e, hsz, hdft⟩ := C04_inverse_transform maxDomainSize extension o hobj hext d hn ncols nphase.toNat nblock.toNat
    hnc mode (hp.block D) (hp.block Sx) hsrc (fun _ => hdsts)
  have hg := INTT_gen_buf_all fuel hp self o hrep hin D Sx B hD hSx hB hD0 hB0 hDB hSB hfrD hfrB mode hmode dst hdst d (2 ^ d) ncols
    nphase nblock false hd30 rfl hds hs32 hnc hbound hext31 (by intro h; cases h) hf (by omega) hbuf
  rw [e] at hg
  obtain ⟨X', hX, hXs⟩ := hg
  exact ⟨out, X', hX, hsz, hXs, hdft⟩

end generated_all

end GoldilocksVerif.C04
