-- GENERATED by tools/wrapspec.py from the C++ SIGNATURES (parameter types and names) of the current source. Do not edit.
-- One structural equality per strided / offset / broadcast overload: the wrapper IS the lane kernel applied to the
-- operands its parameters designate, written to the positions its output parameters designate (lane 0 first).
import GoldilocksVerif.Lemmas.WrapTac
import GoldilocksVerif.Gen.WrapBatch
import GoldilocksVerif.Gen.WrapAvx2
import GoldilocksVerif.Gen.WrapAvx512
namespace GoldilocksVerif.C17Gen
open GoldilocksVerif

/-- `copy_batch(Goldilocks::Element * dst, const Goldilocks::Element & src)` -/
theorem copy_batch__pE_spec (dst : Region) (src : BitVec 64) :
    Gen.WrapBatch.copy_batch__pE dst src =
      writeSeq dst (fun k => k) (fun _ => src) 4 := by
  wrap_proof Gen.WrapBatch.copy_batch__pE

/-- `copy_batch(Goldilocks::Element * dst, const Goldilocks::Element * src)` -/
theorem copy_batch__pP_spec (dst : Region) (src : Region) :
    Gen.WrapBatch.copy_batch__pP dst src =
      writeSeq dst (fun k => k) (fun k => src ((fun k => k) k)) 4 := by
  wrap_proof Gen.WrapBatch.copy_batch__pP

/-- `copy_batch(Goldilocks::Element * dst, const Goldilocks::Element * src, uint64_t stride)` -/
theorem copy_batch__pPE_spec (dst : Region) (src : Region) (stride : BitVec 64) :
    Gen.WrapBatch.copy_batch__pPE dst src stride =
      writeSeq dst (fun k => k) (fun k => src ((fun k => (BitVec.ofNat 64 k * stride).toNat) k)) 4 := by
  wrap_proof Gen.WrapBatch.copy_batch__pPE

/-- `copy_batch(Goldilocks::Element * dst, const Goldilocks::Element * src, uint64_t * stride)` -/
theorem copy_batch__pPp_spec (dst : Region) (src : Region) (stride : Region) :
    Gen.WrapBatch.copy_batch__pPp dst src stride =
      writeSeq dst (fun k => k) (fun k => src ((fun k => (stride k).toNat) k)) 4 := by
  wrap_proof Gen.WrapBatch.copy_batch__pPp

/-- `copy_batch(Goldilocks::Element * dst, uint64_t stride, const Goldilocks::Element * src)` -/
theorem copy_batch__pEP_spec (dst : Region) (stride : BitVec 64) (src : Region) :
    Gen.WrapBatch.copy_batch__pEP dst stride src =
      writeSeq dst (fun k => (BitVec.ofNat 64 k * stride).toNat) (fun k => src ((fun k => k) k)) 4 := by
  wrap_proof Gen.WrapBatch.copy_batch__pEP

/-- `copy_batch(Goldilocks::Element * dst, uint64_t * stride, const Goldilocks::Element * src)` -/
theorem copy_batch__ppP_spec (dst : Region) (stride : Region) (src : Region) :
    Gen.WrapBatch.copy_batch__ppP dst stride src =
      writeSeq dst (fun k => (stride k).toNat) (fun k => src ((fun k => k) k)) 4 := by
  wrap_proof Gen.WrapBatch.copy_batch__ppP

/-- `add_batch(Goldilocks::Element * result, const Goldilocks::Element * in1, const Goldilocks::Element * in2)` -/
theorem add_batch__pPP_spec (result : Region) (in1 : Region) (in2 : Region) :
    Gen.WrapBatch.add_batch__pPP result in1 in2 =
      writeSeq result (fun k => k) (fun k => Gen.Scalar.add__eEE ((fun k => in1 ((fun k => k) k)) k) ((fun k => in2 ((fun k => k) k)) k)) 4 := by
  wrap_proof Gen.WrapBatch.add_batch__pPP

/-- `add_batch(Goldilocks::Element * result, const Goldilocks::Element * in1, const Goldilocks::Element * in2, uint64_t offset2)` -/
theorem add_batch__pPPE_spec (result : Region) (in1 : Region) (in2 : Region) (offset2 : BitVec 64) :
    Gen.WrapBatch.add_batch__pPPE result in1 in2 offset2 =
      writeSeq result (fun k => k) (fun k => Gen.Scalar.add__eEE ((fun k => in1 ((fun k => k) k)) k) ((fun k => in2 ((fun k => (BitVec.ofNat 64 k * offset2).toNat) k)) k)) 4 := by
  wrap_proof Gen.WrapBatch.add_batch__pPPE

/-- `add_batch(Goldilocks::Element * result, const Goldilocks::Element * in1, const Goldilocks::Element in2)` -/
theorem add_batch__pPE_spec (result : Region) (in1 : Region) (in2 : BitVec 64) :
    Gen.WrapBatch.add_batch__pPE result in1 in2 =
      writeSeq result (fun k => k) (fun k => Gen.Scalar.add__eEE ((fun k => in1 ((fun k => k) k)) k) ((fun _ => in2) k)) 4 := by
  wrap_proof Gen.WrapBatch.add_batch__pPE

/-- `add_batch(Goldilocks::Element * result, const Goldilocks::Element * in1, const Goldilocks::Element in2, uint64_t offset1)` -/
theorem add_batch__pPEE_spec (result : Region) (in1 : Region) (in2 : BitVec 64) (offset1 : BitVec 64) :
    Gen.WrapBatch.add_batch__pPEE result in1 in2 offset1 =
      writeSeq result (fun k => k) (fun k => Gen.Scalar.add__eEE ((fun k => in1 ((fun k => (BitVec.ofNat 64 k * offset1).toNat) k)) k) ((fun _ => in2) k)) 4 := by
  wrap_proof Gen.WrapBatch.add_batch__pPEE

/-- `add_batch(Goldilocks::Element * result, const Goldilocks::Element * in1, const Goldilocks::Element * in2, uint64_t offset1, uint64_t offset2)` -/
theorem add_batch__pPPEE_spec (result : Region) (in1 : Region) (in2 : Region) (offset1 : BitVec 64) (offset2 : BitVec 64) :
    Gen.WrapBatch.add_batch__pPPEE result in1 in2 offset1 offset2 =
      writeSeq result (fun k => k) (fun k => Gen.Scalar.add__eEE ((fun k => in1 ((fun k => (BitVec.ofNat 64 k * offset1).toNat) k)) k) ((fun k => in2 ((fun k => (BitVec.ofNat 64 k * offset2).toNat) k)) k)) 4 := by
  wrap_proof Gen.WrapBatch.add_batch__pPPEE

/-- `add_batch(Goldilocks::Element * result, const Goldilocks::Element * in1, const Goldilocks::Element * in2, const uint64_t * offsets1, const uint64_t * offsets2)` -/
theorem add_batch__pPPPP_spec (result : Region) (in1 : Region) (in2 : Region) (offsets1 : Region) (offsets2 : Region) :
    Gen.WrapBatch.add_batch__pPPPP result in1 in2 offsets1 offsets2 =
      writeSeq result (fun k => k) (fun k => Gen.Scalar.add__eEE ((fun k => in1 ((fun k => (offsets1 k).toNat) k)) k) ((fun k => in2 ((fun k => (offsets2 k).toNat) k)) k)) 4 := by
  wrap_proof Gen.WrapBatch.add_batch__pPPPP

/-- `add_batch(Goldilocks::Element * result, const Goldilocks::Element * in1, const Goldilocks::Element in2, const uint64_t * offsets1)` -/
theorem add_batch__pPEP_spec (result : Region) (in1 : Region) (in2 : BitVec 64) (offsets1 : Region) :
    Gen.WrapBatch.add_batch__pPEP result in1 in2 offsets1 =
      writeSeq result (fun k => k) (fun k => Gen.Scalar.add__eEE ((fun k => in1 ((fun k => (offsets1 k).toNat) k)) k) ((fun _ => in2) k)) 4 := by
  wrap_proof Gen.WrapBatch.add_batch__pPEP

/-- `sub_batch(Goldilocks::Element * result, const Goldilocks::Element * in1, const Goldilocks::Element * in2)` -/
theorem sub_batch__pPP_spec (result : Region) (in1 : Region) (in2 : Region) :
    Gen.WrapBatch.sub_batch__pPP result in1 in2 =
      writeSeq result (fun k => k) (fun k => Gen.Scalar.sub__eEE ((fun k => in1 ((fun k => k) k)) k) ((fun k => in2 ((fun k => k) k)) k)) 4 := by
  wrap_proof Gen.WrapBatch.sub_batch__pPP

/-- `sub_batch(Goldilocks::Element * result, const Goldilocks::Element * in1, const Goldilocks::Element * in2, uint64_t offset1, uint64_t offset2)` -/
theorem sub_batch__pPPEE_spec (result : Region) (in1 : Region) (in2 : Region) (offset1 : BitVec 64) (offset2 : BitVec 64) :
    Gen.WrapBatch.sub_batch__pPPEE result in1 in2 offset1 offset2 =
      writeSeq result (fun k => k) (fun k => Gen.Scalar.sub__eEE ((fun k => in1 ((fun k => (BitVec.ofNat 64 k * offset1).toNat) k)) k) ((fun k => in2 ((fun k => (BitVec.ofNat 64 k * offset2).toNat) k)) k)) 4 := by
  wrap_proof Gen.WrapBatch.sub_batch__pPPEE

/-- `sub_batch(Goldilocks::Element * result, const Goldilocks::Element * in1, const Goldilocks::Element in2)` -/
theorem sub_batch__pPE_spec (result : Region) (in1 : Region) (in2 : BitVec 64) :
    Gen.WrapBatch.sub_batch__pPE result in1 in2 =
      writeSeq result (fun k => k) (fun k => Gen.Scalar.sub__eEE ((fun k => in1 ((fun k => k) k)) k) ((fun _ => in2) k)) 4 := by
  wrap_proof Gen.WrapBatch.sub_batch__pPE

/-- `sub_batch(Goldilocks::Element * result, const Goldilocks::Element in1, const Goldilocks::Element * in2)` -/
theorem sub_batch__pEP_spec (result : Region) (in1 : BitVec 64) (in2 : Region) :
    Gen.WrapBatch.sub_batch__pEP result in1 in2 =
      writeSeq result (fun k => k) (fun k => Gen.Scalar.sub__eEE ((fun _ => in1) k) ((fun k => in2 ((fun k => k) k)) k)) 4 := by
  wrap_proof Gen.WrapBatch.sub_batch__pEP

/-- `sub_batch(Goldilocks::Element * result, const Goldilocks::Element * in1, const Goldilocks::Element in2, uint64_t offset1)` -/
theorem sub_batch__pPEE_spec (result : Region) (in1 : Region) (in2 : BitVec 64) (offset1 : BitVec 64) :
    Gen.WrapBatch.sub_batch__pPEE result in1 in2 offset1 =
      writeSeq result (fun k => k) (fun k => Gen.Scalar.sub__eEE ((fun k => in1 ((fun k => (BitVec.ofNat 64 k * offset1).toNat) k)) k) ((fun _ => in2) k)) 4 := by
  wrap_proof Gen.WrapBatch.sub_batch__pPEE

/-- `sub_batch(Goldilocks::Element * result, const Goldilocks::Element in1, const Goldilocks::Element * in2, uint64_t offset2)` -/
theorem sub_batch__pEPE_spec (result : Region) (in1 : BitVec 64) (in2 : Region) (offset2 : BitVec 64) :
    Gen.WrapBatch.sub_batch__pEPE result in1 in2 offset2 =
      writeSeq result (fun k => k) (fun k => Gen.Scalar.sub__eEE ((fun _ => in1) k) ((fun k => in2 ((fun k => (BitVec.ofNat 64 k * offset2).toNat) k)) k)) 4 := by
  wrap_proof Gen.WrapBatch.sub_batch__pEPE

/-- `sub_batch(Goldilocks::Element * result, const Goldilocks::Element * in1, const Goldilocks::Element * in2, const uint64_t * offsets1, const uint64_t * offsets2)` -/
theorem sub_batch__pPPPP_spec (result : Region) (in1 : Region) (in2 : Region) (offsets1 : Region) (offsets2 : Region) :
    Gen.WrapBatch.sub_batch__pPPPP result in1 in2 offsets1 offsets2 =
      writeSeq result (fun k => k) (fun k => Gen.Scalar.sub__eEE ((fun k => in1 ((fun k => (offsets1 k).toNat) k)) k) ((fun k => in2 ((fun k => (offsets2 k).toNat) k)) k)) 4 := by
  wrap_proof Gen.WrapBatch.sub_batch__pPPPP

/-- `sub_batch(Goldilocks::Element * result, const Goldilocks::Element in1, const Goldilocks::Element * in2, const uint64_t * offsets2)` -/
theorem sub_batch__pEPP_spec (result : Region) (in1 : BitVec 64) (in2 : Region) (offsets2 : Region) :
    Gen.WrapBatch.sub_batch__pEPP result in1 in2 offsets2 =
      writeSeq result (fun k => k) (fun k => Gen.Scalar.sub__eEE ((fun _ => in1) k) ((fun k => in2 ((fun k => (offsets2 k).toNat) k)) k)) 4 := by
  wrap_proof Gen.WrapBatch.sub_batch__pEPP

/-- `sub_batch(Goldilocks::Element * result, const Goldilocks::Element * in1, const Goldilocks::Element in2, const uint64_t * offsets1)` -/
theorem sub_batch__pPEP_spec (result : Region) (in1 : Region) (in2 : BitVec 64) (offsets1 : Region) :
    Gen.WrapBatch.sub_batch__pPEP result in1 in2 offsets1 =
      writeSeq result (fun k => k) (fun k => Gen.Scalar.sub__eEE ((fun k => in1 ((fun k => (offsets1 k).toNat) k)) k) ((fun _ => in2) k)) 4 := by
  wrap_proof Gen.WrapBatch.sub_batch__pPEP

/-- `mul_batch(Goldilocks::Element * result, const Goldilocks::Element * in1, const Goldilocks::Element * in2)` -/
theorem mul_batch__pPP_spec (result : Region) (in1 : Region) (in2 : Region) :
    Gen.WrapBatch.mul_batch__pPP result in1 in2 =
      writeSeq result (fun k => k) (fun k => Gen.Scalar.mul__eEE ((fun k => in1 ((fun k => k) k)) k) ((fun k => in2 ((fun k => k) k)) k)) 4 := by
  wrap_proof Gen.WrapBatch.mul_batch__pPP

/-- `mul_batch(Goldilocks::Element * result, const Goldilocks::Element in1, const Goldilocks::Element * in2)` -/
theorem mul_batch__pEP_spec (result : Region) (in1 : BitVec 64) (in2 : Region) :
    Gen.WrapBatch.mul_batch__pEP result in1 in2 =
      writeSeq result (fun k => k) (fun k => Gen.Scalar.mul__eEE ((fun _ => in1) k) ((fun k => in2 ((fun k => k) k)) k)) 4 := by
  wrap_proof Gen.WrapBatch.mul_batch__pEP

/-- `mul_batch(Goldilocks::Element * result, const Goldilocks::Element * in1, const Goldilocks::Element * in2, uint64_t offset1, uint64_t offset2)` -/
theorem mul_batch__pPPEE_spec (result : Region) (in1 : Region) (in2 : Region) (offset1 : BitVec 64) (offset2 : BitVec 64) :
    Gen.WrapBatch.mul_batch__pPPEE result in1 in2 offset1 offset2 =
      writeSeq result (fun k => k) (fun k => Gen.Scalar.mul__eEE ((fun k => in1 ((fun k => (BitVec.ofNat 64 k * offset1).toNat) k)) k) ((fun k => in2 ((fun k => (BitVec.ofNat 64 k * offset2).toNat) k)) k)) 4 := by
  wrap_proof Gen.WrapBatch.mul_batch__pPPEE

/-- `mul_batch(Goldilocks::Element * result, const Goldilocks::Element in1, const Goldilocks::Element * in2, uint64_t offset2)` -/
theorem mul_batch__pEPE_spec (result : Region) (in1 : BitVec 64) (in2 : Region) (offset2 : BitVec 64) :
    Gen.WrapBatch.mul_batch__pEPE result in1 in2 offset2 =
      writeSeq result (fun k => k) (fun k => Gen.Scalar.mul__eEE ((fun _ => in1) k) ((fun k => in2 ((fun k => (BitVec.ofNat 64 k * offset2).toNat) k)) k)) 4 := by
  wrap_proof Gen.WrapBatch.mul_batch__pEPE

/-- `mul_batch(Goldilocks::Element * result, const Goldilocks::Element * in1, const Goldilocks::Element * in2, const uint64_t * offsets1, const uint64_t * offsets2)` -/
theorem mul_batch__pPPPP_spec (result : Region) (in1 : Region) (in2 : Region) (offsets1 : Region) (offsets2 : Region) :
    Gen.WrapBatch.mul_batch__pPPPP result in1 in2 offsets1 offsets2 =
      writeSeq result (fun k => k) (fun k => Gen.Scalar.mul__eEE ((fun k => in1 ((fun k => (offsets1 k).toNat) k)) k) ((fun k => in2 ((fun k => (offsets2 k).toNat) k)) k)) 4 := by
  wrap_proof Gen.WrapBatch.mul_batch__pPPPP

/-- `copy_avx(Goldilocks::Element * dst, const Goldilocks::Element & src)` -/
theorem copy_avx__pE_spec (dst : Region) (src : BitVec 64) :
    Gen.WrapAvx2.copy_avx__pE dst src =
      writeSeq dst (fun k => k) (fun _ => src) 4 := by
  wrap_proof Gen.WrapAvx2.copy_avx__pE

/-- `copy_avx(Goldilocks::Element * dst, const Goldilocks::Element * src)` -/
theorem copy_avx__pP_spec (dst : Region) (src : Region) :
    Gen.WrapAvx2.copy_avx__pP dst src =
      writeSeq dst (fun k => k) (fun k => src ((fun k => k) k)) 4 := by
  wrap_proof Gen.WrapAvx2.copy_avx__pP

/-- `copy_avx(Goldilocks::Element * dst, const Goldilocks::Element * src, uint64_t stride)` -/
theorem copy_avx__pPE_spec (dst : Region) (src : Region) (stride : BitVec 64) :
    Gen.WrapAvx2.copy_avx__pPE dst src stride =
      writeSeq dst (fun k => k) (fun k => src ((fun k => (BitVec.ofNat 64 k * stride).toNat) k)) 4 := by
  wrap_proof Gen.WrapAvx2.copy_avx__pPE

/-- `copy_avx(Goldilocks::Element * dst, uint64_t stride_dst, const Goldilocks::Element * src, uint64_t stride)` -/
theorem copy_avx__pEPE_spec (dst : Region) (stride_dst : BitVec 64) (src : Region) (stride : BitVec 64) :
    Gen.WrapAvx2.copy_avx__pEPE dst stride_dst src stride =
      writeSeq dst (fun k => (BitVec.ofNat 64 k * stride_dst).toNat) (fun k => src ((fun k => (BitVec.ofNat 64 k * stride).toNat) k)) 4 := by
  wrap_proof Gen.WrapAvx2.copy_avx__pEPE

/-- `copy_avx(Goldilocks::Element * dst, const Goldilocks::Element * src, uint64_t * stride)` -/
theorem copy_avx__pPp_spec (dst : Region) (src : Region) (stride : Region) :
    Gen.WrapAvx2.copy_avx__pPp dst src stride =
      writeSeq dst (fun k => k) (fun k => src ((fun k => (stride k).toNat) k)) 4 := by
  wrap_proof Gen.WrapAvx2.copy_avx__pPp

/-- `copy_avx(__m256i & dst_, const Goldilocks::Element & src)` -/
theorem copy_avx__vE_spec (src : BitVec 64) :
    Gen.WrapAvx2.copy_avx__vE src =
      (V4.ofFn (fun _ => src)) := by
  wrap_proof Gen.WrapAvx2.copy_avx__vE

/-- `copy_avx(__m256i & dst_, const __m256i & src_)` -/
theorem copy_avx__vV_spec (src_ : V4) :
    Gen.WrapAvx2.copy_avx__vV src_ =
      src_ := by
  wrap_proof Gen.WrapAvx2.copy_avx__vV

/-- `copy_avx(__m256i & dst_, const Goldilocks::Element * src, uint64_t stride)` -/
theorem copy_avx__vPE_spec (src : Region) (stride : BitVec 64) :
    Gen.WrapAvx2.copy_avx__vPE src stride =
      (V4.ofFn (fun k => src ((fun k => (BitVec.ofNat 64 k * stride).toNat) k))) := by
  wrap_proof Gen.WrapAvx2.copy_avx__vPE

/-- `copy_avx(__m256i & dst_, const Goldilocks::Element * src, uint64_t * stride)` -/
theorem copy_avx__vPp_spec (src : Region) (stride : Region) :
    Gen.WrapAvx2.copy_avx__vPp src stride =
      (V4.ofFn (fun k => src ((fun k => (stride k).toNat) k))) := by
  wrap_proof Gen.WrapAvx2.copy_avx__vPp

/-- `copy_avx(Goldilocks::Element * dst, uint64_t stride, const __m256i & src_)` -/
theorem copy_avx__pEV_spec (dst : Region) (stride : BitVec 64) (src_ : V4) :
    Gen.WrapAvx2.copy_avx__pEV dst stride src_ =
      writeSeq dst (fun k => (BitVec.ofNat 64 k * stride).toNat) (V4.getN src_) 4 := by
  wrap_proof Gen.WrapAvx2.copy_avx__pEV

/-- `copy_avx(Goldilocks::Element * dst, uint64_t * stride, const __m256i & src_)` -/
theorem copy_avx__ppV_spec (dst : Region) (stride : Region) (src_ : V4) :
    Gen.WrapAvx2.copy_avx__ppV dst stride src_ =
      writeSeq dst (fun k => (stride k).toNat) (V4.getN src_) 4 := by
  wrap_proof Gen.WrapAvx2.copy_avx__ppV

/-- `add_avx(Goldilocks::Element * c4, const Goldilocks::Element * a4, const Goldilocks::Element * b4)` -/
theorem add_avx__pPP_spec (c4 : Region) (a4 : Region) (b4 : Region) :
    Gen.WrapAvx2.add_avx__pPP c4 a4 b4 =
      writeSeq c4 (fun k => k) (V4.getN (Gen.Avx2.add_avx__vVV (V4.ofFn (fun k => a4 ((fun k => k) k))) (V4.ofFn (fun k => b4 ((fun k => k) k))))) 4 := by
  wrap_proof Gen.WrapAvx2.add_avx__pPP

/-- `add_avx(Goldilocks::Element * c4, const Goldilocks::Element * a4, const Goldilocks::Element * b4, uint64_t offset_b)` -/
theorem add_avx__pPPE_spec (c4 : Region) (a4 : Region) (b4 : Region) (offset_b : BitVec 64) :
    Gen.WrapAvx2.add_avx__pPPE c4 a4 b4 offset_b =
      writeSeq c4 (fun k => k) (V4.getN (Gen.Avx2.add_avx__vVV (V4.ofFn (fun k => a4 ((fun k => k) k))) (V4.ofFn (fun k => b4 ((fun k => (BitVec.ofNat 64 k * offset_b).toNat) k))))) 4 := by
  wrap_proof Gen.WrapAvx2.add_avx__pPPE

/-- `add_avx(Goldilocks::Element * c4, const Goldilocks::Element * a4, const Goldilocks::Element * b4, const uint64_t * offset_b)` -/
theorem add_avx__pPPP_spec (c4 : Region) (a4 : Region) (b4 : Region) (offset_b : Region) :
    Gen.WrapAvx2.add_avx__pPPP c4 a4 b4 offset_b =
      writeSeq c4 (fun k => k) (V4.getN (Gen.Avx2.add_avx__vVV (V4.ofFn (fun k => a4 ((fun k => k) k))) (V4.ofFn (fun k => b4 ((fun k => (offset_b k).toNat) k))))) 4 := by
  wrap_proof Gen.WrapAvx2.add_avx__pPPP

/-- `add_avx(Goldilocks::Element * c4, const Goldilocks::Element * a4, const Goldilocks::Element b)` -/
theorem add_avx__pPE_spec (c4 : Region) (a4 : Region) (b : BitVec 64) :
    Gen.WrapAvx2.add_avx__pPE c4 a4 b =
      writeSeq c4 (fun k => k) (V4.getN (Gen.Avx2.add_avx__vVV (V4.ofFn (fun k => a4 ((fun k => k) k))) (V4.ofFn (fun _ => b)))) 4 := by
  wrap_proof Gen.WrapAvx2.add_avx__pPE

/-- `add_avx(Goldilocks::Element * c4, const Goldilocks::Element * a4, const Goldilocks::Element b, uint64_t offset_a)` -/
theorem add_avx__pPEE_spec (c4 : Region) (a4 : Region) (b : BitVec 64) (offset_a : BitVec 64) :
    Gen.WrapAvx2.add_avx__pPEE c4 a4 b offset_a =
      writeSeq c4 (fun k => k) (V4.getN (Gen.Avx2.add_avx__vVV (V4.ofFn (fun k => a4 ((fun k => (BitVec.ofNat 64 k * offset_a).toNat) k))) (V4.ofFn (fun _ => b)))) 4 := by
  wrap_proof Gen.WrapAvx2.add_avx__pPEE

/-- `add_avx(Goldilocks::Element * c4, const Goldilocks::Element * a4, const Goldilocks::Element * b4, uint64_t offset_a, uint64_t offset_b)` -/
theorem add_avx__pPPEE_spec (c4 : Region) (a4 : Region) (b4 : Region) (offset_a : BitVec 64) (offset_b : BitVec 64) :
    Gen.WrapAvx2.add_avx__pPPEE c4 a4 b4 offset_a offset_b =
      writeSeq c4 (fun k => k) (V4.getN (Gen.Avx2.add_avx__vVV (V4.ofFn (fun k => a4 ((fun k => (BitVec.ofNat 64 k * offset_a).toNat) k))) (V4.ofFn (fun k => b4 ((fun k => (BitVec.ofNat 64 k * offset_b).toNat) k))))) 4 := by
  wrap_proof Gen.WrapAvx2.add_avx__pPPEE

/-- `add_avx(Goldilocks::Element * c4, uint64_t offset_c, const Goldilocks::Element * a4, uint64_t offset_a, const Goldilocks::Element * b4, uint64_t offset_b)` -/
theorem add_avx__pEPEPE_spec (c4 : Region) (offset_c : BitVec 64) (a4 : Region) (offset_a : BitVec 64) (b4 : Region) (offset_b : BitVec 64) :
    Gen.WrapAvx2.add_avx__pEPEPE c4 offset_c a4 offset_a b4 offset_b =
      writeSeq c4 (fun k => (BitVec.ofNat 64 k * offset_c).toNat) (V4.getN (Gen.Avx2.add_avx__vVV (V4.ofFn (fun k => a4 ((fun k => (BitVec.ofNat 64 k * offset_a).toNat) k))) (V4.ofFn (fun k => b4 ((fun k => (BitVec.ofNat 64 k * offset_b).toNat) k))))) 4 := by
  wrap_proof Gen.WrapAvx2.add_avx__pEPEPE

/-- `add_avx(Goldilocks::Element * c4, const Goldilocks::Element * a4, const Goldilocks::Element * b4, const uint64_t * offset_a, const uint64_t * offset_b)` -/
theorem add_avx__pPPPP_spec (c4 : Region) (a4 : Region) (b4 : Region) (offset_a : Region) (offset_b : Region) :
    Gen.WrapAvx2.add_avx__pPPPP c4 a4 b4 offset_a offset_b =
      writeSeq c4 (fun k => k) (V4.getN (Gen.Avx2.add_avx__vVV (V4.ofFn (fun k => a4 ((fun k => (offset_a k).toNat) k))) (V4.ofFn (fun k => b4 ((fun k => (offset_b k).toNat) k))))) 4 := by
  wrap_proof Gen.WrapAvx2.add_avx__pPPPP

/-- `add_avx(Goldilocks::Element * c4, const Goldilocks::Element * a4, const Goldilocks::Element b, const uint64_t * offset_a)` -/
theorem add_avx__pPEP_spec (c4 : Region) (a4 : Region) (b : BitVec 64) (offset_a : Region) :
    Gen.WrapAvx2.add_avx__pPEP c4 a4 b offset_a =
      writeSeq c4 (fun k => k) (V4.getN (Gen.Avx2.add_avx__vVV (V4.ofFn (fun k => a4 ((fun k => (offset_a k).toNat) k))) (V4.ofFn (fun _ => b)))) 4 := by
  wrap_proof Gen.WrapAvx2.add_avx__pPEP

/-- `add_avx(__m256i & c_, const __m256i & a_, const Goldilocks::Element * b4, uint64_t offset_b)` -/
theorem add_avx__vVPE_spec (a_ : V4) (b4 : Region) (offset_b : BitVec 64) :
    Gen.WrapAvx2.add_avx__vVPE a_ b4 offset_b =
      (Gen.Avx2.add_avx__vVV a_ (V4.ofFn (fun k => b4 ((fun k => (BitVec.ofNat 64 k * offset_b).toNat) k)))) := by
  wrap_proof Gen.WrapAvx2.add_avx__vVPE

/-- `add_avx(Goldilocks::Element * c, uint64_t offset_c, const __m256i & a_, const __m256i & b_)` -/
theorem add_avx__pEVV_spec (c : Region) (offset_c : BitVec 64) (a_ : V4) (b_ : V4) :
    Gen.WrapAvx2.add_avx__pEVV c offset_c a_ b_ =
      writeSeq c (fun k => (BitVec.ofNat 64 k * offset_c).toNat) (V4.getN (Gen.Avx2.add_avx__vVV a_ b_)) 4 := by
  wrap_proof Gen.WrapAvx2.add_avx__pEVV

/-- `add_avx(Goldilocks::Element * c, uint64_t offset_c, const __m256i & a_, const Goldilocks::Element * b, uint64_t offset_b)` -/
theorem add_avx__pEVPE_spec (c : Region) (offset_c : BitVec 64) (a_ : V4) (b : Region) (offset_b : BitVec 64) :
    Gen.WrapAvx2.add_avx__pEVPE c offset_c a_ b offset_b =
      writeSeq c (fun k => (BitVec.ofNat 64 k * offset_c).toNat) (V4.getN (Gen.Avx2.add_avx__vVV a_ (V4.ofFn (fun k => b ((fun k => (BitVec.ofNat 64 k * offset_b).toNat) k))))) 4 := by
  wrap_proof Gen.WrapAvx2.add_avx__pEVPE

/-- `add_avx(Goldilocks::Element * c, const uint64_t * offset_c, const __m256i & a_, const __m256i & b_)` -/
theorem add_avx__pPVV_spec (c : Region) (offset_c : Region) (a_ : V4) (b_ : V4) :
    Gen.WrapAvx2.add_avx__pPVV c offset_c a_ b_ =
      writeSeq c (fun k => (offset_c k).toNat) (V4.getN (Gen.Avx2.add_avx__vVV a_ b_)) 4 := by
  wrap_proof Gen.WrapAvx2.add_avx__pPVV

/-- `add_avx(Goldilocks::Element * c, const uint64_t * offset_c, const __m256i & a_, const Goldilocks::Element * b, uint64_t offset_b)` -/
theorem add_avx__pPVPE_spec (c : Region) (offset_c : Region) (a_ : V4) (b : Region) (offset_b : BitVec 64) :
    Gen.WrapAvx2.add_avx__pPVPE c offset_c a_ b offset_b =
      writeSeq c (fun k => (offset_c k).toNat) (V4.getN (Gen.Avx2.add_avx__vVV a_ (V4.ofFn (fun k => b ((fun k => (BitVec.ofNat 64 k * offset_b).toNat) k))))) 4 := by
  wrap_proof Gen.WrapAvx2.add_avx__pPVPE

/-- `add_avx(Goldilocks::Element * c, const uint64_t * offset_c, const __m256i & a_, const Goldilocks::Element * b, uint64_t * offset_b)` -/
theorem add_avx__pPVPp_spec (c : Region) (offset_c : Region) (a_ : V4) (b : Region) (offset_b : Region) :
    Gen.WrapAvx2.add_avx__pPVPp c offset_c a_ b offset_b =
      writeSeq c (fun k => (offset_c k).toNat) (V4.getN (Gen.Avx2.add_avx__vVV a_ (V4.ofFn (fun k => b ((fun k => (offset_b k).toNat) k))))) 4 := by
  wrap_proof Gen.WrapAvx2.add_avx__pPVPp

/-- `add_avx(__m256i & c_, const __m256i & a_, const Goldilocks::Element * b4, const uint64_t * offset_b)` -/
theorem add_avx__vVPP_spec (a_ : V4) (b4 : Region) (offset_b : Region) :
    Gen.WrapAvx2.add_avx__vVPP a_ b4 offset_b =
      (Gen.Avx2.add_avx__vVV a_ (V4.ofFn (fun k => b4 ((fun k => (offset_b k).toNat) k)))) := by
  wrap_proof Gen.WrapAvx2.add_avx__vVPP

/-- `add_avx(__m256i & c_, const __m256i & a_, const Goldilocks::Element b)` -/
theorem add_avx__vVE_spec (a_ : V4) (b : BitVec 64) :
    Gen.WrapAvx2.add_avx__vVE a_ b =
      (Gen.Avx2.add_avx__vVV a_ (V4.ofFn (fun _ => b))) := by
  wrap_proof Gen.WrapAvx2.add_avx__vVE

/-- `add_avx(__m256i & c_, const Goldilocks::Element * a4, const Goldilocks::Element b, uint64_t offset_a)` -/
theorem add_avx__vPEE_spec (a4 : Region) (b : BitVec 64) (offset_a : BitVec 64) :
    Gen.WrapAvx2.add_avx__vPEE a4 b offset_a =
      (Gen.Avx2.add_avx__vVV (V4.ofFn (fun k => a4 ((fun k => (BitVec.ofNat 64 k * offset_a).toNat) k))) (V4.ofFn (fun _ => b))) := by
  wrap_proof Gen.WrapAvx2.add_avx__vPEE

/-- `add_avx(__m256i & c_, const Goldilocks::Element * a4, const Goldilocks::Element * b4, uint64_t offset_a, uint64_t offset_b)` -/
theorem add_avx__vPPEE_spec (a4 : Region) (b4 : Region) (offset_a : BitVec 64) (offset_b : BitVec 64) :
    Gen.WrapAvx2.add_avx__vPPEE a4 b4 offset_a offset_b =
      (Gen.Avx2.add_avx__vVV (V4.ofFn (fun k => a4 ((fun k => (BitVec.ofNat 64 k * offset_a).toNat) k))) (V4.ofFn (fun k => b4 ((fun k => (BitVec.ofNat 64 k * offset_b).toNat) k)))) := by
  wrap_proof Gen.WrapAvx2.add_avx__vPPEE

/-- `add_avx(__m256i & c_, const Goldilocks::Element * a4, const Goldilocks::Element * b4, const uint64_t * offset_a, const uint64_t * offset_b)` -/
theorem add_avx__vPPPP_spec (a4 : Region) (b4 : Region) (offset_a : Region) (offset_b : Region) :
    Gen.WrapAvx2.add_avx__vPPPP a4 b4 offset_a offset_b =
      (Gen.Avx2.add_avx__vVV (V4.ofFn (fun k => a4 ((fun k => (offset_a k).toNat) k))) (V4.ofFn (fun k => b4 ((fun k => (offset_b k).toNat) k)))) := by
  wrap_proof Gen.WrapAvx2.add_avx__vPPPP

/-- `add_avx(__m256i & c_, const Goldilocks::Element * a4, const Goldilocks::Element b, const uint64_t * offset_a)` -/
theorem add_avx__vPEP_spec (a4 : Region) (b : BitVec 64) (offset_a : Region) :
    Gen.WrapAvx2.add_avx__vPEP a4 b offset_a =
      (Gen.Avx2.add_avx__vVV (V4.ofFn (fun k => a4 ((fun k => (offset_a k).toNat) k))) (V4.ofFn (fun _ => b))) := by
  wrap_proof Gen.WrapAvx2.add_avx__vPEP

/-- `sub_avx(Goldilocks::Element * c4, const Goldilocks::Element * a4, const Goldilocks::Element * b4)` -/
theorem sub_avx__pPP_spec (c4 : Region) (a4 : Region) (b4 : Region) :
    Gen.WrapAvx2.sub_avx__pPP c4 a4 b4 =
      writeSeq c4 (fun k => k) (V4.getN (Gen.Avx2.sub_avx__vVV (V4.ofFn (fun k => a4 ((fun k => k) k))) (V4.ofFn (fun k => b4 ((fun k => k) k))))) 4 := by
  wrap_proof Gen.WrapAvx2.sub_avx__pPP

/-- `sub_avx(Goldilocks::Element * c4, const Goldilocks::Element * a4, const Goldilocks::Element * b4, uint64_t offset_a, uint64_t offset_b)` -/
theorem sub_avx__pPPEE_spec (c4 : Region) (a4 : Region) (b4 : Region) (offset_a : BitVec 64) (offset_b : BitVec 64) :
    Gen.WrapAvx2.sub_avx__pPPEE c4 a4 b4 offset_a offset_b =
      writeSeq c4 (fun k => k) (V4.getN (Gen.Avx2.sub_avx__vVV (V4.ofFn (fun k => a4 ((fun k => (BitVec.ofNat 64 k * offset_a).toNat) k))) (V4.ofFn (fun k => b4 ((fun k => (BitVec.ofNat 64 k * offset_b).toNat) k))))) 4 := by
  wrap_proof Gen.WrapAvx2.sub_avx__pPPEE

/-- `sub_avx(Goldilocks::Element * c4, const Goldilocks::Element * a4, const Goldilocks::Element b)` -/
theorem sub_avx__pPE_spec (c4 : Region) (a4 : Region) (b : BitVec 64) :
    Gen.WrapAvx2.sub_avx__pPE c4 a4 b =
      writeSeq c4 (fun k => k) (V4.getN (Gen.Avx2.sub_avx__vVV (V4.ofFn (fun k => a4 ((fun k => k) k))) (V4.ofFn (fun _ => b)))) 4 := by
  wrap_proof Gen.WrapAvx2.sub_avx__pPE

/-- `sub_avx(Goldilocks::Element * c4, const Goldilocks::Element a, const Goldilocks::Element * b4)` -/
theorem sub_avx__pEP_spec (c4 : Region) (a : BitVec 64) (b4 : Region) :
    Gen.WrapAvx2.sub_avx__pEP c4 a b4 =
      writeSeq c4 (fun k => k) (V4.getN (Gen.Avx2.sub_avx__vVV (V4.ofFn (fun _ => a)) (V4.ofFn (fun k => b4 ((fun k => k) k))))) 4 := by
  wrap_proof Gen.WrapAvx2.sub_avx__pEP

/-- `sub_avx(Goldilocks::Element * c4, const Goldilocks::Element * a4, const Goldilocks::Element b, uint64_t offset_a)` -/
theorem sub_avx__pPEE_spec (c4 : Region) (a4 : Region) (b : BitVec 64) (offset_a : BitVec 64) :
    Gen.WrapAvx2.sub_avx__pPEE c4 a4 b offset_a =
      writeSeq c4 (fun k => k) (V4.getN (Gen.Avx2.sub_avx__vVV (V4.ofFn (fun k => a4 ((fun k => (BitVec.ofNat 64 k * offset_a).toNat) k))) (V4.ofFn (fun _ => b)))) 4 := by
  wrap_proof Gen.WrapAvx2.sub_avx__pPEE

/-- `sub_avx(Goldilocks::Element * c4, const Goldilocks::Element a, const Goldilocks::Element * b4, uint64_t offset_b)` -/
theorem sub_avx__pEPE_spec (c4 : Region) (a : BitVec 64) (b4 : Region) (offset_b : BitVec 64) :
    Gen.WrapAvx2.sub_avx__pEPE c4 a b4 offset_b =
      writeSeq c4 (fun k => k) (V4.getN (Gen.Avx2.sub_avx__vVV (V4.ofFn (fun _ => a)) (V4.ofFn (fun k => b4 ((fun k => (BitVec.ofNat 64 k * offset_b).toNat) k))))) 4 := by
  wrap_proof Gen.WrapAvx2.sub_avx__pEPE

/-- `sub_avx(Goldilocks::Element * c4, const Goldilocks::Element * a4, const Goldilocks::Element * b4, const uint64_t * offset_a, const uint64_t * offset_b)` -/
theorem sub_avx__pPPPP_spec (c4 : Region) (a4 : Region) (b4 : Region) (offset_a : Region) (offset_b : Region) :
    Gen.WrapAvx2.sub_avx__pPPPP c4 a4 b4 offset_a offset_b =
      writeSeq c4 (fun k => k) (V4.getN (Gen.Avx2.sub_avx__vVV (V4.ofFn (fun k => a4 ((fun k => (offset_a k).toNat) k))) (V4.ofFn (fun k => b4 ((fun k => (offset_b k).toNat) k))))) 4 := by
  wrap_proof Gen.WrapAvx2.sub_avx__pPPPP

/-- `sub_avx(Goldilocks::Element * c4, const Goldilocks::Element a, const Goldilocks::Element * b4, const uint64_t * offset_b)` -/
theorem sub_avx__pEPP_spec (c4 : Region) (a : BitVec 64) (b4 : Region) (offset_b : Region) :
    Gen.WrapAvx2.sub_avx__pEPP c4 a b4 offset_b =
      writeSeq c4 (fun k => k) (V4.getN (Gen.Avx2.sub_avx__vVV (V4.ofFn (fun _ => a)) (V4.ofFn (fun k => b4 ((fun k => (offset_b k).toNat) k))))) 4 := by
  wrap_proof Gen.WrapAvx2.sub_avx__pEPP

/-- `sub_avx(Goldilocks::Element * c4, const Goldilocks::Element * a4, const Goldilocks::Element b, const uint64_t * offset_a)` -/
theorem sub_avx__pPEP_spec (c4 : Region) (a4 : Region) (b : BitVec 64) (offset_a : Region) :
    Gen.WrapAvx2.sub_avx__pPEP c4 a4 b offset_a =
      writeSeq c4 (fun k => k) (V4.getN (Gen.Avx2.sub_avx__vVV (V4.ofFn (fun k => a4 ((fun k => (offset_a k).toNat) k))) (V4.ofFn (fun _ => b)))) 4 := by
  wrap_proof Gen.WrapAvx2.sub_avx__pPEP

/-- `sub_avx(__m256i & c_, const Goldilocks::Element * a4, const Goldilocks::Element * b4, uint64_t offset_a, uint64_t offset_b)` -/
theorem sub_avx__vPPEE_spec (a4 : Region) (b4 : Region) (offset_a : BitVec 64) (offset_b : BitVec 64) :
    Gen.WrapAvx2.sub_avx__vPPEE a4 b4 offset_a offset_b =
      (Gen.Avx2.sub_avx__vVV (V4.ofFn (fun k => a4 ((fun k => (BitVec.ofNat 64 k * offset_a).toNat) k))) (V4.ofFn (fun k => b4 ((fun k => (BitVec.ofNat 64 k * offset_b).toNat) k)))) := by
  wrap_proof Gen.WrapAvx2.sub_avx__vPPEE

/-- `sub_avx(__m256i & c_, const __m256i & a_, const Goldilocks::Element * b4, uint64_t offset_b)` -/
theorem sub_avx__vVPE_spec (a_ : V4) (b4 : Region) (offset_b : BitVec 64) :
    Gen.WrapAvx2.sub_avx__vVPE a_ b4 offset_b =
      (Gen.Avx2.sub_avx__vVV a_ (V4.ofFn (fun k => b4 ((fun k => (BitVec.ofNat 64 k * offset_b).toNat) k)))) := by
  wrap_proof Gen.WrapAvx2.sub_avx__vVPE

/-- `sub_avx(__m256i & c_, const Goldilocks::Element * a4, uint64_t offset_a, const __m256i & b_)` -/
theorem sub_avx__vPEV_spec (a4 : Region) (offset_a : BitVec 64) (b_ : V4) :
    Gen.WrapAvx2.sub_avx__vPEV a4 offset_a b_ =
      (Gen.Avx2.sub_avx__vVV (V4.ofFn (fun k => a4 ((fun k => (BitVec.ofNat 64 k * offset_a).toNat) k))) b_) := by
  wrap_proof Gen.WrapAvx2.sub_avx__vPEV

/-- `sub_avx(__m256i & c_, const Goldilocks::Element * a4, const __m256i & b_, uint64_t offset_a)` -/
theorem sub_avx__vPVE_spec (a4 : Region) (b_ : V4) (offset_a : BitVec 64) :
    Gen.WrapAvx2.sub_avx__vPVE a4 b_ offset_a =
      (Gen.Avx2.sub_avx__vVV (V4.ofFn (fun k => a4 ((fun k => (BitVec.ofNat 64 k * offset_a).toNat) k))) b_) := by
  wrap_proof Gen.WrapAvx2.sub_avx__vPVE

/-- `sub_avx(__m256i & c_, const __m256i & a_, const Goldilocks::Element b)` -/
theorem sub_avx__vVE_spec (a_ : V4) (b : BitVec 64) :
    Gen.WrapAvx2.sub_avx__vVE a_ b =
      (Gen.Avx2.sub_avx__vVV a_ (V4.ofFn (fun _ => b))) := by
  wrap_proof Gen.WrapAvx2.sub_avx__vVE

/-- `sub_avx(__m256i & c_, const Goldilocks::Element a, const __m256i & b_)` -/
theorem sub_avx__vEV_spec (a : BitVec 64) (b_ : V4) :
    Gen.WrapAvx2.sub_avx__vEV a b_ =
      (Gen.Avx2.sub_avx__vVV (V4.ofFn (fun _ => a)) b_) := by
  wrap_proof Gen.WrapAvx2.sub_avx__vEV

/-- `sub_avx(__m256i & c_, const Goldilocks::Element * a4, const Goldilocks::Element b, uint64_t offset_a)` -/
theorem sub_avx__vPEE_spec (a4 : Region) (b : BitVec 64) (offset_a : BitVec 64) :
    Gen.WrapAvx2.sub_avx__vPEE a4 b offset_a =
      (Gen.Avx2.sub_avx__vVV (V4.ofFn (fun k => a4 ((fun k => (BitVec.ofNat 64 k * offset_a).toNat) k))) (V4.ofFn (fun _ => b))) := by
  wrap_proof Gen.WrapAvx2.sub_avx__vPEE

/-- `sub_avx(__m256i & c_, const Goldilocks::Element a, const Goldilocks::Element * b4, uint64_t offset_b)` -/
theorem sub_avx__vEPE_spec (a : BitVec 64) (b4 : Region) (offset_b : BitVec 64) :
    Gen.WrapAvx2.sub_avx__vEPE a b4 offset_b =
      (Gen.Avx2.sub_avx__vVV (V4.ofFn (fun _ => a)) (V4.ofFn (fun k => b4 ((fun k => (BitVec.ofNat 64 k * offset_b).toNat) k)))) := by
  wrap_proof Gen.WrapAvx2.sub_avx__vEPE

/-- `sub_avx(__m256i & c_, const Goldilocks::Element * a4, const Goldilocks::Element * b4, const uint64_t * offset_a, const uint64_t * offset_b)` -/
theorem sub_avx__vPPPP_spec (a4 : Region) (b4 : Region) (offset_a : Region) (offset_b : Region) :
    Gen.WrapAvx2.sub_avx__vPPPP a4 b4 offset_a offset_b =
      (Gen.Avx2.sub_avx__vVV (V4.ofFn (fun k => a4 ((fun k => (offset_a k).toNat) k))) (V4.ofFn (fun k => b4 ((fun k => (offset_b k).toNat) k)))) := by
  wrap_proof Gen.WrapAvx2.sub_avx__vPPPP

/-- `sub_avx(__m256i & c_, const Goldilocks::Element a, const Goldilocks::Element * b4, const uint64_t * offset_b)` -/
theorem sub_avx__vEPP_spec (a : BitVec 64) (b4 : Region) (offset_b : Region) :
    Gen.WrapAvx2.sub_avx__vEPP a b4 offset_b =
      (Gen.Avx2.sub_avx__vVV (V4.ofFn (fun _ => a)) (V4.ofFn (fun k => b4 ((fun k => (offset_b k).toNat) k)))) := by
  wrap_proof Gen.WrapAvx2.sub_avx__vEPP

/-- `sub_avx(__m256i & c_, const Goldilocks::Element * a4, const Goldilocks::Element b, const uint64_t * offset_a)` -/
theorem sub_avx__vPEP_spec (a4 : Region) (b : BitVec 64) (offset_a : Region) :
    Gen.WrapAvx2.sub_avx__vPEP a4 b offset_a =
      (Gen.Avx2.sub_avx__vVV (V4.ofFn (fun k => a4 ((fun k => (offset_a k).toNat) k))) (V4.ofFn (fun _ => b))) := by
  wrap_proof Gen.WrapAvx2.sub_avx__vPEP

/-- `sub_avx(__m256i & c_, const __m256i & a_, const Goldilocks::Element * b4, uint64_t * offset_b)` -/
theorem sub_avx__vVPp_spec (a_ : V4) (b4 : Region) (offset_b : Region) :
    Gen.WrapAvx2.sub_avx__vVPp a_ b4 offset_b =
      (Gen.Avx2.sub_avx__vVV a_ (V4.ofFn (fun k => b4 ((fun k => (offset_b k).toNat) k)))) := by
  wrap_proof Gen.WrapAvx2.sub_avx__vVPp

/-- `sub_avx(__m256i & c_, const Goldilocks::Element * a4, const __m256i & b_, uint64_t * offset_a)` -/
theorem sub_avx__vPVp_spec (a4 : Region) (b_ : V4) (offset_a : Region) :
    Gen.WrapAvx2.sub_avx__vPVp a4 b_ offset_a =
      (Gen.Avx2.sub_avx__vVV (V4.ofFn (fun k => a4 ((fun k => (offset_a k).toNat) k))) b_) := by
  wrap_proof Gen.WrapAvx2.sub_avx__vPVp

/-- `sub_avx(Goldilocks::Element * c, uint64_t offset_c, const __m256i & a_, const __m256i & b_)` -/
theorem sub_avx__pEVV_spec (c : Region) (offset_c : BitVec 64) (a_ : V4) (b_ : V4) :
    Gen.WrapAvx2.sub_avx__pEVV c offset_c a_ b_ =
      writeSeq c (fun k => (BitVec.ofNat 64 k * offset_c).toNat) (V4.getN (Gen.Avx2.sub_avx__vVV a_ b_)) 4 := by
  wrap_proof Gen.WrapAvx2.sub_avx__pEVV

/-- `sub_avx(Goldilocks::Element * c, const uint64_t * offset_c, const __m256i & a_, const __m256i & b_)` -/
theorem sub_avx__pPVV_spec (c : Region) (offset_c : Region) (a_ : V4) (b_ : V4) :
    Gen.WrapAvx2.sub_avx__pPVV c offset_c a_ b_ =
      writeSeq c (fun k => (offset_c k).toNat) (V4.getN (Gen.Avx2.sub_avx__vVV a_ b_)) 4 := by
  wrap_proof Gen.WrapAvx2.sub_avx__pPVV

/-- `sub_avx(Goldilocks::Element * c, uint64_t offset_c, const Goldilocks::Element a, const __m256i & b_)` -/
theorem sub_avx__pEEV_spec (c : Region) (offset_c : BitVec 64) (a : BitVec 64) (b_ : V4) :
    Gen.WrapAvx2.sub_avx__pEEV c offset_c a b_ =
      writeSeq c (fun k => (BitVec.ofNat 64 k * offset_c).toNat) (V4.getN (Gen.Avx2.sub_avx__vVV (V4.ofFn (fun _ => a)) b_)) 4 := by
  wrap_proof Gen.WrapAvx2.sub_avx__pEEV

/-- `sub_avx(Goldilocks::Element * c, const uint64_t * offset_c, const Goldilocks::Element a, const __m256i & b_)` -/
theorem sub_avx__pPEV_spec (c : Region) (offset_c : Region) (a : BitVec 64) (b_ : V4) :
    Gen.WrapAvx2.sub_avx__pPEV c offset_c a b_ =
      writeSeq c (fun k => (offset_c k).toNat) (V4.getN (Gen.Avx2.sub_avx__vVV (V4.ofFn (fun _ => a)) b_)) 4 := by
  wrap_proof Gen.WrapAvx2.sub_avx__pPEV

/-- `mul_avx(Goldilocks::Element * c4, const Goldilocks::Element * a4, const Goldilocks::Element * b4)` -/
theorem mul_avx__pPP_spec (c4 : Region) (a4 : Region) (b4 : Region) :
    Gen.WrapAvx2.mul_avx__pPP c4 a4 b4 =
      writeSeq c4 (fun k => k) (V4.getN (Gen.Avx2.mult_avx (V4.ofFn (fun k => a4 ((fun k => k) k))) (V4.ofFn (fun k => b4 ((fun k => k) k))))) 4 := by
  wrap_proof Gen.WrapAvx2.mul_avx__pPP

/-- `mul_avx(Goldilocks::Element * c4, const Goldilocks::Element a, const Goldilocks::Element * b4)` -/
theorem mul_avx__pEP_spec (c4 : Region) (a : BitVec 64) (b4 : Region) :
    Gen.WrapAvx2.mul_avx__pEP c4 a b4 =
      writeSeq c4 (fun k => k) (V4.getN (Gen.Avx2.mult_avx (V4.ofFn (fun _ => a)) (V4.ofFn (fun k => b4 ((fun k => k) k))))) 4 := by
  wrap_proof Gen.WrapAvx2.mul_avx__pEP

/-- `mul_avx(Goldilocks::Element * c4, const Goldilocks::Element * a4, const Goldilocks::Element * b4, uint64_t offset_a, uint64_t offset_b)` -/
theorem mul_avx__pPPEE_spec (c4 : Region) (a4 : Region) (b4 : Region) (offset_a : BitVec 64) (offset_b : BitVec 64) :
    Gen.WrapAvx2.mul_avx__pPPEE c4 a4 b4 offset_a offset_b =
      writeSeq c4 (fun k => k) (V4.getN (Gen.Avx2.mult_avx (V4.ofFn (fun k => a4 ((fun k => (BitVec.ofNat 64 k * offset_a).toNat) k))) (V4.ofFn (fun k => b4 ((fun k => (BitVec.ofNat 64 k * offset_b).toNat) k))))) 4 := by
  wrap_proof Gen.WrapAvx2.mul_avx__pPPEE

/-- `mul_avx(Goldilocks::Element * c4, const Goldilocks::Element a, const Goldilocks::Element * b4, uint64_t offset_b)` -/
theorem mul_avx__pEPE_spec (c4 : Region) (a : BitVec 64) (b4 : Region) (offset_b : BitVec 64) :
    Gen.WrapAvx2.mul_avx__pEPE c4 a b4 offset_b =
      writeSeq c4 (fun k => k) (V4.getN (Gen.Avx2.mult_avx (V4.ofFn (fun _ => a)) (V4.ofFn (fun k => b4 ((fun k => (BitVec.ofNat 64 k * offset_b).toNat) k))))) 4 := by
  wrap_proof Gen.WrapAvx2.mul_avx__pEPE

/-- `mul_avx(Goldilocks::Element * c4, const Goldilocks::Element * a4, const Goldilocks::Element * b4, const uint64_t * offset_a, const uint64_t * offset_b)` -/
theorem mul_avx__pPPPP_spec (c4 : Region) (a4 : Region) (b4 : Region) (offset_a : Region) (offset_b : Region) :
    Gen.WrapAvx2.mul_avx__pPPPP c4 a4 b4 offset_a offset_b =
      writeSeq c4 (fun k => k) (V4.getN (Gen.Avx2.mult_avx (V4.ofFn (fun k => a4 ((fun k => (offset_a k).toNat) k))) (V4.ofFn (fun k => b4 ((fun k => (offset_b k).toNat) k))))) 4 := by
  wrap_proof Gen.WrapAvx2.mul_avx__pPPPP

/-- `mul_avx(__m256i & c_, const Goldilocks::Element a, const __m256i & b_)` -/
theorem mul_avx__vEV_spec (a : BitVec 64) (b_ : V4) :
    Gen.WrapAvx2.mul_avx__vEV a b_ =
      (Gen.Avx2.mult_avx (V4.ofFn (fun _ => a)) b_) := by
  wrap_proof Gen.WrapAvx2.mul_avx__vEV

/-- `mul_avx(__m256i & c_, const Goldilocks::Element * a4, const Goldilocks::Element * b4, uint64_t offset_a, uint64_t offset_b)` -/
theorem mul_avx__vPPEE_spec (a4 : Region) (b4 : Region) (offset_a : BitVec 64) (offset_b : BitVec 64) :
    Gen.WrapAvx2.mul_avx__vPPEE a4 b4 offset_a offset_b =
      (Gen.Avx2.mult_avx (V4.ofFn (fun k => a4 ((fun k => (BitVec.ofNat 64 k * offset_a).toNat) k))) (V4.ofFn (fun k => b4 ((fun k => (BitVec.ofNat 64 k * offset_b).toNat) k)))) := by
  wrap_proof Gen.WrapAvx2.mul_avx__vPPEE

/-- `mul_avx(__m256i & c_, const __m256i & a_, const Goldilocks::Element * b4, uint64_t offset_b)` -/
theorem mul_avx__vVPE_spec (a_ : V4) (b4 : Region) (offset_b : BitVec 64) :
    Gen.WrapAvx2.mul_avx__vVPE a_ b4 offset_b =
      (Gen.Avx2.mult_avx a_ (V4.ofFn (fun k => b4 ((fun k => (BitVec.ofNat 64 k * offset_b).toNat) k)))) := by
  wrap_proof Gen.WrapAvx2.mul_avx__vVPE

/-- `mul_avx(__m256i & c_, const Goldilocks::Element * a4, const __m256i & b_, uint64_t offset_a)` -/
theorem mul_avx__vPVE_spec (a4 : Region) (b_ : V4) (offset_a : BitVec 64) :
    Gen.WrapAvx2.mul_avx__vPVE a4 b_ offset_a =
      (Gen.Avx2.mult_avx (V4.ofFn (fun k => a4 ((fun k => (BitVec.ofNat 64 k * offset_a).toNat) k))) b_) := by
  wrap_proof Gen.WrapAvx2.mul_avx__vPVE

/-- `mul_avx(__m256i & c_, const Goldilocks::Element a, const Goldilocks::Element * b4, uint64_t offset_b)` -/
theorem mul_avx__vEPE_spec (a : BitVec 64) (b4 : Region) (offset_b : BitVec 64) :
    Gen.WrapAvx2.mul_avx__vEPE a b4 offset_b =
      (Gen.Avx2.mult_avx (V4.ofFn (fun _ => a)) (V4.ofFn (fun k => b4 ((fun k => (BitVec.ofNat 64 k * offset_b).toNat) k)))) := by
  wrap_proof Gen.WrapAvx2.mul_avx__vEPE

/-- `mul_avx(__m256i & c_, const Goldilocks::Element * a4, const Goldilocks::Element * b4, const uint64_t * offset_a, const uint64_t * offset_b)` -/
theorem mul_avx__vPPPP_spec (a4 : Region) (b4 : Region) (offset_a : Region) (offset_b : Region) :
    Gen.WrapAvx2.mul_avx__vPPPP a4 b4 offset_a offset_b =
      (Gen.Avx2.mult_avx (V4.ofFn (fun k => a4 ((fun k => (offset_a k).toNat) k))) (V4.ofFn (fun k => b4 ((fun k => (offset_b k).toNat) k)))) := by
  wrap_proof Gen.WrapAvx2.mul_avx__vPPPP

/-- `mul_avx(__m256i & c_, const __m256i & a_, const Goldilocks::Element * b4, const uint64_t * offset_b)` -/
theorem mul_avx__vVPP_spec (a_ : V4) (b4 : Region) (offset_b : Region) :
    Gen.WrapAvx2.mul_avx__vVPP a_ b4 offset_b =
      (Gen.Avx2.mult_avx a_ (V4.ofFn (fun k => b4 ((fun k => (offset_b k).toNat) k)))) := by
  wrap_proof Gen.WrapAvx2.mul_avx__vVPP

/-- `mul_avx(__m256i & c_, const Goldilocks::Element * a4, const __m256i & b_, const uint64_t * offset_a)` -/
theorem mul_avx__vPVP_spec (a4 : Region) (b_ : V4) (offset_a : Region) :
    Gen.WrapAvx2.mul_avx__vPVP a4 b_ offset_a =
      (Gen.Avx2.mult_avx (V4.ofFn (fun k => a4 ((fun k => (offset_a k).toNat) k))) b_) := by
  wrap_proof Gen.WrapAvx2.mul_avx__vPVP

/-- `mul_avx(Goldilocks::Element * c, uint64_t * offset_c, const Goldilocks::Element * a, const __m256i & b_, const uint64_t * offset_a)` -/
theorem mul_avx__ppPVP_spec (c : Region) (offset_c : Region) (a : Region) (b_ : V4) (offset_a : Region) :
    Gen.WrapAvx2.mul_avx__ppPVP c offset_c a b_ offset_a =
      writeSeq c (fun k => (offset_c k).toNat) (V4.getN (Gen.Avx2.mult_avx (V4.ofFn (fun k => a ((fun k => (offset_a k).toNat) k))) b_)) 4 := by
  wrap_proof Gen.WrapAvx2.mul_avx__ppPVP

/-- `mul_avx(Goldilocks::Element * c, uint64_t * offset_c, const Goldilocks::Element * a, const Goldilocks::Element * b, const uint64_t * offset_a, const uint64_t * offset_b)` -/
theorem mul_avx__ppPPPP_spec (c : Region) (offset_c : Region) (a : Region) (b : Region) (offset_a : Region) (offset_b : Region) :
    Gen.WrapAvx2.mul_avx__ppPPPP c offset_c a b offset_a offset_b =
      writeSeq c (fun k => (offset_c k).toNat) (V4.getN (Gen.Avx2.mult_avx (V4.ofFn (fun k => a ((fun k => (offset_a k).toNat) k))) (V4.ofFn (fun k => b ((fun k => (offset_b k).toNat) k))))) 4 := by
  wrap_proof Gen.WrapAvx2.mul_avx__ppPPPP

/-- `mul_avx(__m256i & c_, const Goldilocks::Element * a4, const Goldilocks::Element b, const uint64_t * offset_a)` -/
theorem mul_avx__vPEP_spec (a4 : Region) (b : BitVec 64) (offset_a : Region) :
    Gen.WrapAvx2.mul_avx__vPEP a4 b offset_a =
      (Gen.Avx2.mult_avx (V4.ofFn (fun k => a4 ((fun k => (offset_a k).toNat) k))) (V4.ofFn (fun _ => b))) := by
  wrap_proof Gen.WrapAvx2.mul_avx__vPEP

/-- `mul_avx(Goldilocks::Element * c, uint64_t offset_c, const __m256i & a_, const __m256i & b_)` -/
theorem mul_avx__pEVV_spec (c : Region) (offset_c : BitVec 64) (a_ : V4) (b_ : V4) :
    Gen.WrapAvx2.mul_avx__pEVV c offset_c a_ b_ =
      writeSeq c (fun k => (BitVec.ofNat 64 k * offset_c).toNat) (V4.getN (Gen.Avx2.mult_avx a_ b_)) 4 := by
  wrap_proof Gen.WrapAvx2.mul_avx__pEVV

/-- `mul_avx(Goldilocks::Element * c, uint64_t offset_c, const Goldilocks::Element * a, const __m256i & b_, uint64_t offset_a)` -/
theorem mul_avx__pEPVE_spec (c : Region) (offset_c : BitVec 64) (a : Region) (b_ : V4) (offset_a : BitVec 64) :
    Gen.WrapAvx2.mul_avx__pEPVE c offset_c a b_ offset_a =
      writeSeq c (fun k => (BitVec.ofNat 64 k * offset_c).toNat) (V4.getN (Gen.Avx2.mult_avx (V4.ofFn (fun k => a ((fun k => (BitVec.ofNat 64 k * offset_a).toNat) k))) b_)) 4 := by
  wrap_proof Gen.WrapAvx2.mul_avx__pEPVE

/-- `mul_avx(Goldilocks::Element * c, uint64_t offset_c, const __m256i & a_, const Goldilocks::Element * b, uint64_t offset_b)` -/
theorem mul_avx__pEVPE_spec (c : Region) (offset_c : BitVec 64) (a_ : V4) (b : Region) (offset_b : BitVec 64) :
    Gen.WrapAvx2.mul_avx__pEVPE c offset_c a_ b offset_b =
      writeSeq c (fun k => (BitVec.ofNat 64 k * offset_c).toNat) (V4.getN (Gen.Avx2.mult_avx a_ (V4.ofFn (fun k => b ((fun k => (BitVec.ofNat 64 k * offset_b).toNat) k))))) 4 := by
  wrap_proof Gen.WrapAvx2.mul_avx__pEVPE

/-- `mul_avx(Goldilocks::Element * c, uint64_t offset_c, const Goldilocks::Element * a, uint64_t offset_a, const Goldilocks::Element * b, uint64_t offset_b)` -/
theorem mul_avx__pEPEPE_spec (c : Region) (offset_c : BitVec 64) (a : Region) (offset_a : BitVec 64) (b : Region) (offset_b : BitVec 64) :
    Gen.WrapAvx2.mul_avx__pEPEPE c offset_c a offset_a b offset_b =
      writeSeq c (fun k => (BitVec.ofNat 64 k * offset_c).toNat) (V4.getN (Gen.Avx2.mult_avx (V4.ofFn (fun k => a ((fun k => (BitVec.ofNat 64 k * offset_a).toNat) k))) (V4.ofFn (fun k => b ((fun k => (BitVec.ofNat 64 k * offset_b).toNat) k))))) 4 := by
  wrap_proof Gen.WrapAvx2.mul_avx__pEPEPE

/-- `mul_avx(Goldilocks::Element * c, uint64_t offset_c, const Goldilocks::Element * a, const __m256i & b_, const uint64_t * offset_a)` -/
theorem mul_avx__pEPVP_spec (c : Region) (offset_c : BitVec 64) (a : Region) (b_ : V4) (offset_a : Region) :
    Gen.WrapAvx2.mul_avx__pEPVP c offset_c a b_ offset_a =
      writeSeq c (fun k => (BitVec.ofNat 64 k * offset_c).toNat) (V4.getN (Gen.Avx2.mult_avx (V4.ofFn (fun k => a ((fun k => (offset_a k).toNat) k))) b_)) 4 := by
  wrap_proof Gen.WrapAvx2.mul_avx__pEPVP

/-- `mul_avx(Goldilocks::Element * c, uint64_t * offset_c, const __m256i & a_, const __m256i & b_)` -/
theorem mul_avx__ppVV_spec (c : Region) (offset_c : Region) (a_ : V4) (b_ : V4) :
    Gen.WrapAvx2.mul_avx__ppVV c offset_c a_ b_ =
      writeSeq c (fun k => (offset_c k).toNat) (V4.getN (Gen.Avx2.mult_avx a_ b_)) 4 := by
  wrap_proof Gen.WrapAvx2.mul_avx__ppVV

/-- `mul_avx(Goldilocks::Element * c, uint64_t * offset_c, const Goldilocks::Element * a, const __m256i & b_, uint64_t offset_a)` -/
theorem mul_avx__ppPVE_spec (c : Region) (offset_c : Region) (a : Region) (b_ : V4) (offset_a : BitVec 64) :
    Gen.WrapAvx2.mul_avx__ppPVE c offset_c a b_ offset_a =
      writeSeq c (fun k => (offset_c k).toNat) (V4.getN (Gen.Avx2.mult_avx (V4.ofFn (fun k => a ((fun k => (BitVec.ofNat 64 k * offset_a).toNat) k))) b_)) 4 := by
  wrap_proof Gen.WrapAvx2.mul_avx__ppPVE

/-- `mul_avx(Goldilocks::Element * c, uint64_t * offset_c, const __m256i & a_, const Goldilocks::Element * b, uint64_t offset_b)` -/
theorem mul_avx__ppVPE_spec (c : Region) (offset_c : Region) (a_ : V4) (b : Region) (offset_b : BitVec 64) :
    Gen.WrapAvx2.mul_avx__ppVPE c offset_c a_ b offset_b =
      writeSeq c (fun k => (offset_c k).toNat) (V4.getN (Gen.Avx2.mult_avx a_ (V4.ofFn (fun k => b ((fun k => (BitVec.ofNat 64 k * offset_b).toNat) k))))) 4 := by
  wrap_proof Gen.WrapAvx2.mul_avx__ppVPE

/-- `copy_avx512(__m512i & dst_, const Goldilocks::Element & src)` -/
theorem copy_avx512__wE_spec (src : BitVec 64) :
    Gen.WrapAvx512.copy_avx512__wE src =
      (V8.ofFn (fun _ => src)) := by
  wrap_proof Gen.WrapAvx512.copy_avx512__wE

/-- `copy_avx512(__m512i & dst_, const __m512i & src_)` -/
theorem copy_avx512__wW_spec (src_ : V8) :
    Gen.WrapAvx512.copy_avx512__wW src_ =
      src_ := by
  wrap_proof Gen.WrapAvx512.copy_avx512__wW

/-- `copy_avx512(__m512i & dst_, const Goldilocks::Element * src, uint64_t stride)` -/
theorem copy_avx512__wPE_spec (src : Region) (stride : BitVec 64) :
    Gen.WrapAvx512.copy_avx512__wPE src stride =
      (V8.ofFn (fun k => src ((fun k => (BitVec.ofNat 64 k * stride).toNat) k))) := by
  wrap_proof Gen.WrapAvx512.copy_avx512__wPE

/-- `copy_avx512(__m512i & dst_, const Goldilocks::Element * src, uint64_t * stride)` -/
theorem copy_avx512__wPp_spec (src : Region) (stride : Region) :
    Gen.WrapAvx512.copy_avx512__wPp src stride =
      (V8.ofFn (fun k => src ((fun k => (stride k).toNat) k))) := by
  wrap_proof Gen.WrapAvx512.copy_avx512__wPp

/-- `copy_avx512(Goldilocks::Element * dst, uint64_t stride, const __m512i & src_)` -/
theorem copy_avx512__pEW_spec (dst : Region) (stride : BitVec 64) (src_ : V8) :
    Gen.WrapAvx512.copy_avx512__pEW dst stride src_ =
      writeSeq dst (fun k => (BitVec.ofNat 64 k * stride).toNat) (V8.getN src_) 8 := by
  wrap_proof Gen.WrapAvx512.copy_avx512__pEW

/-- `copy_avx512(Goldilocks::Element * dst, uint64_t * stride, const __m512i & src_)` -/
theorem copy_avx512__ppW_spec (dst : Region) (stride : Region) (src_ : V8) :
    Gen.WrapAvx512.copy_avx512__ppW dst stride src_ =
      writeSeq dst (fun k => (stride k).toNat) (V8.getN src_) 8 := by
  wrap_proof Gen.WrapAvx512.copy_avx512__ppW

/-- `add_avx512(__m512i & c_, const __m512i & a_, const Goldilocks::Element * b8, uint64_t offset_b)` -/
theorem add_avx512__wWPE_spec (a_ : V8) (b8 : Region) (offset_b : BitVec 64) :
    Gen.WrapAvx512.add_avx512__wWPE a_ b8 offset_b =
      (Gen.Avx512.add_avx512__wWW a_ (V8.ofFn (fun k => b8 ((fun k => (BitVec.ofNat 64 k * offset_b).toNat) k)))) := by
  wrap_proof Gen.WrapAvx512.add_avx512__wWPE

/-- `add_avx512(Goldilocks::Element * c, uint64_t offset_c, const __m512i & a_, const __m512i & b_)` -/
theorem add_avx512__pEWW_spec (c : Region) (offset_c : BitVec 64) (a_ : V8) (b_ : V8) :
    Gen.WrapAvx512.add_avx512__pEWW c offset_c a_ b_ =
      writeSeq c (fun k => (BitVec.ofNat 64 k * offset_c).toNat) (V8.getN (Gen.Avx512.add_avx512__wWW a_ b_)) 8 := by
  wrap_proof Gen.WrapAvx512.add_avx512__pEWW

/-- `add_avx512(Goldilocks::Element * c, uint64_t offset_c, const __m512i & a_, const Goldilocks::Element * b, uint64_t offset_b)` -/
theorem add_avx512__pEWPE_spec (c : Region) (offset_c : BitVec 64) (a_ : V8) (b : Region) (offset_b : BitVec 64) :
    Gen.WrapAvx512.add_avx512__pEWPE c offset_c a_ b offset_b =
      writeSeq c (fun k => (BitVec.ofNat 64 k * offset_c).toNat) (V8.getN (Gen.Avx512.add_avx512__wWW a_ (V8.ofFn (fun k => b ((fun k => (BitVec.ofNat 64 k * offset_b).toNat) k))))) 8 := by
  wrap_proof Gen.WrapAvx512.add_avx512__pEWPE

/-- `add_avx512(Goldilocks::Element * c, const uint64_t * offset_c, const __m512i & a_, const __m512i & b_)` -/
theorem add_avx512__pPWW_spec (c : Region) (offset_c : Region) (a_ : V8) (b_ : V8) :
    Gen.WrapAvx512.add_avx512__pPWW c offset_c a_ b_ =
      writeSeq c (fun k => (offset_c k).toNat) (V8.getN (Gen.Avx512.add_avx512__wWW a_ b_)) 8 := by
  wrap_proof Gen.WrapAvx512.add_avx512__pPWW

/-- `add_avx512(Goldilocks::Element * c, const uint64_t * offset_c, const __m512i & a_, const Goldilocks::Element * b, uint64_t offset_b)` -/
theorem add_avx512__pPWPE_spec (c : Region) (offset_c : Region) (a_ : V8) (b : Region) (offset_b : BitVec 64) :
    Gen.WrapAvx512.add_avx512__pPWPE c offset_c a_ b offset_b =
      writeSeq c (fun k => (offset_c k).toNat) (V8.getN (Gen.Avx512.add_avx512__wWW a_ (V8.ofFn (fun k => b ((fun k => (BitVec.ofNat 64 k * offset_b).toNat) k))))) 8 := by
  wrap_proof Gen.WrapAvx512.add_avx512__pPWPE

/-- `add_avx512(Goldilocks::Element * c, const uint64_t * offset_c, const __m512i & a_, const Goldilocks::Element * b, uint64_t * offset_b)` -/
theorem add_avx512__pPWPp_spec (c : Region) (offset_c : Region) (a_ : V8) (b : Region) (offset_b : Region) :
    Gen.WrapAvx512.add_avx512__pPWPp c offset_c a_ b offset_b =
      writeSeq c (fun k => (offset_c k).toNat) (V8.getN (Gen.Avx512.add_avx512__wWW a_ (V8.ofFn (fun k => b ((fun k => (offset_b k).toNat) k))))) 8 := by
  wrap_proof Gen.WrapAvx512.add_avx512__pPWPp

/-- `add_avx512(__m512i & c_, const __m512i & a_, const Goldilocks::Element * b8, const uint64_t * offset_b)` -/
theorem add_avx512__wWPP_spec (a_ : V8) (b8 : Region) (offset_b : Region) :
    Gen.WrapAvx512.add_avx512__wWPP a_ b8 offset_b =
      (Gen.Avx512.add_avx512__wWW a_ (V8.ofFn (fun k => b8 ((fun k => (offset_b k).toNat) k)))) := by
  wrap_proof Gen.WrapAvx512.add_avx512__wWPP

/-- `add_avx512(__m512i & c_, const __m512i & a_, const Goldilocks::Element b)` -/
theorem add_avx512__wWE_spec (a_ : V8) (b : BitVec 64) :
    Gen.WrapAvx512.add_avx512__wWE a_ b =
      (Gen.Avx512.add_avx512__wWW a_ (V8.ofFn (fun _ => b))) := by
  wrap_proof Gen.WrapAvx512.add_avx512__wWE

/-- `add_avx512(__m512i & c_, const Goldilocks::Element * a8, const Goldilocks::Element b, uint64_t offset_a)` -/
theorem add_avx512__wPEE_spec (a8 : Region) (b : BitVec 64) (offset_a : BitVec 64) :
    Gen.WrapAvx512.add_avx512__wPEE a8 b offset_a =
      (Gen.Avx512.add_avx512__wWW (V8.ofFn (fun k => a8 ((fun k => (BitVec.ofNat 64 k * offset_a).toNat) k))) (V8.ofFn (fun _ => b))) := by
  wrap_proof Gen.WrapAvx512.add_avx512__wPEE

/-- `add_avx512(__m512i & c_, const Goldilocks::Element * a8, const Goldilocks::Element * b8, uint64_t offset_a, uint64_t offset_b)` -/
theorem add_avx512__wPPEE_spec (a8 : Region) (b8 : Region) (offset_a : BitVec 64) (offset_b : BitVec 64) :
    Gen.WrapAvx512.add_avx512__wPPEE a8 b8 offset_a offset_b =
      (Gen.Avx512.add_avx512__wWW (V8.ofFn (fun k => a8 ((fun k => (BitVec.ofNat 64 k * offset_a).toNat) k))) (V8.ofFn (fun k => b8 ((fun k => (BitVec.ofNat 64 k * offset_b).toNat) k)))) := by
  wrap_proof Gen.WrapAvx512.add_avx512__wPPEE

/-- `add_avx512(__m512i & c_, const Goldilocks::Element * a8, const Goldilocks::Element * b8, const uint64_t * offset_a, const uint64_t * offset_b)` -/
theorem add_avx512__wPPPP_spec (a8 : Region) (b8 : Region) (offset_a : Region) (offset_b : Region) :
    Gen.WrapAvx512.add_avx512__wPPPP a8 b8 offset_a offset_b =
      (Gen.Avx512.add_avx512__wWW (V8.ofFn (fun k => a8 ((fun k => (offset_a k).toNat) k))) (V8.ofFn (fun k => b8 ((fun k => (offset_b k).toNat) k)))) := by
  wrap_proof Gen.WrapAvx512.add_avx512__wPPPP

/-- `add_avx512(__m512i & c_, const Goldilocks::Element * a8, const Goldilocks::Element b, const uint64_t * offset_a)` -/
theorem add_avx512__wPEP_spec (a8 : Region) (b : BitVec 64) (offset_a : Region) :
    Gen.WrapAvx512.add_avx512__wPEP a8 b offset_a =
      (Gen.Avx512.add_avx512__wWW (V8.ofFn (fun k => a8 ((fun k => (offset_a k).toNat) k))) (V8.ofFn (fun _ => b))) := by
  wrap_proof Gen.WrapAvx512.add_avx512__wPEP

/-- `sub_avx512(__m512i & c_, const Goldilocks::Element * a8, const Goldilocks::Element * b8, uint64_t offset_a, uint64_t offset_b)` -/
theorem sub_avx512__wPPEE_spec (a8 : Region) (b8 : Region) (offset_a : BitVec 64) (offset_b : BitVec 64) :
    Gen.WrapAvx512.sub_avx512__wPPEE a8 b8 offset_a offset_b =
      (Gen.Avx512.sub_avx512__wWW (V8.ofFn (fun k => a8 ((fun k => (BitVec.ofNat 64 k * offset_a).toNat) k))) (V8.ofFn (fun k => b8 ((fun k => (BitVec.ofNat 64 k * offset_b).toNat) k)))) := by
  wrap_proof Gen.WrapAvx512.sub_avx512__wPPEE

/-- `sub_avx512(__m512i & c_, const __m512i & a_, const Goldilocks::Element * b8, uint64_t offset_b)` -/
theorem sub_avx512__wWPE_spec (a_ : V8) (b8 : Region) (offset_b : BitVec 64) :
    Gen.WrapAvx512.sub_avx512__wWPE a_ b8 offset_b =
      (Gen.Avx512.sub_avx512__wWW a_ (V8.ofFn (fun k => b8 ((fun k => (BitVec.ofNat 64 k * offset_b).toNat) k)))) := by
  wrap_proof Gen.WrapAvx512.sub_avx512__wWPE

/-- `sub_avx512(__m512i & c_, const Goldilocks::Element * a8, const __m512i & b_, uint64_t offset_a)` -/
theorem sub_avx512__wPWE_spec (a8 : Region) (b_ : V8) (offset_a : BitVec 64) :
    Gen.WrapAvx512.sub_avx512__wPWE a8 b_ offset_a =
      (Gen.Avx512.sub_avx512__wWW (V8.ofFn (fun k => a8 ((fun k => (BitVec.ofNat 64 k * offset_a).toNat) k))) b_) := by
  wrap_proof Gen.WrapAvx512.sub_avx512__wPWE

/-- `sub_avx512(__m512i & c_, const __m512i & a_, const Goldilocks::Element b)` -/
theorem sub_avx512__wWE_spec (a_ : V8) (b : BitVec 64) :
    Gen.WrapAvx512.sub_avx512__wWE a_ b =
      (Gen.Avx512.sub_avx512__wWW a_ (V8.ofFn (fun _ => b))) := by
  wrap_proof Gen.WrapAvx512.sub_avx512__wWE

/-- `sub_avx512(__m512i & c_, const Goldilocks::Element a, const __m512i & b_)` -/
theorem sub_avx512__wEW_spec (a : BitVec 64) (b_ : V8) :
    Gen.WrapAvx512.sub_avx512__wEW a b_ =
      (Gen.Avx512.sub_avx512__wWW (V8.ofFn (fun _ => a)) b_) := by
  wrap_proof Gen.WrapAvx512.sub_avx512__wEW

/-- `sub_avx512(__m512i & c_, const Goldilocks::Element * a8, const Goldilocks::Element b, uint64_t offset_a)` -/
theorem sub_avx512__wPEE_spec (a8 : Region) (b : BitVec 64) (offset_a : BitVec 64) :
    Gen.WrapAvx512.sub_avx512__wPEE a8 b offset_a =
      (Gen.Avx512.sub_avx512__wWW (V8.ofFn (fun k => a8 ((fun k => (BitVec.ofNat 64 k * offset_a).toNat) k))) (V8.ofFn (fun _ => b))) := by
  wrap_proof Gen.WrapAvx512.sub_avx512__wPEE

/-- `sub_avx512(__m512i & c_, const Goldilocks::Element a, const Goldilocks::Element * b8, uint64_t offset_b)` -/
theorem sub_avx512__wEPE_spec (a : BitVec 64) (b8 : Region) (offset_b : BitVec 64) :
    Gen.WrapAvx512.sub_avx512__wEPE a b8 offset_b =
      (Gen.Avx512.sub_avx512__wWW (V8.ofFn (fun _ => a)) (V8.ofFn (fun k => b8 ((fun k => (BitVec.ofNat 64 k * offset_b).toNat) k)))) := by
  wrap_proof Gen.WrapAvx512.sub_avx512__wEPE

/-- `sub_avx512(__m512i & c_, const Goldilocks::Element * a8, const Goldilocks::Element * b8, const uint64_t * offset_a, const uint64_t * offset_b)` -/
theorem sub_avx512__wPPPP_spec (a8 : Region) (b8 : Region) (offset_a : Region) (offset_b : Region) :
    Gen.WrapAvx512.sub_avx512__wPPPP a8 b8 offset_a offset_b =
      (Gen.Avx512.sub_avx512__wWW (V8.ofFn (fun k => a8 ((fun k => (offset_a k).toNat) k))) (V8.ofFn (fun k => b8 ((fun k => (offset_b k).toNat) k)))) := by
  wrap_proof Gen.WrapAvx512.sub_avx512__wPPPP

/-- `sub_avx512(__m512i & c_, const Goldilocks::Element a, const Goldilocks::Element * b8, const uint64_t * offset_b)` -/
theorem sub_avx512__wEPP_spec (a : BitVec 64) (b8 : Region) (offset_b : Region) :
    Gen.WrapAvx512.sub_avx512__wEPP a b8 offset_b =
      (Gen.Avx512.sub_avx512__wWW (V8.ofFn (fun _ => a)) (V8.ofFn (fun k => b8 ((fun k => (offset_b k).toNat) k)))) := by
  wrap_proof Gen.WrapAvx512.sub_avx512__wEPP

/-- `sub_avx512(__m512i & c_, const Goldilocks::Element * a8, const Goldilocks::Element b, const uint64_t * offset_a)` -/
theorem sub_avx512__wPEP_spec (a8 : Region) (b : BitVec 64) (offset_a : Region) :
    Gen.WrapAvx512.sub_avx512__wPEP a8 b offset_a =
      (Gen.Avx512.sub_avx512__wWW (V8.ofFn (fun k => a8 ((fun k => (offset_a k).toNat) k))) (V8.ofFn (fun _ => b))) := by
  wrap_proof Gen.WrapAvx512.sub_avx512__wPEP

/-- `sub_avx512(__m512i & c_, const __m512i & a_, const Goldilocks::Element * b8, uint64_t * offset_b)` -/
theorem sub_avx512__wWPp_spec (a_ : V8) (b8 : Region) (offset_b : Region) :
    Gen.WrapAvx512.sub_avx512__wWPp a_ b8 offset_b =
      (Gen.Avx512.sub_avx512__wWW a_ (V8.ofFn (fun k => b8 ((fun k => (offset_b k).toNat) k)))) := by
  wrap_proof Gen.WrapAvx512.sub_avx512__wWPp

/-- `sub_avx512(__m512i & c_, const Goldilocks::Element * a8, const __m512i & b_, uint64_t * offset_a)` -/
theorem sub_avx512__wPWp_spec (a8 : Region) (b_ : V8) (offset_a : Region) :
    Gen.WrapAvx512.sub_avx512__wPWp a8 b_ offset_a =
      (Gen.Avx512.sub_avx512__wWW (V8.ofFn (fun k => a8 ((fun k => (offset_a k).toNat) k))) b_) := by
  wrap_proof Gen.WrapAvx512.sub_avx512__wPWp

/-- `sub_avx512(Goldilocks::Element * c, uint64_t offset_c, const __m512i & a_, const __m512i & b_)` -/
theorem sub_avx512__pEWW_spec (c : Region) (offset_c : BitVec 64) (a_ : V8) (b_ : V8) :
    Gen.WrapAvx512.sub_avx512__pEWW c offset_c a_ b_ =
      writeSeq c (fun k => (BitVec.ofNat 64 k * offset_c).toNat) (V8.getN (Gen.Avx512.sub_avx512__wWW a_ b_)) 8 := by
  wrap_proof Gen.WrapAvx512.sub_avx512__pEWW

/-- `sub_avx512(Goldilocks::Element * c, const uint64_t * offset_c, const __m512i & a_, const __m512i & b_)` -/
theorem sub_avx512__pPWW_spec (c : Region) (offset_c : Region) (a_ : V8) (b_ : V8) :
    Gen.WrapAvx512.sub_avx512__pPWW c offset_c a_ b_ =
      writeSeq c (fun k => (offset_c k).toNat) (V8.getN (Gen.Avx512.sub_avx512__wWW a_ b_)) 8 := by
  wrap_proof Gen.WrapAvx512.sub_avx512__pPWW

/-- `sub_avx512(Goldilocks::Element * c, uint64_t offset_c, const Goldilocks::Element a, const __m512i & b_)` -/
theorem sub_avx512__pEEW_spec (c : Region) (offset_c : BitVec 64) (a : BitVec 64) (b_ : V8) :
    Gen.WrapAvx512.sub_avx512__pEEW c offset_c a b_ =
      writeSeq c (fun k => (BitVec.ofNat 64 k * offset_c).toNat) (V8.getN (Gen.Avx512.sub_avx512__wWW (V8.ofFn (fun _ => a)) b_)) 8 := by
  wrap_proof Gen.WrapAvx512.sub_avx512__pEEW

/-- `sub_avx512(Goldilocks::Element * c, const uint64_t * offset_c, const Goldilocks::Element a, const __m512i & b_)` -/
theorem sub_avx512__pPEW_spec (c : Region) (offset_c : Region) (a : BitVec 64) (b_ : V8) :
    Gen.WrapAvx512.sub_avx512__pPEW c offset_c a b_ =
      writeSeq c (fun k => (offset_c k).toNat) (V8.getN (Gen.Avx512.sub_avx512__wWW (V8.ofFn (fun _ => a)) b_)) 8 := by
  wrap_proof Gen.WrapAvx512.sub_avx512__pPEW

/-- `mul_avx512(__m512i & c_, const Goldilocks::Element a, const __m512i & b_)` -/
theorem mul_avx512__wEW_spec (a : BitVec 64) (b_ : V8) :
    Gen.WrapAvx512.mul_avx512__wEW a b_ =
      (Gen.Avx512.mult_avx512 (V8.ofFn (fun _ => a)) b_) := by
  wrap_proof Gen.WrapAvx512.mul_avx512__wEW

/-- `mul_avx512(__m512i & c_, const Goldilocks::Element * a8, const Goldilocks::Element * b8, uint64_t offset_a, uint64_t offset_b)` -/
theorem mul_avx512__wPPEE_spec (a8 : Region) (b8 : Region) (offset_a : BitVec 64) (offset_b : BitVec 64) :
    Gen.WrapAvx512.mul_avx512__wPPEE a8 b8 offset_a offset_b =
      (Gen.Avx512.mult_avx512 (V8.ofFn (fun k => a8 ((fun k => (BitVec.ofNat 64 k * offset_a).toNat) k))) (V8.ofFn (fun k => b8 ((fun k => (BitVec.ofNat 64 k * offset_b).toNat) k)))) := by
  wrap_proof Gen.WrapAvx512.mul_avx512__wPPEE

/-- `mul_avx512(__m512i & c_, const __m512i & a_, const Goldilocks::Element * b8, uint64_t offset_b)` -/
theorem mul_avx512__wWPE_spec (a_ : V8) (b8 : Region) (offset_b : BitVec 64) :
    Gen.WrapAvx512.mul_avx512__wWPE a_ b8 offset_b =
      (Gen.Avx512.mult_avx512 a_ (V8.ofFn (fun k => b8 ((fun k => (BitVec.ofNat 64 k * offset_b).toNat) k)))) := by
  wrap_proof Gen.WrapAvx512.mul_avx512__wWPE

/-- `mul_avx512(__m512i & c_, const Goldilocks::Element * a8, const __m512i & b_, uint64_t offset_a)` -/
theorem mul_avx512__wPWE_spec (a8 : Region) (b_ : V8) (offset_a : BitVec 64) :
    Gen.WrapAvx512.mul_avx512__wPWE a8 b_ offset_a =
      (Gen.Avx512.mult_avx512 (V8.ofFn (fun k => a8 ((fun k => (BitVec.ofNat 64 k * offset_a).toNat) k))) b_) := by
  wrap_proof Gen.WrapAvx512.mul_avx512__wPWE

/-- `mul_avx512(__m512i & c_, const Goldilocks::Element a, const Goldilocks::Element * b8, uint64_t offset_b)` -/
theorem mul_avx512__wEPE_spec (a : BitVec 64) (b8 : Region) (offset_b : BitVec 64) :
    Gen.WrapAvx512.mul_avx512__wEPE a b8 offset_b =
      (Gen.Avx512.mult_avx512 (V8.ofFn (fun _ => a)) (V8.ofFn (fun k => b8 ((fun k => (BitVec.ofNat 64 k * offset_b).toNat) k)))) := by
  wrap_proof Gen.WrapAvx512.mul_avx512__wEPE

/-- `mul_avx512(__m512i & c_, const Goldilocks::Element * a8, const Goldilocks::Element * b8, const uint64_t * offset_a, const uint64_t * offset_b)` -/
theorem mul_avx512__wPPPP_spec (a8 : Region) (b8 : Region) (offset_a : Region) (offset_b : Region) :
    Gen.WrapAvx512.mul_avx512__wPPPP a8 b8 offset_a offset_b =
      (Gen.Avx512.mult_avx512 (V8.ofFn (fun k => a8 ((fun k => (offset_a k).toNat) k))) (V8.ofFn (fun k => b8 ((fun k => (offset_b k).toNat) k)))) := by
  wrap_proof Gen.WrapAvx512.mul_avx512__wPPPP

/-- `mul_avx512(__m512i & c_, const __m512i & a_, const Goldilocks::Element * b8, const uint64_t * offset_b)` -/
theorem mul_avx512__wWPP_spec (a_ : V8) (b8 : Region) (offset_b : Region) :
    Gen.WrapAvx512.mul_avx512__wWPP a_ b8 offset_b =
      (Gen.Avx512.mult_avx512 a_ (V8.ofFn (fun k => b8 ((fun k => (offset_b k).toNat) k)))) := by
  wrap_proof Gen.WrapAvx512.mul_avx512__wWPP

/-- `mul_avx512(__m512i & c_, const Goldilocks::Element * a8, const __m512i & b_, const uint64_t * offset_a)` -/
theorem mul_avx512__wPWP_spec (a8 : Region) (b_ : V8) (offset_a : Region) :
    Gen.WrapAvx512.mul_avx512__wPWP a8 b_ offset_a =
      (Gen.Avx512.mult_avx512 (V8.ofFn (fun k => a8 ((fun k => (offset_a k).toNat) k))) b_) := by
  wrap_proof Gen.WrapAvx512.mul_avx512__wPWP

/-- `mul_avx512(Goldilocks::Element * c, uint64_t * offset_c, const Goldilocks::Element * a, const __m512i & b_, const uint64_t * offset_a)` -/
theorem mul_avx512__ppPWP_spec (c : Region) (offset_c : Region) (a : Region) (b_ : V8) (offset_a : Region) :
    Gen.WrapAvx512.mul_avx512__ppPWP c offset_c a b_ offset_a =
      writeSeq c (fun k => (offset_c k).toNat) (V8.getN (Gen.Avx512.mult_avx512 (V8.ofFn (fun k => a ((fun k => (offset_a k).toNat) k))) b_)) 8 := by
  wrap_proof Gen.WrapAvx512.mul_avx512__ppPWP

/-- `mul_avx512(__m512i & c_, const Goldilocks::Element * a8, const Goldilocks::Element b, const uint64_t * offset_a)` -/
theorem mul_avx512__wPEP_spec (a8 : Region) (b : BitVec 64) (offset_a : Region) :
    Gen.WrapAvx512.mul_avx512__wPEP a8 b offset_a =
      (Gen.Avx512.mult_avx512 (V8.ofFn (fun k => a8 ((fun k => (offset_a k).toNat) k))) (V8.ofFn (fun _ => b))) := by
  wrap_proof Gen.WrapAvx512.mul_avx512__wPEP

/-- `mul_avx512(Goldilocks::Element * c, uint64_t offset_c, const __m512i & a_, const __m512i & b_)` -/
theorem mul_avx512__pEWW_spec (c : Region) (offset_c : BitVec 64) (a_ : V8) (b_ : V8) :
    Gen.WrapAvx512.mul_avx512__pEWW c offset_c a_ b_ =
      writeSeq c (fun k => (BitVec.ofNat 64 k * offset_c).toNat) (V8.getN (Gen.Avx512.mult_avx512 a_ b_)) 8 := by
  wrap_proof Gen.WrapAvx512.mul_avx512__pEWW

/-- `mul_avx512(Goldilocks::Element * c, uint64_t offset_c, const Goldilocks::Element * a, const __m512i & b_, uint64_t offset_a)` -/
theorem mul_avx512__pEPWE_spec (c : Region) (offset_c : BitVec 64) (a : Region) (b_ : V8) (offset_a : BitVec 64) :
    Gen.WrapAvx512.mul_avx512__pEPWE c offset_c a b_ offset_a =
      writeSeq c (fun k => (BitVec.ofNat 64 k * offset_c).toNat) (V8.getN (Gen.Avx512.mult_avx512 (V8.ofFn (fun k => a ((fun k => (BitVec.ofNat 64 k * offset_a).toNat) k))) b_)) 8 := by
  wrap_proof Gen.WrapAvx512.mul_avx512__pEPWE

/-- `mul_avx512(Goldilocks::Element * c, uint64_t offset_c, const __m512i & a_, const Goldilocks::Element * b, uint64_t offset_b)` -/
theorem mul_avx512__pEWPE_spec (c : Region) (offset_c : BitVec 64) (a_ : V8) (b : Region) (offset_b : BitVec 64) :
    Gen.WrapAvx512.mul_avx512__pEWPE c offset_c a_ b offset_b =
      writeSeq c (fun k => (BitVec.ofNat 64 k * offset_c).toNat) (V8.getN (Gen.Avx512.mult_avx512 a_ (V8.ofFn (fun k => b ((fun k => (BitVec.ofNat 64 k * offset_b).toNat) k))))) 8 := by
  wrap_proof Gen.WrapAvx512.mul_avx512__pEWPE

/-- `mul_avx512(Goldilocks::Element * c, uint64_t offset_c, const Goldilocks::Element * a, const __m512i & b_, const uint64_t * offset_a)` -/
theorem mul_avx512__pEPWP_spec (c : Region) (offset_c : BitVec 64) (a : Region) (b_ : V8) (offset_a : Region) :
    Gen.WrapAvx512.mul_avx512__pEPWP c offset_c a b_ offset_a =
      writeSeq c (fun k => (BitVec.ofNat 64 k * offset_c).toNat) (V8.getN (Gen.Avx512.mult_avx512 (V8.ofFn (fun k => a ((fun k => (offset_a k).toNat) k))) b_)) 8 := by
  wrap_proof Gen.WrapAvx512.mul_avx512__pEPWP

/-- `mul_avx512(Goldilocks::Element * c, uint64_t * offset_c, const __m512i & a_, const __m512i & b_)` -/
theorem mul_avx512__ppWW_spec (c : Region) (offset_c : Region) (a_ : V8) (b_ : V8) :
    Gen.WrapAvx512.mul_avx512__ppWW c offset_c a_ b_ =
      writeSeq c (fun k => (offset_c k).toNat) (V8.getN (Gen.Avx512.mult_avx512 a_ b_)) 8 := by
  wrap_proof Gen.WrapAvx512.mul_avx512__ppWW

/-- `mul_avx512(Goldilocks::Element * c, uint64_t * offset_c, const Goldilocks::Element * a, const __m512i & b_, uint64_t offset_a)` -/
theorem mul_avx512__ppPWE_spec (c : Region) (offset_c : Region) (a : Region) (b_ : V8) (offset_a : BitVec 64) :
    Gen.WrapAvx512.mul_avx512__ppPWE c offset_c a b_ offset_a =
      writeSeq c (fun k => (offset_c k).toNat) (V8.getN (Gen.Avx512.mult_avx512 (V8.ofFn (fun k => a ((fun k => (BitVec.ofNat 64 k * offset_a).toNat) k))) b_)) 8 := by
  wrap_proof Gen.WrapAvx512.mul_avx512__ppPWE

/-- `mul_avx512(Goldilocks::Element * c, uint64_t * offset_c, const __m512i & a_, const Goldilocks::Element * b, uint64_t offset_b)` -/
theorem mul_avx512__ppWPE_spec (c : Region) (offset_c : Region) (a_ : V8) (b : Region) (offset_b : BitVec 64) :
    Gen.WrapAvx512.mul_avx512__ppWPE c offset_c a_ b offset_b =
      writeSeq c (fun k => (offset_c k).toNat) (V8.getN (Gen.Avx512.mult_avx512 a_ (V8.ofFn (fun k => b ((fun k => (BitVec.ofNat 64 k * offset_b).toNat) k))))) 8 := by
  wrap_proof Gen.WrapAvx512.mul_avx512__ppWPE

end GoldilocksVerif.C17Gen
