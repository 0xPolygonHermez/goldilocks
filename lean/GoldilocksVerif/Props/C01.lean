/-
  C01 — Scalar field ops are exact mod p on every 64-bit representation.

  All statements are about `Gen.Scalar.*`, the definitions regenerated on every run from the
  inline-asm blocks and C++ wrappers of `/repo/src/goldilocks_base_field_scalar.hpp`.
  `toU64__rE` is the library's own read-back (`Goldilocks::toU64`), also generated.
-/
import GoldilocksVerif.Lemmas.ScalarNat

namespace GoldilocksVerif.C01
open Gen.Scalar GoldilocksVerif

/-- the value read back from a result with the library's `toU64` -/
abbrev rd (x : BitVec 64) : Nat := (toU64__rE x).toNat

theorem rd_eq (x : BitVec 64) : rd x = x.toNat % P := by
  show (toU64__rE x).toNat = _
  unfold toU64__rE; exact toU64_toNat x

/-- the read-back value is canonical -/
theorem C01_readback_canonical (x : BitVec 64) : rd x < P := by
  rw [rd_eq]; exact Nat.mod_lt _ P_pos

/-- add: exact for every pair of 64-bit representations (both overloads) -/
theorem C01_add (a b : BitVec 64) :
    rd (add__eEE a b) = (a.toNat + b.toNat) % P ∧ rd (add__rEE a b) = (a.toNat + b.toNat) % P := by
  have h : add__rEE a b = add__eEE a b := rfl
  rw [h, rd_eq, add_mod]; exact ⟨rfl, rfl⟩

/-- sub: the result plus the subtrahend is the minuend, mod p; equivalently a + (p - b mod p) -/
theorem C01_sub (a b : BitVec 64) :
    (rd (sub__eEE a b) + b.toNat) % P = a.toNat % P ∧
    rd (sub__eEE a b) = (a.toNat % P + (P - b.toNat % P)) % P ∧
    sub__rEE a b = sub__eEE a b := by
  have h := sub_mod a b
  have hr := rd_eq (sub__eEE a b)
  refine ⟨?_, ?_, rfl⟩
  · rw [hr, Nat.mod_add_mod]; exact h
  · rw [hr]
    generalize (sub__eEE a b).toNat = r at h
    have hb : b.toNat % P < P := Nat.mod_lt _ P_pos
    have h1 : (r + b.toNat % P) % P = a.toNat % P := by rw [Nat.add_mod_mod]; exact h
    generalize b.toNat % P = bm at *
    rw [← h1, Nat.mod_add_mod]
    have : r + bm + (P - bm) = r + P := by omega
    rw [this, Nat.add_mod_right]

theorem C01_mul (a b : BitVec 64) :
    rd (mul__eEE a b) = (a.toNat * b.toNat) % P ∧ mul__rEE a b = mul__eEE a b := by
  rw [rd_eq, mul_mod]; exact ⟨rfl, rfl⟩

/-- square = mul a a -/
theorem C01_square (a : BitVec 64) :
    rd (square__rE a) = (a.toNat * a.toNat) % P ∧ square__eE a = square__rE a := by
  have h : square__rE a = mul__eEE a a := rfl
  rw [h]; exact ⟨(C01_mul a a).1, rfl⟩

theorem C01_neg (a : BitVec 64) :
    rd (neg__rE a) = (P - a.toNat % P) % P ∧ neg__eE a = neg__rE a := by
  have h : neg__rE a = sub__eEE 0#64 a := rfl
  rw [h]
  refine ⟨?_, rfl⟩
  have := (C01_sub 0#64 a).2.1
  rw [this]; simp

/-- mulScalar: multiplication by a raw 64-bit scalar -/
theorem C01_mulScalar (a s : BitVec 64) :
    rd (mulScalar__eEE a s) = (a.toNat * s.toNat) % P ∧ mulScalar__rEE a s = mulScalar__eEE a s := by
  have h : mulScalar__eEE a s = mul__eEE a s := rfl
  rw [h]; exact ⟨(C01_mul a s).1, rfl⟩

theorem C01_inc (a : BitVec 64) : rd (inc a) = (a.toNat + 1) % P := by
  rw [rd_eq]; exact inc_mod a

theorem C01_dec (a : BitVec 64) : rd (dec a) = (a.toNat % P + (P - 1)) % P := by
  rw [rd_eq]; exact dec_mod a

/-- results depend only on the residue classes of the operands -/
theorem C01_residue_independent (a a' b b' : BitVec 64)
    (ha : a.toNat % P = a'.toNat % P) (hb : b.toNat % P = b'.toNat % P) :
    rd (add__eEE a b) = rd (add__eEE a' b') ∧
    rd (sub__eEE a b) = rd (sub__eEE a' b') ∧
    rd (mul__eEE a b) = rd (mul__eEE a' b') ∧
    rd (square__rE a) = rd (square__rE a') ∧
    rd (neg__rE a) = rd (neg__rE a') ∧
    rd (inc a) = rd (inc a') ∧
    rd (dec a) = rd (dec a') ∧
    rd (mulScalar__eEE a b) = rd (mulScalar__eEE a' b') := by
  refine ⟨?_, ?_, ?_, ?_, ?_, ?_, ?_, ?_⟩
  · rw [(C01_add a b).1, (C01_add a' b').1, Nat.add_mod, ha, hb, ← Nat.add_mod]
  · rw [(C01_sub a b).2.1, (C01_sub a' b').2.1, ha, hb]
  · rw [(C01_mul a b).1, (C01_mul a' b').1, Nat.mul_mod, ha, hb, ← Nat.mul_mod]
  · rw [(C01_square a).1, (C01_square a').1, Nat.mul_mod, ha, ← Nat.mul_mod]
  · rw [(C01_neg a).1, (C01_neg a').1, ha]
  · rw [C01_inc, C01_inc, Nat.add_mod, ha, ← Nat.add_mod]
  · rw [C01_dec, C01_dec, ha]
  · rw [(C01_mulScalar a b).1, (C01_mulScalar a' b').1, Nat.mul_mod, ha, hb, ← Nat.mul_mod]

/-- non-vacuity: the hypotheses of `C01_residue_independent` are met by distinct representations -/
example : (0#64).toNat % P = (18446744069414584321#64).toNat % P ∧ (0#64) ≠ 18446744069414584321#64 := by
  refine ⟨by simp [P], by simp⟩

end GoldilocksVerif.C01
