-- GENERATED by tools/extspec.py. Do not edit.  Per-overload theorems of C16, in parts (built in parallel).
import GoldilocksVerif.Props.C16Gen_add_avx_0
import GoldilocksVerif.Props.C16Gen_add_avx512_0
import GoldilocksVerif.Props.C16Gen_add_batch_0
import GoldilocksVerif.Props.C16Gen_copy_avx_0
import GoldilocksVerif.Props.C16Gen_copy_avx512_0
import GoldilocksVerif.Props.C16Gen_copy_batch_0
import GoldilocksVerif.Props.C16Gen_mul_avx_0
import GoldilocksVerif.Props.C16Gen_mul_avx512_0
import GoldilocksVerif.Props.C16Gen_mul_batch_0
import GoldilocksVerif.Props.C16Gen_sub_avx_0
import GoldilocksVerif.Props.C16Gen_sub_avx512_0
import GoldilocksVerif.Props.C16Gen_sub_batch_0
