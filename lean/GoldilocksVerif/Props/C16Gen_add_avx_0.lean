-- GENERATED by tools/extspec.py from the C++ SIGNATURES (routine name, parameter types and names) of the current source.
-- Do not edit.  One theorem per batched / AVX2 / AVX512 cubic-extension overload: for element k the written
-- coefficients denote (in ZMod p) the K3 sum / difference / product of the k-th designated operands.
import GoldilocksVerif.Lemmas.ExtWrapL
namespace GoldilocksVerif.C16Gen
open GoldilocksVerif

/-- `add13_avx(Goldilocks::Element * result, Goldilocks::Element * a, const Goldilocks::Element * b)` -/
theorem G3_add13_avx__ppP_spec (result : Region) (a : Region) (b : Region) :
    Scatter3 4 (posD 3) (fun k => K3.add ((base1 a (posD 1)) k) ((ext3 b (posD 3)) k)) result (Gen.ExtWrap.G3_add13_avx__ppP result a b) := by
  ext_body Gen.ExtWrap.G3_add13_avx__ppP
  ext_elems4

/-- `add13_avx(Goldilocks::Element * result, const Goldilocks::Element * a, const Goldilocks::Element * b, uint64_t offset_a, uint64_t offset_b)` -/
theorem G3_add13_avx__pPPEE_spec (result : Region) (a : Region) (b : Region) (offset_a : BitVec 64) (offset_b : BitVec 64) :
    Scatter3 4 (posD 3) (fun k => K3.add ((base1 a (posS offset_a)) k) ((ext3 b (posS offset_b)) k)) result (Gen.ExtWrap.G3_add13_avx__pPPEE result a b offset_a offset_b) := by
  ext_body Gen.ExtWrap.G3_add13_avx__pPPEE
  ext_elems4

/-- `add13_avx(Goldilocks::Element * result, const __m256i & a_, const Goldilocks::Element * b)` -/
theorem G3_add13_avx__pVP_spec (result : Region) (a_ : V4) (b : Region) :
    Scatter3 4 (posD 3) (fun k => K3.add ((reg4 a_) k) ((ext3 b (posD 3)) k)) result (Gen.ExtWrap.G3_add13_avx__pVP result a_ b) := by
  ext_body Gen.ExtWrap.G3_add13_avx__pVP
  ext_elems4

/-- `add13_avx(__m256i * c_, const __m256i & a_, __m256i * b_)` -/
theorem G3_add13_avx__mVm_spec (c_ : VRegion4) (a_ : V4) (b_ : VRegion4) :
    PlanarV4 (fun k => K3.add ((reg4 a_) k) ((vreg4 b_) k)) c_ (Gen.ExtWrap.G3_add13_avx__mVm c_ a_ b_) := by
  ext_body Gen.ExtWrap.G3_add13_avx__mVm
  exact PlanarV4.of_sets fun k hk => by ext_lane4 hk

/-- `add13_avx(__m256i * c_, const Goldilocks::Element * a, __m256i * b_, uint64_t offset_a)` -/
theorem G3_add13_avx__mPmE_spec (c_ : VRegion4) (a : Region) (b_ : VRegion4) (offset_a : BitVec 64) :
    PlanarV4 (fun k => K3.add ((base1 a (posS offset_a)) k) ((vreg4 b_) k)) c_ (Gen.ExtWrap.G3_add13_avx__mPmE c_ a b_ offset_a) := by
  ext_body Gen.ExtWrap.G3_add13_avx__mPmE
  exact PlanarV4.of_sets fun k hk => by ext_lane4 hk

/-- `add13_avx(Goldilocks::Element * c, uint64_t stride_c, const __m256i & a_, __m256i * b_)` -/
theorem G3_add13_avx__pEVm_spec (c : Region) (stride_c : BitVec 64) (a_ : V4) (b_ : VRegion4) :
    Scatter3 4 (posS stride_c) (fun k => K3.add ((reg4 a_) k) ((vreg4 b_) k)) c (Gen.ExtWrap.G3_add13_avx__pEVm c stride_c a_ b_) := by
  ext_body Gen.ExtWrap.G3_add13_avx__pEVm
  exact Scatter3.of_planar4 fun k hk => by ext_lane4 hk

/-- `add13_avx(Goldilocks::Element * c, uint64_t * stride_c, const __m256i & a_, __m256i * b_)` -/
theorem G3_add13_avx__ppVm_spec (c : Region) (stride_c : Region) (a_ : V4) (b_ : VRegion4) :
    Scatter3 4 (posA stride_c) (fun k => K3.add ((reg4 a_) k) ((vreg4 b_) k)) c (Gen.ExtWrap.G3_add13_avx__ppVm c stride_c a_ b_) := by
  ext_body Gen.ExtWrap.G3_add13_avx__ppVm
  exact Scatter3.of_planar4 fun k hk => by ext_lane4 hk

/-- `add13c_avx(Goldilocks::Element * result, const Goldilocks::Element * a, const Goldilocks::Element * b)` -/
theorem G3_add13c_avx__pPP_spec (result : Region) (a : Region) (b : Region) :
    Scatter3 4 (posD 3) (fun k => K3.add ((base1 a (posD 1)) k) ((ext3 b posC) k)) result (Gen.ExtWrap.G3_add13c_avx__pPP result a b) := by
  ext_body Gen.ExtWrap.G3_add13c_avx__pPP
  ext_elems4

/-- `add13c_avx(Goldilocks::Element * result, const Goldilocks::Element * a, const Goldilocks::Element * b, uint64_t offset_a)` -/
theorem G3_add13c_avx__pPPE_spec (result : Region) (a : Region) (b : Region) (offset_a : BitVec 64) :
    Scatter3 4 (posD 3) (fun k => K3.add ((base1 a (posS offset_a)) k) ((ext3 b posC) k)) result (Gen.ExtWrap.G3_add13c_avx__pPPE result a b offset_a) := by
  ext_body Gen.ExtWrap.G3_add13c_avx__pPPE
  ext_elems4

/-- `add13c_avx(Goldilocks::Element * result, const __m256i & a_, const Goldilocks::Element * b)` -/
theorem G3_add13c_avx__pVP_spec (result : Region) (a_ : V4) (b : Region) :
    Scatter3 4 (posD 3) (fun k => K3.add ((reg4 a_) k) ((ext3 b posC) k)) result (Gen.ExtWrap.G3_add13c_avx__pVP result a_ b) := by
  ext_body Gen.ExtWrap.G3_add13c_avx__pVP
  ext_elems4

/-- `add13c_avx(__m256i * c_, const __m256i & a_, const Goldilocks::Element * b)` -/
theorem G3_add13c_avx__mVP_spec (c_ : VRegion4) (a_ : V4) (b : Region) :
    PlanarV4 (fun k => K3.add ((reg4 a_) k) ((ext3 b posC) k)) c_ (Gen.ExtWrap.G3_add13c_avx__mVP c_ a_ b) := by
  ext_body Gen.ExtWrap.G3_add13c_avx__mVP
  exact PlanarV4.of_sets fun k hk => by ext_lane4 hk

/-- `add13c_avx(__m256i * c_, const Goldilocks::Element * a, const Goldilocks::Element * b, uint64_t offset_a)` -/
theorem G3_add13c_avx__mPPE_spec (c_ : VRegion4) (a : Region) (b : Region) (offset_a : BitVec 64) :
    PlanarV4 (fun k => K3.add ((base1 a (posS offset_a)) k) ((ext3 b posC) k)) c_ (Gen.ExtWrap.G3_add13c_avx__mPPE c_ a b offset_a) := by
  ext_body Gen.ExtWrap.G3_add13c_avx__mPPE
  exact PlanarV4.of_sets fun k hk => by ext_lane4 hk

/-- `add1c3c_avx(Goldilocks::Element * result, const Goldilocks::Element a, const Goldilocks::Element * b)` -/
theorem G3_add1c3c_avx__pEP_spec (result : Region) (a : BitVec 64) (b : Region) :
    Scatter3 4 (posD 3) (fun k => K3.add ((val1 a) k) ((ext3 b posC) k)) result (Gen.ExtWrap.G3_add1c3c_avx__pEP result a b) := by
  ext_body Gen.ExtWrap.G3_add1c3c_avx__pEP
  ext_elems4

/-- `add1c3c_avx(__m256i * c_, const Goldilocks::Element a, const Goldilocks::Element * b)` -/
theorem G3_add1c3c_avx__mEP_spec (c_ : VRegion4) (a : BitVec 64) (b : Region) :
    PlanarV4 (fun k => K3.add ((val1 a) k) ((ext3 b posC) k)) c_ (Gen.ExtWrap.G3_add1c3c_avx__mEP c_ a b) := by
  ext_body Gen.ExtWrap.G3_add1c3c_avx__mEP
  exact PlanarV4.of_sets fun k hk => by ext_lane4 hk

/-- `add31_avx(Goldilocks::Element * result, Goldilocks::Element * a, const Goldilocks::Element * b, uint64_t stride_a, uint64_t stride_b)` -/
theorem G3_add31_avx__ppPEE_spec (result : Region) (a : Region) (b : Region) (stride_a : BitVec 64) (stride_b : BitVec 64) :
    Scatter3 4 (posD 3) (fun k => K3.add ((ext3 a (posS stride_a)) k) ((base1 b (posS stride_b)) k)) result (Gen.ExtWrap.G3_add31_avx__ppPEE result a b stride_a stride_b) := by
  ext_body Gen.ExtWrap.G3_add31_avx__ppPEE
  ext_elems4

/-- `add31_avx(__m256i & c0_, __m256i & c1_, __m256i & c2_, __m256i a0_, const __m256i a1_, const __m256i a2_, const Goldilocks::Element * b, uint64_t stride)` -/
theorem G3_add31_avx__vvvVVVPE_spec (a0_ : V4) (a1_ : V4) (a2_ : V4) (b : Region) (stride : BitVec 64) :
    Planar4 (fun k => K3.add ((regs4 a0_ a1_ a2_) k) ((base1 b (posS stride)) k)) (Gen.ExtWrap.G3_add31_avx__vvvVVVPE a0_ a1_ a2_ b stride).1 (Gen.ExtWrap.G3_add31_avx__vvvVVVPE a0_ a1_ a2_ b stride).2.1 (Gen.ExtWrap.G3_add31_avx__vvvVVVPE a0_ a1_ a2_ b stride).2.2 := by
  ext_body Gen.ExtWrap.G3_add31_avx__vvvVVVPE
  intro k hk
  ext_lane4 hk

/-- `add33c_avx(Goldilocks::Element * result, const Goldilocks::Element * a, const Goldilocks::Element * b)` -/
theorem G3_add33c_avx__pPP_spec (result : Region) (a : Region) (b : Region) :
    Scatter3 4 (posD 3) (fun k => K3.add ((ext3 a (posD 3)) k) ((ext3 b posC) k)) result (Gen.ExtWrap.G3_add33c_avx__pPP result a b) := by
  ext_body Gen.ExtWrap.G3_add33c_avx__pPP
  ext_elems4

/-- `add33c_avx(Goldilocks::Element * result, Goldilocks::Element * a, Goldilocks::Element * b, uint64_t stride_a)` -/
theorem G3_add33c_avx__pppE_spec (result : Region) (a : Region) (b : Region) (stride_a : BitVec 64) :
    Scatter3 4 (posD 3) (fun k => K3.add ((ext3 a (posS stride_a)) k) ((ext3 b posC) k)) result (Gen.ExtWrap.G3_add33c_avx__pppE result a b stride_a) := by
  ext_body Gen.ExtWrap.G3_add33c_avx__pppE
  ext_elems4

/-- `add33c_avx(__m256i * c_, __m256i * a_, const Goldilocks::Element * b)` -/
theorem G3_add33c_avx__mmP_spec (c_ : VRegion4) (a_ : VRegion4) (b : Region) :
    PlanarV4 (fun k => K3.add ((vreg4 a_) k) ((ext3 b posC) k)) c_ (Gen.ExtWrap.G3_add33c_avx__mmP c_ a_ b) := by
  ext_body Gen.ExtWrap.G3_add33c_avx__mmP
  exact PlanarV4.of_sets fun k hk => by ext_lane4 hk

/-- `add33c_avx(__m256i * c_, Goldilocks::Element * a, Goldilocks::Element * b, uint64_t stride_a)` -/
theorem G3_add33c_avx__mppE_spec (c_ : VRegion4) (a : Region) (b : Region) (stride_a : BitVec 64) :
    PlanarV4 (fun k => K3.add ((ext3 a (posS stride_a)) k) ((ext3 b posC) k)) c_ (Gen.ExtWrap.G3_add33c_avx__mppE c_ a b stride_a) := by
  ext_body Gen.ExtWrap.G3_add33c_avx__mppE
  exact PlanarV4.of_sets fun k hk => by ext_lane4 hk

/-- `add33c_avx(Goldilocks::Element * c, uint64_t stride_c, __m256i * a_, const Goldilocks::Element * b)` -/
theorem G3_add33c_avx__pEmP_spec (c : Region) (stride_c : BitVec 64) (a_ : VRegion4) (b : Region) :
    Scatter3 4 (posS stride_c) (fun k => K3.add ((vreg4 a_) k) ((ext3 b posC) k)) c (Gen.ExtWrap.G3_add33c_avx__pEmP c stride_c a_ b) := by
  ext_body Gen.ExtWrap.G3_add33c_avx__pEmP
  exact Scatter3.of_planar4 fun k hk => by ext_lane4 hk

/-- `add33c_avx(Goldilocks::Element * c, uint64_t * stride_c, __m256i * a_, const Goldilocks::Element * b)` -/
theorem G3_add33c_avx__ppmP_spec (c : Region) (stride_c : Region) (a_ : VRegion4) (b : Region) :
    Scatter3 4 (posA stride_c) (fun k => K3.add ((vreg4 a_) k) ((ext3 b posC) k)) c (Gen.ExtWrap.G3_add33c_avx__ppmP c stride_c a_ b) := by
  ext_body Gen.ExtWrap.G3_add33c_avx__ppmP
  exact Scatter3.of_planar4 fun k hk => by ext_lane4 hk

/-- `add_avx(Goldilocks::Element * result, const Goldilocks::Element * a, const Goldilocks::Element * b)` -/
theorem G3_add_avx__pPP_spec (result : Region) (a : Region) (b : Region) :
    Scatter3 4 (posD 3) (fun k => K3.add ((ext3 a (posD 3)) k) ((ext3 b (posD 3)) k)) result (Gen.ExtWrap.G3_add_avx__pPP result a b) := by
  ext_body Gen.ExtWrap.G3_add_avx__pPP
  ext_elems4

/-- `add_avx(Goldilocks::Element * result, const Goldilocks::Element * a, const Goldilocks::Element * b, uint64_t stride_a, uint64_t stride_b)` -/
theorem G3_add_avx__pPPEE_spec (result : Region) (a : Region) (b : Region) (stride_a : BitVec 64) (stride_b : BitVec 64) :
    Scatter3 4 (posD 3) (fun k => K3.add ((ext3 a (posS stride_a)) k) ((ext3 b (posS stride_b)) k)) result (Gen.ExtWrap.G3_add_avx__pPPEE result a b stride_a stride_b) := by
  ext_body Gen.ExtWrap.G3_add_avx__pPPEE
  ext_elems4

/-- `add_avx(__m256i * c_, __m256i * a_, __m256i * b_)` -/
theorem G3_add_avx__mmm_spec (c_ : VRegion4) (a_ : VRegion4) (b_ : VRegion4) :
    PlanarV4 (fun k => K3.add ((vreg4 a_) k) ((vreg4 b_) k)) c_ (Gen.ExtWrap.G3_add_avx__mmm c_ a_ b_) := by
  ext_body Gen.ExtWrap.G3_add_avx__mmm
  exact PlanarV4.of_sets fun k hk => by ext_lane4 hk

/-- `add_avx(__m256i * c_, const Goldilocks::Element * a, __m256i * b_, uint64_t stride_a)` -/
theorem G3_add_avx__mPmE_spec (c_ : VRegion4) (a : Region) (b_ : VRegion4) (stride_a : BitVec 64) :
    PlanarV4 (fun k => K3.add ((ext3 a (posS stride_a)) k) ((vreg4 b_) k)) c_ (Gen.ExtWrap.G3_add_avx__mPmE c_ a b_ stride_a) := by
  ext_body Gen.ExtWrap.G3_add_avx__mPmE
  exact PlanarV4.of_sets fun k hk => by ext_lane4 hk

/-- `add_avx(Goldilocks::Element * c, uint64_t stride_c, const Goldilocks::Element * a, __m256i * b_, uint64_t stride_a)` -/
theorem G3_add_avx__pEPmE_spec (c : Region) (stride_c : BitVec 64) (a : Region) (b_ : VRegion4) (stride_a : BitVec 64) :
    Scatter3 4 (posS stride_c) (fun k => K3.add ((ext3 a (posS stride_a)) k) ((vreg4 b_) k)) c (Gen.ExtWrap.G3_add_avx__pEPmE c stride_c a b_ stride_a) := by
  ext_body Gen.ExtWrap.G3_add_avx__pEPmE
  exact Scatter3.of_planar4 fun k hk => by ext_lane4 hk

/-- `add_avx(Goldilocks::Element * c, uint64_t stride_c, __m256i * a_, __m256i * b_)` -/
theorem G3_add_avx__pEmm_spec (c : Region) (stride_c : BitVec 64) (a_ : VRegion4) (b_ : VRegion4) :
    Scatter3 4 (posS stride_c) (fun k => K3.add ((vreg4 a_) k) ((vreg4 b_) k)) c (Gen.ExtWrap.G3_add_avx__pEmm c stride_c a_ b_) := by
  ext_body Gen.ExtWrap.G3_add_avx__pEmm
  exact Scatter3.of_planar4 fun k hk => by ext_lane4 hk

/-- `add_avx(Goldilocks::Element * c, uint64_t * stride_c, const Goldilocks::Element * a, __m256i * b_, uint64_t stride_a)` -/
theorem G3_add_avx__ppPmE_spec (c : Region) (stride_c : Region) (a : Region) (b_ : VRegion4) (stride_a : BitVec 64) :
    Scatter3 4 (posA stride_c) (fun k => K3.add ((ext3 a (posS stride_a)) k) ((vreg4 b_) k)) c (Gen.ExtWrap.G3_add_avx__ppPmE c stride_c a b_ stride_a) := by
  ext_body Gen.ExtWrap.G3_add_avx__ppPmE
  exact Scatter3.of_planar4 fun k hk => by ext_lane4 hk

/-- `add_avx(__m256i & c0_, __m256i & c1_, __m256i & c2_, const __m256i a0_, const __m256i a1_, const __m256i a2_, const __m256i b0_, const __m256i b1_, const __m256i b2_)` -/
theorem G3_add_avx__vvvVVVVVV_spec (a0_ : V4) (a1_ : V4) (a2_ : V4) (b0_ : V4) (b1_ : V4) (b2_ : V4) :
    Planar4 (fun k => K3.add ((regs4 a0_ a1_ a2_) k) ((regs4 b0_ b1_ b2_) k)) (Gen.ExtWrap.G3_add_avx__vvvVVVVVV a0_ a1_ a2_ b0_ b1_ b2_).1 (Gen.ExtWrap.G3_add_avx__vvvVVVVVV a0_ a1_ a2_ b0_ b1_ b2_).2.1 (Gen.ExtWrap.G3_add_avx__vvvVVVVVV a0_ a1_ a2_ b0_ b1_ b2_).2.2 := by
  ext_body Gen.ExtWrap.G3_add_avx__vvvVVVVVV
  intro k hk
  ext_lane4 hk

/-- `add_avx(__m256i & c0_, __m256i & c1_, __m256i & c2_, const __m256i a0_, const __m256i a1_, const __m256i a2_, const Goldilocks::Element * b, uint64_t stride)` -/
theorem G3_add_avx__vvvVVVPE_spec (a0_ : V4) (a1_ : V4) (a2_ : V4) (b : Region) (stride : BitVec 64) :
    Planar4 (fun k => K3.add ((regs4 a0_ a1_ a2_) k) ((ext3 b (posS stride)) k)) (Gen.ExtWrap.G3_add_avx__vvvVVVPE a0_ a1_ a2_ b stride).1 (Gen.ExtWrap.G3_add_avx__vvvVVVPE a0_ a1_ a2_ b stride).2.1 (Gen.ExtWrap.G3_add_avx__vvvVVVPE a0_ a1_ a2_ b stride).2.2 := by
  ext_body Gen.ExtWrap.G3_add_avx__vvvVVVPE
  intro k hk
  ext_lane4 hk

end GoldilocksVerif.C16Gen
