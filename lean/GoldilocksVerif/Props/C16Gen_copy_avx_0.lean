-- GENERATED by tools/extspec.py from the C++ SIGNATURES (routine name, parameter types and names) of the current source.
-- Do not edit.  One theorem per batched / AVX2 / AVX512 cubic-extension overload: for element k the written
-- coefficients denote (in ZMod p) the K3 sum / difference / product of the k-th designated operands.
import GoldilocksVerif.Lemmas.ExtWrapL
namespace GoldilocksVerif.C16Gen
open GoldilocksVerif

/-- `copy_avx(Goldilocks::Element * dst, const __m256i a0_, const __m256i a1_, const __m256i a2_)` -/
theorem G3_copy_avx_spec (dst : Region) (a0_ : V4) (a1_ : V4) (a2_ : V4) :
    ScatterExact 4 (posD 3) (word4 a0_ a1_ a2_) dst (Gen.ExtWrap.G3_copy_avx dst a0_ a1_ a2_) := by
  ext_body Gen.ExtWrap.G3_copy_avx
  ext_words_exact

end GoldilocksVerif.C16Gen
