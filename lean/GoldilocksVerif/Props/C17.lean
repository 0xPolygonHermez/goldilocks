/-
  C17 — strided / offset / broadcast base-field wrappers and the bulk copies move the right data.

  Three layers:
  (1) Props/C17Gen.lean (GENERATED from the C++ signatures on every run): for each of the copy/add/sub/mul `_batch`,
      `_avx`, `_avx512` overloads, the translated body EQUALS "lane kernel applied to the operands the parameters
      designate, written lane 0 first to the positions the output parameters designate" (`writeSeq`).
  (2) This file: what such an equality means — frame condition (nothing else written), value of every designated
      position (field-level, through the kernel theorems of C01/C02/C11), for EVERY stride / index array, including
      0 and colliding positions (the value of a position designated several times is that of one of the lanes
      designated for it; of the last one, as the code stands).
  (3) parcpy / parSetZero: exactly `size` elements for every size and every `int` thread count (≤ 0 included),
      in every execution order of the chunks.
-/
import GoldilocksVerif.Props.C17Gen
import GoldilocksVerif.Lemmas.ParCopyL
import GoldilocksVerif.Props.C02
import GoldilocksVerif.Props.C11
import GoldilocksVerif.Lemmas.BridgeParcpy
import GoldilocksVerif.Lemmas.BridgeParcpyZero

namespace GoldilocksVerif.C17
open GoldilocksVerif

/-- array result: positions not designated by the output parameters keep their content (no stray write) -/
theorem C17_frame (res c : Region) (pos : Nat → Nat) (v : Nat → BitVec 64) (W : Nat)
    (h : res = writeSeq c pos v W) (j : Nat) (hj : ∀ k, k < W → j ≠ pos k) : res j = c j := by
  subst h; exact writeSeq_frame c pos v W j hj

/-- array result: position `pos k` holds lane `k`'s value when no later lane designates the same position -/
theorem C17_lane (res c : Region) (pos : Nat → Nat) (v : Nat → BitVec 64) (W : Nat)
    (h : res = writeSeq c pos v W) (k : Nat) (hk : k < W) (hl : ∀ k', k < k' → k' < W → pos k' ≠ pos k) :
    res (pos k) = v k := by
  subst h; exact writeSeq_last c pos v W k hk hl

/-- array result, order-agnostic: every designated position holds the value of a lane designated for it -/
theorem C17_lane_any (res c : Region) (pos : Nat → Nat) (v : Nat → BitVec 64) (W : Nat)
    (h : res = writeSeq c pos v W) (k : Nat) (hk : k < W) :
    ∃ k', k' < W ∧ pos k' = pos k ∧ res (pos k) = v k' := by
  subst h; exact writeSeq_mem c pos v W k hk

/-- AVX2 lane kernels used by the wrappers, lane by number: the field operation on that lane's operands -/
theorem C17_kernel_avx (A B : V4) (k : Nat) (hk : k < 4) :
    ((Gen.Avx2.add_avx__vVV A B).getN k).toNat % P = ((A.getN k).toNat + (B.getN k).toNat) % P ∧
    (((Gen.Avx2.sub_avx__vVV A B).getN k).toNat + (B.getN k).toNat) % P = (A.getN k).toNat % P ∧
    ((Gen.Avx2.mult_avx A B).getN k).toNat % P = ((A.getN k).toNat * (B.getN k).toNat) % P := by
  have e := fun (X : V4) => V4.getN_eq_get X ⟨k, hk⟩
  simp only at e
  rw [e, e, e, e, e]
  exact ⟨C02.C02_add_avx A B _, C02.C02_sub_avx A B _, C02.C02_mult_avx A B _⟩

/-- AVX512 lane kernels used by the wrappers -/
theorem C17_kernel_avx512 (A B : V8) (k : Nat) (hk : k < 8) :
    ((Gen.Avx512.add_avx512__wWW A B).getN k).toNat % P = ((A.getN k).toNat + (B.getN k).toNat) % P ∧
    (((Gen.Avx512.sub_avx512__wWW A B).getN k).toNat + (B.getN k).toNat) % P = (A.getN k).toNat % P ∧
    ((Gen.Avx512.mult_avx512 A B).getN k).toNat % P = ((A.getN k).toNat * (B.getN k).toNat) % P := by
  have e := fun (X : V8) => V8.getN_eq_get X ⟨k, hk⟩
  simp only at e
  rw [e, e, e, e, e]
  exact ⟨C11.C11_add_avx512 A B _, C11.C11_sub_avx512 A B _, C11.C11_mult_avx512 A B _⟩

/-- scalar kernels used by the `_batch` helpers -/
theorem C17_kernel_batch (a b : BitVec 64) :
    (Gen.Scalar.add__eEE a b).toNat % P = (a.toNat + b.toNat) % P ∧
    ((Gen.Scalar.sub__eEE a b).toNat + b.toNat) % P = a.toNat % P ∧
    (Gen.Scalar.mul__eEE a b).toNat % P = (a.toNat * b.toNat) % P :=
  ⟨add_mod a b, sub_mod a b, mul_mod a b⟩

/-- gathered operand register: lane `k` is the designated word -/
theorem C17_gather4 (f : Nat → BitVec 64) (k : Nat) (hk : k < 4) : (V4.ofFn f).getN k = f k := V4.getN_ofFn f hk

theorem C17_gather8 (f : Nat → BitVec 64) (k : Nat) (hk : k < 8) : (V8.ofFn f).getN k = f k := V8.getN_ofFn f hk

/-- A fully spelled-out instance (the shape of every generated equality once (2) is applied):
    `mul_avx(Element *c, uint64_t offset_c[4], const Element *a, const Element *b, const uint64_t offset_a[4],
    const uint64_t offset_b[4])` writes `a[offset_a[k]] * b[offset_b[k]]` to `c[offset_c[k]]` and nothing else. -/
theorem C17_mul_avx_indexed (c offset_c a b offset_a offset_b : Region) :
    let res := Gen.WrapAvx2.mul_avx__ppPPPP c offset_c a b offset_a offset_b
    (∀ j, (∀ k, k < 4 → j ≠ (offset_c k).toNat) → res j = c j) ∧
    (∀ k, k < 4 → (∀ k', k < k' → k' < 4 → (offset_c k').toNat ≠ (offset_c k).toNat) →
      (res (offset_c k).toNat).toNat % P = ((a (offset_a k).toNat).toNat * (b (offset_b k).toNat).toNat) % P) := by
  intro res
  have h := C17Gen.mul_avx__ppPPPP_spec c offset_c a b offset_a offset_b
  refine ⟨fun j hj => C17_frame _ _ _ _ _ h j hj, fun k hk hl => ?_⟩
  have h1 := C17_lane _ _ (fun k => (offset_c k).toNat) _ _ h k hk hl
  simp only at h1
  rw [show res = Gen.WrapAvx2.mul_avx__ppPPPP c offset_c a b offset_a offset_b from rfl, h1,
    (C17_kernel_avx _ _ k hk).2.2, C17_gather4 _ k hk, C17_gather4 _ k hk]

/-- strided instance with possibly colliding output positions (stride 0 allowed) -/
theorem C17_add_avx512_strided (c : Region) (offset_c : BitVec 64) (a_ : V8) (b : Region) (offset_b : BitVec 64) :
    let res := Gen.WrapAvx512.add_avx512__pEWPE c offset_c a_ b offset_b
    let pos := fun k => (BitVec.ofNat 64 k * offset_c).toNat
    (∀ j, (∀ k, k < 8 → j ≠ pos k) → res j = c j) ∧
    (∀ k, k < 8 → ∃ k', k' < 8 ∧ pos k' = pos k ∧
      (res (pos k)).toNat % P = ((a_.getN k').toNat + (b (BitVec.ofNat 64 k' * offset_b).toNat).toNat) % P) := by
  intro res pos
  have h := C17Gen.add_avx512__pEWPE_spec c offset_c a_ b offset_b
  refine ⟨fun j hj => C17_frame _ _ _ _ _ h j hj, fun k hk => ?_⟩
  obtain ⟨k', h1, h2, h3⟩ := C17_lane_any _ _ pos _ _ h k hk
  refine ⟨k', h1, h2, ?_⟩
  rw [show res = Gen.WrapAvx512.add_avx512__pEWPE c offset_c a_ b offset_b from rfl, h3,
    (C17_kernel_avx512 _ _ k' h1).1, C17_gather8 _ k' h1]

/-- register construction, loads and stores, aligned or not: the register of the consecutive words, those words in order -/
theorem C17_set_load_store (a0 a1 a2 a3 : BitVec 64) (r : Region) (v : V4) (w : V8) :
    Gen.WrapAvx2.set_avx a0 a1 a2 a3 = ⟨a0, a1, a2, a3⟩ ∧
    Gen.Avx2Mat.load_avx r = V4.ofFn r.get ∧ Gen.Avx2Mat.load_avx_a r = V4.ofFn r.get ∧
    Gen.Avx2Mat.store_avx r v = writeSeq r (fun k => k) v.getN 4 ∧
    Gen.Avx2Mat.store_avx_a r v = writeSeq r (fun k => k) v.getN 4 ∧
    Gen.PosAvx512.load_avx512 r = V8.ofFn r.get ∧ Gen.WrapAvx512.load_avx512_a r = V8.ofFn r.get ∧
    Gen.Avx512Mat.store_avx512 r w = writeSeq r (fun k => k) w.getN 8 ∧
    Gen.WrapAvx512.store_avx512_a r w = writeSeq r (fun k => k) w.getN 8 := by
  refine ⟨rfl, rfl, rfl, ?_, ?_, rfl, rfl, ?_, ?_⟩
  · exact Avx2.store_eq r v
  · exact Avx2.store_eq r v
  · exact Avx512.store_eq r w
  · exact Avx512.store_eq r w

open ParCopy in
/-- parcpy transfers exactly `size` elements, for every size (0 included), every `int` thread count
    (zero and negative included) and every order in which the chunk iterations are executed -/
theorem C17_parcpy (dst src : Region) (size : Nat) (nt : Int) (order : List Nat)
    (hperm : ∀ i, i ∈ order ↔ i ∈ starts size nt) (j : Nat) :
    (parcpyIn order dst src size nt) j = if j < size then src j else dst j :=
  foldl_chunks_cover (fun j => src j) size nt order hperm dst j

open ParCopy in
theorem C17_parSetZero (dst : Region) (size : Nat) (nt : Int) (order : List Nat)
    (hperm : ∀ i, i ∈ order ↔ i ∈ starts size nt) (j : Nat) :
    (parSetZeroIn order dst size nt) j = if j < size then 0#64 else dst j :=
  foldl_chunks_cover (fun _ => 0#64) size nt order hperm dst j

open ParCopy in
/-- the sequential execution is one of those orders -/
theorem C17_parcpy_seq (dst src : Region) (size : Nat) (nt : Int) (j : Nat) :
    (parcpy dst src size nt) j = if j < size then src j else dst j :=
  C17_parcpy dst src size nt _ (fun _ => Iff.rfl) j

open ParCopy in
theorem C17_parSetZero_seq (dst : Region) (size : Nat) (nt : Int) (j : Nat) :
    (parSetZero dst size nt) j = if j < size then 0#64 else dst j :=
  C17_parSetZero dst size nt _ (fun _ => Iff.rfl) j

-- premises are satisfiable / definitions are not degenerate
example : ParCopy.starts 10 3 = [0, 4, 8] ∧ ParCopy.starts 10 (-5) = [0] ∧ ParCopy.starts 0 4 = [] ∧
    ParCopy.len 10 3 8 = 2 := by decide

/-! ### (3') the TRANSLATED `Goldilocks::parcpy` (Gen/NttGen.lean: `NTT_iters` calls it for size 1) and `Goldilocks::parSetZero`
  (Gen/ParZeroGen.lean), heap mode of the translator: `hp` is the list of memory blocks, `⟨D, od⟩` / `⟨S, os⟩` the destination /
  source pointers (block number, word offset), `bv n = BitVec.ofNat 64 n`. -/
section generated
open GoldilocksVerif.BridgeNtt Gen.NttGen

/-- **generated `parcpy`**: for every size `n` (0 included; `8·n < 2^64`), every `int` thread count `nt` (zero and negative
    included) and every fuel above the number of chunks (`parFuel n nt = min(n, max(1, nt)) + 1`), the translated function returns;
    the heap differs from the one before in the destination block only; that block keeps its size, the words `od … od+n-1` that
    lie inside it hold the source words `os … os+n-1`, every other word is unchanged: exactly `n` words are transferred.  When the
    destination range lies inside the block, the region the destination pointer designates is `ParCopy.parcpy` of the two regions
    (the hand model of (3)). -/
theorem C17_generated_parcpy (fuel : Nat) (hp : Heap) (D S od os n : Nat) (nt : Int) (hD : D < hp.size) (hDS : D ≠ S)
    (hn8 : n * 8 < 2 ^ 64) (hnt : nt < 2 ^ 63) (hf : parFuel n nt ≤ fuel) :
    ∃ B', parcpy fuel hp ⟨D, od⟩ ⟨S, os⟩ (bv n) nt = some (hp.setBlock D B') ∧ B'.size = (hp.block D).size ∧
      (∀ j, B'.getD j 0#64 = if od ≤ j ∧ j < od + n ∧ j < (hp.block D).size then (hp.block S).getD (os + (j - od)) 0#64
        else (hp.block D).getD j 0#64) ∧
      (od + n ≤ (hp.block D).size → ∀ j, B'.getD (od + j) 0#64 =
        (ParCopy.parcpy ⟨fun j => (hp.block D).getD (od + j) 0#64⟩ ⟨fun j => (hp.block S).getD (os + j) 0#64⟩ n nt) j) :=
  ⟨_, parcpy_gen fuel hp D S od os n nt hD hDS hn8 hnt hf, Model.Ntt.copyRow_size _ _ _ _ _,
    fun j => Model.Ntt.copyRow_getD _ _ _ _ _ j, fun hfit j => parcpy_gen_region hp D S od os n nt hfit j⟩

/-- the fuel bound, spelled out -/
theorem C17_generated_parcpy_fuel (n : Nat) (nt : Int) :
    parFuel n nt = min n (if nt < 1 then 1 else nt.toNat) + 1 := rfl

/-- **generated `parSetZero`** (Lemmas/BridgeParcpyZero.lean): as `C17_generated_parcpy`, with zero in place of the source words:
    exactly `n` words are zeroed.  When the destination range lies inside the block, the region the destination pointer designates
    is `ParCopy.parSetZero` of the region before (the hand model of (3)). -/
theorem C17_generated_parSetZero (fuel : Nat) (hp : Heap) (D od n : Nat) (nt : Int) (hD : D < hp.size)
    (hn8 : n * 8 < 2 ^ 64) (hnt : nt < 2 ^ 63) (hf : parFuel n nt ≤ fuel) :
    ∃ B', Gen.ParZeroGen.parSetZero fuel hp ⟨D, od⟩ (bv n) nt = some (hp.setBlock D B') ∧ B'.size = (hp.block D).size ∧
      (∀ j, B'.getD j 0#64 = if od ≤ j ∧ j < od + n ∧ j < (hp.block D).size then 0#64 else (hp.block D).getD j 0#64) ∧
      (od + n ≤ (hp.block D).size → ∀ j, B'.getD (od + j) 0#64 =
        (ParCopy.parSetZero ⟨fun j => (hp.block D).getD (od + j) 0#64⟩ n nt) j) :=
  ⟨_, parSetZero_gen fuel hp D od n nt hD hn8 hnt hf, Model.Ntt.zeroRow_size _ _ _,
    fun j => Model.Ntt.zeroRow_getD _ _ _ j, fun hfit j => parSetZero_gen_region hp D od n nt hfit j⟩

end generated

end GoldilocksVerif.C17
