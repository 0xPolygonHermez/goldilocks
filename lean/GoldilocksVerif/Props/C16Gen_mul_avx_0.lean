-- GENERATED by tools/extspec.py from the C++ SIGNATURES (routine name, parameter types and names) of the current source.
-- Do not edit.  One theorem per batched / AVX2 / AVX512 cubic-extension overload: for element k the written
-- coefficients denote (in ZMod p) the K3 sum / difference / product of the k-th designated operands.
import GoldilocksVerif.Lemmas.ExtWrapL
namespace GoldilocksVerif.C16Gen
open GoldilocksVerif

/-- `mul13_avx(Goldilocks::Element * result, Goldilocks::Element * a, Goldilocks::Element * b, uint64_t stride_a, uint64_t stride_b)` -/
theorem G3_mul13_avx__pppEE_spec (result : Region) (a : Region) (b : Region) (stride_a : BitVec 64) (stride_b : BitVec 64) :
    Scatter3 4 (posD 3) (fun k => K3.mul ((base1 a (posS stride_a)) k) ((ext3 b (posS stride_b)) k)) result (Gen.ExtWrap.G3_mul13_avx__pppEE result a b stride_a stride_b) := by
  ext_body Gen.ExtWrap.G3_mul13_avx__pppEE
  ext_elems4

/-- `mul13_avx(Goldilocks::Element * result, Goldilocks::Element * a, Goldilocks::Element * b, const uint64_t * stride_a, const uint64_t * stride_b)` -/
theorem G3_mul13_avx__pppPP_spec (result : Region) (a : Region) (b : Region) (stride_a : Region) (stride_b : Region) :
    Scatter3 4 (posD 3) (fun k => K3.mul ((base1 a (posA stride_a)) k) ((ext3 b (posA stride_b)) k)) result (Gen.ExtWrap.G3_mul13_avx__pppPP result a b stride_a stride_b) := by
  ext_body Gen.ExtWrap.G3_mul13_avx__pppPP
  ext_elems4

/-- `mul13_avx(Goldilocks::Element * result, const __m256i & a_, Goldilocks::Element * b)` -/
theorem G3_mul13_avx__pVp_spec (result : Region) (a_ : V4) (b : Region) :
    Scatter3 4 (posD 3) (fun k => K3.mul ((reg4 a_) k) ((ext3 b (posD 3)) k)) result (Gen.ExtWrap.G3_mul13_avx__pVp result a_ b) := by
  ext_body Gen.ExtWrap.G3_mul13_avx__pVp
  ext_elems4

/-- `mul13_avx(Goldilocks3::Element_avx & c_, const __m256i & a_, const Goldilocks3::Element_avx & b_)` -/
theorem G3_mul13_avx__mVM_spec (c_ : VRegion4) (a_ : V4) (b_ : VRegion4) :
    PlanarV4 (fun k => K3.mul ((reg4 a_) k) ((vreg4 b_) k)) c_ (Gen.ExtWrap.G3_mul13_avx__mVM c_ a_ b_) := by
  ext_body Gen.ExtWrap.G3_mul13_avx__mVM
  exact PlanarV4.of_sets fun k hk => by ext_lane4 hk

/-- `mul13_avx(Goldilocks3::Element_avx & c_, Goldilocks::Element * a, __m256i * b_, uint64_t stride_a)` -/
theorem G3_mul13_avx__mpmE_spec (c_ : VRegion4) (a : Region) (b_ : VRegion4) (stride_a : BitVec 64) :
    PlanarV4 (fun k => K3.mul ((base1 a (posS stride_a)) k) ((vreg4 b_) k)) c_ (Gen.ExtWrap.G3_mul13_avx__mpmE c_ a b_ stride_a) := by
  ext_body Gen.ExtWrap.G3_mul13_avx__mpmE
  exact PlanarV4.of_sets fun k hk => by ext_lane4 hk

/-- `mul13_avx(Goldilocks3::Element_avx & c_, Goldilocks::Element * a, __m256i * b_, const uint64_t * stride_a)` -/
theorem G3_mul13_avx__mpmP_spec (c_ : VRegion4) (a : Region) (b_ : VRegion4) (stride_a : Region) :
    PlanarV4 (fun k => K3.mul ((base1 a (posA stride_a)) k) ((vreg4 b_) k)) c_ (Gen.ExtWrap.G3_mul13_avx__mpmP c_ a b_ stride_a) := by
  ext_body Gen.ExtWrap.G3_mul13_avx__mpmP
  exact PlanarV4.of_sets fun k hk => by ext_lane4 hk

/-- `mul13c_avx(Goldilocks::Element * result, Goldilocks::Element * a, Goldilocks3::Element & b, uint64_t stride_a)` -/
theorem G3_mul13c_avx__ppa3E_spec (result : Region) (a : Region) (b : Region) (stride_a : BitVec 64) :
    Scatter3 4 (posD 3) (fun k => K3.mul ((base1 a (posS stride_a)) k) ((ext3 b posC) k)) result (Gen.ExtWrap.G3_mul13c_avx__ppa3E result a b stride_a) := by
  ext_body Gen.ExtWrap.G3_mul13c_avx__ppa3E
  ext_elems4

/-- `mul13c_avx(Goldilocks::Element * result, Goldilocks::Element * a, Goldilocks3::Element & b, const uint64_t * stride_a)` -/
theorem G3_mul13c_avx__ppa3P_spec (result : Region) (a : Region) (b : Region) (stride_a : Region) :
    Scatter3 4 (posD 3) (fun k => K3.mul ((base1 a (posA stride_a)) k) ((ext3 b posC) k)) result (Gen.ExtWrap.G3_mul13c_avx__ppa3P result a b stride_a) := by
  ext_body Gen.ExtWrap.G3_mul13c_avx__ppa3P
  ext_elems4

/-- `mul13c_avx(Goldilocks::Element * result, Goldilocks::Element * a, Goldilocks::Element * b)` -/
theorem G3_mul13c_avx__ppp_spec (result : Region) (a : Region) (b : Region) :
    Scatter3 4 (posD 3) (fun k => K3.mul ((base1 a (posD 1)) k) ((ext3 b posC) k)) result (Gen.ExtWrap.G3_mul13c_avx__ppp result a b) := by
  ext_body Gen.ExtWrap.G3_mul13c_avx__ppp
  ext_elems4

/-- `mul13c_avx(Goldilocks::Element * result, const __m256i & a_, Goldilocks::Element * b)` -/
theorem G3_mul13c_avx__pVp_spec (result : Region) (a_ : V4) (b : Region) :
    Scatter3 4 (posD 3) (fun k => K3.mul ((reg4 a_) k) ((ext3 b posC) k)) result (Gen.ExtWrap.G3_mul13c_avx__pVp result a_ b) := by
  ext_body Gen.ExtWrap.G3_mul13c_avx__pVp
  ext_elems4

/-- `mul13c_avx(Goldilocks3::Element_avx & c_, const __m256i & a_, Goldilocks::Element * b)` -/
theorem G3_mul13c_avx__mVp_spec (c_ : VRegion4) (a_ : V4) (b : Region) :
    PlanarV4 (fun k => K3.mul ((reg4 a_) k) ((ext3 b posC) k)) c_ (Gen.ExtWrap.G3_mul13c_avx__mVp c_ a_ b) := by
  ext_body Gen.ExtWrap.G3_mul13c_avx__mVp
  exact PlanarV4.of_sets fun k hk => by ext_lane4 hk

/-- `mul13c_avx(Goldilocks3::Element_avx & c_, Goldilocks::Element * a, Goldilocks::Element * b, uint64_t stride_a)` -/
theorem G3_mul13c_avx__mppE_spec (c_ : VRegion4) (a : Region) (b : Region) (stride_a : BitVec 64) :
    PlanarV4 (fun k => K3.mul ((base1 a (posS stride_a)) k) ((ext3 b posC) k)) c_ (Gen.ExtWrap.G3_mul13c_avx__mppE c_ a b stride_a) := by
  ext_body Gen.ExtWrap.G3_mul13c_avx__mppE
  exact PlanarV4.of_sets fun k hk => by ext_lane4 hk

/-- `mul13c_avx(Goldilocks3::Element_avx & c_, Goldilocks::Element * a, Goldilocks::Element * b, const uint64_t * stride_a)` -/
theorem G3_mul13c_avx__mppP_spec (c_ : VRegion4) (a : Region) (b : Region) (stride_a : Region) :
    PlanarV4 (fun k => K3.mul ((base1 a (posA stride_a)) k) ((ext3 b posC) k)) c_ (Gen.ExtWrap.G3_mul13c_avx__mppP c_ a b stride_a) := by
  ext_body Gen.ExtWrap.G3_mul13c_avx__mppP
  exact PlanarV4.of_sets fun k hk => by ext_lane4 hk

/-- `mul13c_avx(__m256i & c0_, __m256i & c1_, __m256i & c2_, Goldilocks::Element * a, Goldilocks3::Element & b, uint64_t stride_a)` -/
theorem G3_mul13c_avx__vvvpa3E_spec (a : Region) (b : Region) (stride_a : BitVec 64) :
    Planar4 (fun k => K3.mul ((base1 a (posS stride_a)) k) ((ext3 b posC) k)) (Gen.ExtWrap.G3_mul13c_avx__vvvpa3E a b stride_a).1 (Gen.ExtWrap.G3_mul13c_avx__vvvpa3E a b stride_a).2.1 (Gen.ExtWrap.G3_mul13c_avx__vvvpa3E a b stride_a).2.2 := by
  ext_body Gen.ExtWrap.G3_mul13c_avx__vvvpa3E
  intro k hk
  ext_lane4 hk

/-- `mul1c3c_avx(Goldilocks::Element * result, Goldilocks::Element a, Goldilocks3::Element & b)` -/
theorem G3_mul1c3c_avx__pEa3_spec (result : Region) (a : BitVec 64) (b : Region) :
    Scatter3 4 (posD 3) (fun k => K3.mul ((val1 a) k) ((ext3 b posC) k)) result (Gen.ExtWrap.G3_mul1c3c_avx__pEa3 result a b) := by
  ext_body Gen.ExtWrap.G3_mul1c3c_avx__pEa3
  ext_elems4

/-- `mul1c3c_avx(Goldilocks3::Element_avx & c_, Goldilocks::Element a, Goldilocks3::Element & b)` -/
theorem G3_mul1c3c_avx__mEa3_spec (c_ : VRegion4) (a : BitVec 64) (b : Region) :
    PlanarV4 (fun k => K3.mul ((val1 a) k) ((ext3 b posC) k)) c_ (Gen.ExtWrap.G3_mul1c3c_avx__mEa3 c_ a b) := by
  ext_body Gen.ExtWrap.G3_mul1c3c_avx__mEa3
  exact PlanarV4.of_sets fun k hk => by ext_lane4 hk

/-- `mul33c_avx(Goldilocks::Element * result, Goldilocks::Element * a, Goldilocks::Element * b)` -/
theorem G3_mul33c_avx__ppp_spec (result : Region) (a : Region) (b : Region) :
    Scatter3 4 (posD 3) (fun k => K3.mul ((ext3 a (posD 3)) k) ((ext3 b posC) k)) result (Gen.ExtWrap.G3_mul33c_avx__ppp result a b) := by
  ext_body Gen.ExtWrap.G3_mul33c_avx__ppp
  exact Scatter3.of_planar4 fun k hk => by ext_lane4 hk

/-- `mul33c_avx(Goldilocks::Element * result, Goldilocks::Element * a, Goldilocks::Element * b, uint64_t stride_a)` -/
theorem G3_mul33c_avx__pppE_spec (result : Region) (a : Region) (b : Region) (stride_a : BitVec 64) :
    Scatter3 4 (posD 3) (fun k => K3.mul ((ext3 a (posS stride_a)) k) ((ext3 b posC) k)) result (Gen.ExtWrap.G3_mul33c_avx__pppE result a b stride_a) := by
  ext_body Gen.ExtWrap.G3_mul33c_avx__pppE
  exact Scatter3.of_planar4 fun k hk => by ext_lane4 hk

/-- `mul33c_avx(Goldilocks::Element * result, Goldilocks::Element * a, Goldilocks::Element * b, const uint64_t * stride_a)` -/
theorem G3_mul33c_avx__pppP_spec (result : Region) (a : Region) (b : Region) (stride_a : Region) :
    Scatter3 4 (posD 3) (fun k => K3.mul ((ext3 a (posA stride_a)) k) ((ext3 b posC) k)) result (Gen.ExtWrap.G3_mul33c_avx__pppP result a b stride_a) := by
  ext_body Gen.ExtWrap.G3_mul33c_avx__pppP
  exact Scatter3.of_planar4 fun k hk => by ext_lane4 hk

/-- `mul33c_avx(Goldilocks3::Element_avx & c_, Goldilocks3::Element_avx & a_, Goldilocks::Element * b)` -/
theorem G3_mul33c_avx__mmp_spec (c_ : VRegion4) (a_ : VRegion4) (b : Region) :
    PlanarV4 (fun k => K3.mul ((vreg4 a_) k) ((ext3 b posC) k)) c_ (Gen.ExtWrap.G3_mul33c_avx__mmp c_ a_ b) := by
  ext_body Gen.ExtWrap.G3_mul33c_avx__mmp
  exact PlanarV4.of_sets fun k hk => by ext_lane4 hk

/-- `mul33c_avx(Goldilocks3::Element_avx & c_, Goldilocks::Element * a, Goldilocks::Element * b, uint64_t stride_a)` -/
theorem G3_mul33c_avx__mppE_spec (c_ : VRegion4) (a : Region) (b : Region) (stride_a : BitVec 64) :
    PlanarV4 (fun k => K3.mul ((ext3 a (posS stride_a)) k) ((ext3 b posC) k)) c_ (Gen.ExtWrap.G3_mul33c_avx__mppE c_ a b stride_a) := by
  ext_body Gen.ExtWrap.G3_mul33c_avx__mppE
  exact PlanarV4.of_sets fun k hk => by ext_lane4 hk

/-- `mul33c_avx(Goldilocks3::Element_avx & c_, Goldilocks::Element * a, Goldilocks::Element * b, const uint64_t * stride_a)` -/
theorem G3_mul33c_avx__mppP_spec (c_ : VRegion4) (a : Region) (b : Region) (stride_a : Region) :
    PlanarV4 (fun k => K3.mul ((ext3 a (posA stride_a)) k) ((ext3 b posC) k)) c_ (Gen.ExtWrap.G3_mul33c_avx__mppP c_ a b stride_a) := by
  ext_body Gen.ExtWrap.G3_mul33c_avx__mppP
  exact PlanarV4.of_sets fun k hk => by ext_lane4 hk

/-- `mul_avx(Goldilocks::Element * result, Goldilocks::Element * a, Goldilocks::Element * b)` -/
theorem G3_mul_avx__ppp_spec (result : Region) (a : Region) (b : Region) :
    Scatter3 4 (posD 3) (fun k => K3.mul ((ext3 a (posD 3)) k) ((ext3 b (posD 3)) k)) result (Gen.ExtWrap.G3_mul_avx__ppp result a b) := by
  ext_body Gen.ExtWrap.G3_mul_avx__ppp
  exact Scatter3.of_planar4 fun k hk => by ext_lane4 hk

/-- `mul_avx(Goldilocks::Element * result, Goldilocks::Element * a, Goldilocks::Element * b, uint64_t stride_a, uint64_t stride_b)` -/
theorem G3_mul_avx__pppEE_spec (result : Region) (a : Region) (b : Region) (stride_a : BitVec 64) (stride_b : BitVec 64) :
    Scatter3 4 (posD 3) (fun k => K3.mul ((ext3 a (posS stride_a)) k) ((ext3 b (posS stride_b)) k)) result (Gen.ExtWrap.G3_mul_avx__pppEE result a b stride_a stride_b) := by
  ext_body Gen.ExtWrap.G3_mul_avx__pppEE
  exact Scatter3.of_planar4 fun k hk => by ext_lane4 hk

/-- `mul_avx(Goldilocks::Element * result, Goldilocks::Element * a, Goldilocks::Element * b, const uint64_t * stride_a, const uint64_t * stride_b)` -/
theorem G3_mul_avx__pppPP_spec (result : Region) (a : Region) (b : Region) (stride_a : Region) (stride_b : Region) :
    Scatter3 4 (posD 3) (fun k => K3.mul ((ext3 a (posA stride_a)) k) ((ext3 b (posA stride_b)) k)) result (Gen.ExtWrap.G3_mul_avx__pppPP result a b stride_a stride_b) := by
  ext_body Gen.ExtWrap.G3_mul_avx__pppPP
  exact Scatter3.of_planar4 fun k hk => by ext_lane4 hk

/-- `mul_avx(Goldilocks3::Element_avx & c_, Goldilocks3::Element_avx & a_, Goldilocks3::Element_avx & b_)` -/
theorem G3_mul_avx__mmm_spec (c_ : VRegion4) (a_ : VRegion4) (b_ : VRegion4) :
    PlanarV4 (fun k => K3.mul ((vreg4 a_) k) ((vreg4 b_) k)) c_ (Gen.ExtWrap.G3_mul_avx__mmm c_ a_ b_) := by
  ext_body Gen.ExtWrap.G3_mul_avx__mmm
  exact PlanarV4.of_sets fun k hk => by ext_lane4 hk

/-- `mul_avx(Goldilocks::Element * c, uint64_t stride_c, Goldilocks::Element * a, Goldilocks3::Element_avx & b_, uint64_t stride_a)` -/
theorem G3_mul_avx__pEpmE_spec (c : Region) (stride_c : BitVec 64) (a : Region) (b_ : VRegion4) (stride_a : BitVec 64) :
    Scatter3 4 (posS stride_c) (fun k => K3.mul ((ext3 a (posS stride_a)) k) ((vreg4 b_) k)) c (Gen.ExtWrap.G3_mul_avx__pEpmE c stride_c a b_ stride_a) := by
  ext_body Gen.ExtWrap.G3_mul_avx__pEpmE
  exact Scatter3.of_planar4 fun k hk => by ext_lane4 hk

/-- `mul_avx(Goldilocks::Element * c, uint64_t stride_c, Goldilocks3::Element_avx & a_, Goldilocks3::Element_avx & b_)` -/
theorem G3_mul_avx__pEmm_spec (c : Region) (stride_c : BitVec 64) (a_ : VRegion4) (b_ : VRegion4) :
    Scatter3 4 (posS stride_c) (fun k => K3.mul ((vreg4 a_) k) ((vreg4 b_) k)) c (Gen.ExtWrap.G3_mul_avx__pEmm c stride_c a_ b_) := by
  ext_body Gen.ExtWrap.G3_mul_avx__pEmm
  exact Scatter3.of_planar4 fun k hk => by ext_lane4 hk

/-- `mul_avx(Goldilocks::Element * c, uint64_t * stride_c, Goldilocks3::Element_avx & a_, Goldilocks3::Element_avx & b_)` -/
theorem G3_mul_avx__ppmm_spec (c : Region) (stride_c : Region) (a_ : VRegion4) (b_ : VRegion4) :
    Scatter3 4 (posA stride_c) (fun k => K3.mul ((vreg4 a_) k) ((vreg4 b_) k)) c (Gen.ExtWrap.G3_mul_avx__ppmm c stride_c a_ b_) := by
  ext_body Gen.ExtWrap.G3_mul_avx__ppmm
  exact Scatter3.of_planar4 fun k hk => by ext_lane4 hk

/-- `mul_avx(Goldilocks3::Element_avx & c_, Goldilocks::Element * a, Goldilocks::Element * b, uint64_t stride_a, uint64_t stride_b)` -/
theorem G3_mul_avx__mppEE_spec (c_ : VRegion4) (a : Region) (b : Region) (stride_a : BitVec 64) (stride_b : BitVec 64) :
    PlanarV4 (fun k => K3.mul ((ext3 a (posS stride_a)) k) ((ext3 b (posS stride_b)) k)) c_ (Gen.ExtWrap.G3_mul_avx__mppEE c_ a b stride_a stride_b) := by
  ext_body Gen.ExtWrap.G3_mul_avx__mppEE
  exact PlanarV4.of_sets fun k hk => by ext_lane4 hk

/-- `mul_avx(Goldilocks3::Element_avx & c_, Goldilocks::Element * a, Goldilocks3::Element_avx & b_, const uint64_t * stride_a)` -/
theorem G3_mul_avx__mpmP_spec (c_ : VRegion4) (a : Region) (b_ : VRegion4) (stride_a : Region) :
    PlanarV4 (fun k => K3.mul ((ext3 a (posA stride_a)) k) ((vreg4 b_) k)) c_ (Gen.ExtWrap.G3_mul_avx__mpmP c_ a b_ stride_a) := by
  ext_body Gen.ExtWrap.G3_mul_avx__mpmP
  exact PlanarV4.of_sets fun k hk => by ext_lane4 hk

/-- `mul_avx(Goldilocks3::Element_avx & c_, Goldilocks::Element * a, Goldilocks3::Element_avx & b_, const uint64_t stride_a)` -/
theorem G3_mul_avx__mpmE_spec (c_ : VRegion4) (a : Region) (b_ : VRegion4) (stride_a : BitVec 64) :
    PlanarV4 (fun k => K3.mul ((ext3 a (posS stride_a)) k) ((vreg4 b_) k)) c_ (Gen.ExtWrap.G3_mul_avx__mpmE c_ a b_ stride_a) := by
  ext_body Gen.ExtWrap.G3_mul_avx__mpmE
  exact PlanarV4.of_sets fun k hk => by ext_lane4 hk

/-- `mul_avx(Goldilocks3::Element_avx & c_, Goldilocks::Element * a, Goldilocks::Element * b, const uint64_t * stride_a, const uint64_t * stride_b)` -/
theorem G3_mul_avx__mppPP_spec (c_ : VRegion4) (a : Region) (b : Region) (stride_a : Region) (stride_b : Region) :
    PlanarV4 (fun k => K3.mul ((ext3 a (posA stride_a)) k) ((ext3 b (posA stride_b)) k)) c_ (Gen.ExtWrap.G3_mul_avx__mppPP c_ a b stride_a stride_b) := by
  ext_body Gen.ExtWrap.G3_mul_avx__mppPP
  exact PlanarV4.of_sets fun k hk => by ext_lane4 hk

/-- `mul_avx(__m256i & c0_, __m256i & c1_, __m256i & c2_, __m256i a0_, __m256i a1_, __m256i a2_, __m256i b0_, __m256i b1_, __m256i b2_, __m256i aux0_, __m256i aux1_, __m256i aux2_)`
    challenge product: aux lanes hold (b0+b1, b0+b2, b1+b2) of the same lane [hypothesis] -/
theorem G3_mul_avx__vvvVVVVVVVVV_spec (a0_ : V4) (a1_ : V4) (a2_ : V4) (b0_ : V4) (b1_ : V4) (b2_ : V4) (aux0_ : V4) (aux1_ : V4) (aux2_ : V4)
    (h : ∀ k, k < 4 → ChalSums ((regs4 b0_ b1_ b2_) k) (den (aux0_.getN k)) (den (aux1_.getN k)) (den (aux2_.getN k))) :
    Planar4 (fun k => K3.mul ((regs4 a0_ a1_ a2_) k) ((regs4 b0_ b1_ b2_) k)) (Gen.ExtWrap.G3_mul_avx__vvvVVVVVVVVV a0_ a1_ a2_ b0_ b1_ b2_ aux0_ aux1_ aux2_).1 (Gen.ExtWrap.G3_mul_avx__vvvVVVVVVVVV a0_ a1_ a2_ b0_ b1_ b2_ aux0_ aux1_ aux2_).2.1 (Gen.ExtWrap.G3_mul_avx__vvvVVVVVVVVV a0_ a1_ a2_ b0_ b1_ b2_ aux0_ aux1_ aux2_).2.2 := by
  ext_body Gen.ExtWrap.G3_mul_avx__vvvVVVVVVVVV
  intro k hk
  obtain ⟨h0, h1, h2⟩ := h k hk
  simp only [regs4] at h0 h1 h2
  ext_lane4 hk

/-- `mul_avx(__m256i & c0_, __m256i & c1_, __m256i & c2_, __m256i a0_, __m256i a1_, __m256i a2_, Goldilocks::Element * b)` -/
theorem G3_mul_avx__vvvVVVp_spec (a0_ : V4) (a1_ : V4) (a2_ : V4) (b : Region) :
    Planar4 (fun k => K3.mul ((regs4 a0_ a1_ a2_) k) ((ext3 b (posD 3)) k)) (Gen.ExtWrap.G3_mul_avx__vvvVVVp a0_ a1_ a2_ b).1 (Gen.ExtWrap.G3_mul_avx__vvvVVVp a0_ a1_ a2_ b).2.1 (Gen.ExtWrap.G3_mul_avx__vvvVVVp a0_ a1_ a2_ b).2.2 := by
  ext_body Gen.ExtWrap.G3_mul_avx__vvvVVVp
  intro k hk
  ext_lane4 hk

end GoldilocksVerif.C16Gen
