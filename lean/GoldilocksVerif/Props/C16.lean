/-
  C16 — every batched / AVX2 / AVX512 cubic-extension variant equals the scalar operation.

  Three layers (the layering of C17):
  (1) Props/C16Gen*.lean (GENERATED from the C++ signatures on every run, bodies translated from the current source):
      one theorem per overload of the add / sub / mul families (156) and of the planar<->interleaved copies (3).
      The statement is derived from the routine NAME (operation, operand shape 13 / 31 / 33, `c` = broadcast constant,
      family) and the parameter TYPES and NAMES only (tools/extspec.py), never from the body:
        array output      `Scatter3 W pos val c res`   res is c after, for k = 0..W-1 in order, three writes at
                                                        pos k 0, pos k 1, pos k 2 of words that denote (in ZMod p)
                                                        the coefficients of `val k`;
        Element_avx       `PlanarV4 val c_ res`        registers 0,1,2: lane k of register i denotes coefficient i of
                                                        `val k`; the other registers of the array are untouched;
        three registers   `Planar4 val c0 c1 c2`       the same for register references;
      with `val k = K3.add / K3.sub / K3.mul (a-operand k) (b-operand k)` in K3 = F_p[x]/(x^3 - x - 1) and the operands
      read at exactly the positions the stride parameters designate (`posD`, `posS`, `posA`, `posC`, 64-bit index
      arithmetic).  The three "challenge" products take the sums b0+b1, b0+b2, b1+b2 as an extra operand; they are
      stated under the hypothesis `ChalSums` that the extra operand holds those sums (as field elements).
  (2) This file: what such a statement means — frame (nothing but the designated positions is written), the value of
      every designated position for EVERY stride / index array (colliding positions included, order-agnostic and
      exact forms), the interleaved layout in closed form, and the link to the scalar `Goldilocks3` routines of C09:
      `val k` IS what `Gen.Ext.G3_add / G3_sub / G3_mul` (all operand forms) return on the k-th designated operands.
  (3) Fully spelled-out instances and the copies.

  What is NOT a theorem here: "reads only the positions its strides designate".  The generated models are total
  functions of the region contents, so a stray READ is not observable in Lean; the theorems show that the written
  field elements are functions of the designated words only, and the read footprint itself is established by the
  correspondence runs (arrays sized exactly to the designated extent, mapped against a PROT_NONE page).
-/
import GoldilocksVerif.Props.C16Gen
import GoldilocksVerif.Lemmas.ExtWrapTac  -- nothing of it is used here; imported so that the library builds it
import GoldilocksVerif.Props.C09

namespace GoldilocksVerif.C16
open GoldilocksVerif

/-- frame: a position that no (element, coefficient) pair designates keeps its content -/
theorem C16_frame {W : Nat} {pos : Nat → Nat → Nat} {val : Nat → K3} {c res : Region}
    (h : Scatter3 W pos val c res) (j : Nat) (hj : ∀ k, k < W → ∀ i, i < 3 → j ≠ pos k i) : res j = c j := by
  refine WrittenBy.frame h j (fun m hm => hj (m / 3) ?_ (m % 3) (Nat.mod_lt _ (by decide)))
  omega

/-- order-agnostic value: every designated position holds a word that denotes the coefficient of SOME
    (element, coefficient) pair designated for it — for every stride, including 0 and overlapping elements -/
theorem C16_any {W : Nat} {pos : Nat → Nat → Nat} {val : Nat → K3} {c res : Region}
    (h : Scatter3 W pos val c res) (k i : Nat) (hk : k < W) (hi : i < 3) :
    ∃ k' i', k' < W ∧ i' < 3 ∧ pos k' i' = pos k i ∧ den (res (pos k i)) = (val k').coef i' := by
  have e1 : (3 * k + i) / 3 = k := by omega
  have e2 : (3 * k + i) % 3 = i := by omega
  obtain ⟨m', h1, h2, h3⟩ := WrittenBy.mem h (3 * k + i) (by omega)
  simp only [e1, e2] at h2 h3
  exact ⟨m' / 3, m' % 3, by omega, Nat.mod_lt _ (by decide), h2, h3⟩

/-- exact value: when no LATER write (element-major, coefficient-minor order, as the code stands) hits the position -/
theorem C16_exact {W : Nat} {pos : Nat → Nat → Nat} {val : Nat → K3} {c res : Region}
    (h : Scatter3 W pos val c res) (k i : Nat) (hk : k < W) (hi : i < 3)
    (hl : ∀ k' i', k' < W → i' < 3 → 3 * k + i < 3 * k' + i' → pos k' i' ≠ pos k i) :
    den (res (pos k i)) = (val k).coef i := by
  have e1 : (3 * k + i) / 3 = k := by omega
  have e2 : (3 * k + i) % 3 = i := by omega
  have := WrittenBy.last h (3 * k + i) (by omega) (fun m' h1 h2 => by
    simp only [e1, e2]
    exact hl (m' / 3) (m' % 3) (by omega) (Nat.mod_lt _ (by decide)) (by omega))
  simpa only [e1, e2] using this

/-- interleaved output (`result`, no output stride): element k occupies words 3k, 3k+1, 3k+2; closed form -/
theorem C16_interleaved {W : Nat} {val : Nat → K3} {c res : Region} (h : Scatter3 W (posD 3) val c res) :
    (∀ k, k < W → (⟨den (res (3 * k)), den (res (3 * k + 1)), den (res (3 * k + 2))⟩ : K3) = val k) ∧
    (∀ j, 3 * W ≤ j → res j = c j) := by
  constructor
  · intro k hk
    have ex : ∀ i, i < 3 → den (res (posD 3 k i)) = (val k).coef i := fun i hi =>
      C16_exact h k i hk hi (fun k' i' _ _ hlt => by unfold posD; omega)
    have h0 := ex 0 (by decide)
    have h1 := ex 1 (by decide)
    have h2 := ex 2 (by decide)
    simp only [posD, Nat.add_zero, K3.coef_zero, K3.coef_one, K3.coef_two] at h0 h1 h2
    exact K3.ext' _ _ h0 h1 h2
  · intro j hj
    exact C16_frame h j (fun k hk i hi => by unfold posD; omega)

/-- strided output without wrap-around and with stride ≥ 3: elements do not overlap, every element exact -/
theorem C16_strided {W : Nat} {val : Nat → K3} {c res : Region} (s : BitVec 64) (h : Scatter3 W (posS s) val c res)
    (hs : 3 ≤ s.toNat) (hw : W * s.toNat + 3 ≤ 2 ^ 64) (k : Nat) (hk : k < W) :
    (⟨den (res (k * s.toNat)), den (res (k * s.toNat + 1)), den (res (k * s.toNat + 2))⟩ : K3) = val k := by
  have hpos : ∀ k' i', k' < W → i' < 3 → posS s k' i' = k' * s.toNat + i' := by
    intro k' i' hk' hi'
    have hkk : k' * s.toNat + s.toNat ≤ W * s.toNat := by
      have : (k' + 1) * s.toNat ≤ W * s.toNat := Nat.mul_le_mul_right _ hk'
      rw [Nat.add_mul, Nat.one_mul] at this
      exact this
    have hk64 : k' < 2 ^ 64 := by
      have : k' * 3 ≤ k' * s.toNat := Nat.mul_le_mul_left _ hs
      omega
    exact posS_eq s k' i' hi' hk64 (by omega)
  have ex : ∀ i, i < 3 → den (res (posS s k i)) = (val k).coef i := fun i hi =>
    C16_exact h k i hk hi (fun k' i' hk' hi' hlt => by
      rw [hpos k' i' hk' hi', hpos k i hk hi]
      intro he
      rcases Nat.lt_or_ge k k' with hlt' | hge
      · have : k * s.toNat + s.toNat ≤ k' * s.toNat := by
          have : (k + 1) * s.toNat ≤ k' * s.toNat := Nat.mul_le_mul_right _ hlt'
          rw [Nat.add_mul, Nat.one_mul] at this
          exact this
        omega
      · have hkk : k' = k := by omega
        subst hkk
        omega)
  have h0 := ex 0 (by decide)
  have h1 := ex 1 (by decide)
  have h2 := ex 2 (by decide)
  rw [hpos k _ hk (by decide)] at h0 h1 h2
  simp only [Nat.add_zero, K3.coef_zero, K3.coef_one, K3.coef_two] at h0 h1 h2
  exact K3.ext' _ _ h0 h1 h2

/-- register outputs, spelled out: lane k of register i denotes coefficient i of `val k` -/
theorem C16_planar4 {val : Nat → K3} {c0 c1 c2 : V4} (h : Planar4 val c0 c1 c2) (k : Nat) (hk : k < 4) :
    den (c0.getN k) = (val k).c0 ∧ den (c1.getN k) = (val k).c1 ∧ den (c2.getN k) = (val k).c2 := by
  have := h k hk
  rw [← this]
  exact ⟨rfl, rfl, rfl⟩

theorem C16_planar8 {val : Nat → K3} {c0 c1 c2 : V8} (h : Planar8 val c0 c1 c2) (k : Nat) (hk : k < 8) :
    den (c0.getN k) = (val k).c0 ∧ den (c1.getN k) = (val k).c1 ∧ den (c2.getN k) = (val k).c2 := by
  have := h k hk
  rw [← this]
  exact ⟨rfl, rfl, rfl⟩

/-- `val k` of the generated statements IS the result of the scalar `Goldilocks3` routine on the k-th operands:
    for operand words a0 a1 a2 / b0 b1 b2 (any representation) and a base word s, the K3 expressions used in
    Props/C16Gen are what `Goldilocks3::add / sub / mul` (ext·ext, ext·base, base·ext forms) return, in ZMod p. -/
theorem C16_scalar (r : Region) (a0 a1 a2 b0 b1 b2 s : BitVec 64) :
    let A : Region := Region.ofList [a0, a1, a2]
    let B : Region := Region.ofList [b0, b1, b2]
    let x : K3 := ⟨den a0, den a1, den a2⟩
    let y : K3 := ⟨den b0, den b1, den b2⟩
    K3.add x y = den3 (Gen.Ext.G3_add__a3A3A3 r A B) ∧
    K3.sub x y = den3 (Gen.Ext.G3_sub__a3a3a3 r A B) ∧
    K3.mul x y = den3 (Gen.Ext.G3_mul__a3a3a3 r A B) ∧
    K3.add (K3.ofBase (den s)) y = den3 (Gen.Ext.G3_add__a3EA3 r s B) ∧
    K3.add x (K3.ofBase (den s)) = den3 (Gen.Ext.G3_add__a3A3E r A s) ∧
    K3.sub (K3.ofBase (den s)) y = den3 (Gen.Ext.G3_sub__a3Ea3 r s B) ∧
    K3.sub x (K3.ofBase (den s)) = den3 (Gen.Ext.G3_sub__a3a3E r A s) ∧
    K3.mul (K3.ofBase (den s)) y = den3 (Gen.Ext.G3_mul__a3Ea3 r s B) ∧
    K3.mul x (K3.ofBase (den s)) = den3 (Gen.Ext.G3_mul__a3a3E r A s) := by
  intro A B x y
  have hA : den3 A = x := rfl
  have hB : den3 B = y := rfl
  obtain ⟨ha1, ha2, ha3, _⟩ := C09.C09_add r A B s
  obtain ⟨hs1, hs2, hs3, _, _⟩ := C09.C09_sub r A B s
  obtain ⟨hm1, _, _, hm4, hm5, _⟩ := C09.C09_mul r A B s
  rw [ha1, ha2, ha3, hs1, hs2, hs3, hm1, hm4, hm5, hA, hB]
  exact ⟨rfl, rfl, rfl, rfl, rfl, rfl, rfl, rfl, rfl⟩

/-- `mul_batch(result, a, b)`: element k of the result is the scalar product `Goldilocks3::mul` of element k of `a`
    and element k of `b`; nothing beyond the 12 words is written -/
theorem C16_mul_batch (result a b r : Region) :
    let res := Gen.ExtWrap.G3_mul_batch__ppp result a b
    (∀ k, k < 4 → den3 (Region.shift res (3 * k)) =
        den3 (Gen.Ext.G3_mul__a3a3a3 r (Region.shift a (3 * k)) (Region.shift b (3 * k)))) ∧
    (∀ j, 12 ≤ j → res j = result j) := by
  intro res
  obtain ⟨hv, hf⟩ := C16_interleaved (C16Gen.G3_mul_batch__ppp_spec result a b)
  refine ⟨fun k hk => ?_, hf⟩
  rw [(C09.C09_mul r _ _ 0#64).1]
  have := hv k hk
  simp only [den3, Region.shift_apply, Nat.add_zero, ext3, posD] at this ⊢
  exact this

/-- `mul_avx512(Element *c, uint64_t stride_c[8], Element_avx512 &a_, Element_avx512 &b_)`: index-array output with
    possibly colliding positions — frame, and every designated word denotes a coefficient of the product of the planar
    operands of an element designated for that position -/
theorem C16_mul_avx512_indexed (c stride_c : Region) (a_ b_ : VRegion8) :
    let res := Gen.ExtWrap.G3_mul_avx512__ppnn c stride_c a_ b_
    (∀ j, (∀ k, k < 8 → ∀ i, i < 3 → j ≠ posA stride_c k i) → res j = c j) ∧
    (∀ k i, k < 8 → i < 3 → ∃ k' i', k' < 8 ∧ i' < 3 ∧ posA stride_c k' i' = posA stride_c k i ∧
      den (res (posA stride_c k i)) = (K3.mul (vreg8 a_ k') (vreg8 b_ k')).coef i') := by
  intro res
  have h := C16Gen.G3_mul_avx512__ppnn_spec c stride_c a_ b_
  exact ⟨fun j hj => C16_frame h j hj, fun k i hk hi => C16_any h k i hk hi⟩

/-- `mul_avx(Element_avx &c_, Element *a, Element_avx &b_, uint64_t stride_a)`: planar result, strided array operand -/
theorem C16_mul_avx_planar (c_ : VRegion4) (a : Region) (b_ : VRegion4) (stride_a : BitVec 64) :
    let res := Gen.ExtWrap.G3_mul_avx__mpmE c_ a b_ stride_a
    (∀ k, k < 4 → (⟨den ((res 0).getN k), den ((res 1).getN k), den ((res 2).getN k)⟩ : K3) =
        K3.mul ⟨den (a (posS stride_a k 0)), den (a (posS stride_a k 1)), den (a (posS stride_a k 2))⟩
               ⟨den ((b_ 0).getN k), den ((b_ 1).getN k), den ((b_ 2).getN k)⟩) ∧
    (∀ j, 3 ≤ j → res j = c_ j) := by
  intro res
  exact C16Gen.G3_mul_avx__mpmE_spec c_ a b_ stride_a

/-- the challenge product `mul_avx(c0_,c1_,c2_, a0_,a1_,a2_, b0_,b1_,b2_, aux0_,aux1_,aux2_)`: the full product,
    GIVEN that lane k of aux0_/aux1_/aux2_ holds b0+b1 / b0+b2 / b1+b2 of lane k (as field elements) -/
theorem C16_mul_avx_challenge (a0_ a1_ a2_ b0_ b1_ b2_ aux0_ aux1_ aux2_ : V4)
    (h : ∀ k, k < 4 → den (aux0_.getN k) = den (b0_.getN k) + den (b1_.getN k) ∧
                     den (aux1_.getN k) = den (b0_.getN k) + den (b2_.getN k) ∧
                     den (aux2_.getN k) = den (b1_.getN k) + den (b2_.getN k)) :
    let res := Gen.ExtWrap.G3_mul_avx__vvvVVVVVVVVV a0_ a1_ a2_ b0_ b1_ b2_ aux0_ aux1_ aux2_
    ∀ k, k < 4 → (⟨den (res.1.getN k), den (res.2.1.getN k), den (res.2.2.getN k)⟩ : K3) =
      K3.mul ⟨den (a0_.getN k), den (a1_.getN k), den (a2_.getN k)⟩ ⟨den (b0_.getN k), den (b1_.getN k), den (b2_.getN k)⟩ := by
  intro res
  exact C16Gen.G3_mul_avx__vvvVVVVVVVVV_spec a0_ a1_ a2_ b0_ b1_ b2_ aux0_ aux1_ aux2_ (fun k hk => h k hk)

/-- closed form of an exact interleaved copy -/
theorem C16_copy_meaning {W : Nat} {word : Nat → Nat → BitVec 64} {c res : Region}
    (h : ScatterExact W (posD 3) word c res) :
    (∀ k i, k < W → i < 3 → res (3 * k + i) = word k i) ∧ (∀ j, 3 * W ≤ j → res j = c j) := by
  constructor
  · intro k i hk hi
    have e1 : (3 * k + i) / 3 = k := by omega
    have e2 : (3 * k + i) % 3 = i := by omega
    have := WrittenBy.last h (3 * k + i) (by omega) (fun m' h1 h2 => by
      simp only [posD]
      have := Nat.div_add_mod m' 3
      omega)
    simpa only [e1, e2, posD] using this
  · intro j hj
    refine WrittenBy.frame h j (fun m hm => ?_)
    simp only [posD]
    have := Nat.div_add_mod m 3
    omega

/-- `copy_batch`, `copy_avx`, `copy_avx512`: the words themselves (no reduction), interleaved, nothing else written -/
theorem C16_copies (dst src : Region) (a0_ a1_ a2_ : V4) (w0_ w1_ w2_ : V8) :
    (∀ j, j < 12 → (Gen.ExtWrap.G3_copy_batch dst src) j = src j) ∧
    (∀ j, 12 ≤ j → (Gen.ExtWrap.G3_copy_batch dst src) j = dst j) ∧
    (∀ k, k < 4 → (Gen.ExtWrap.G3_copy_avx dst a0_ a1_ a2_) (3 * k) = a0_.getN k ∧
                  (Gen.ExtWrap.G3_copy_avx dst a0_ a1_ a2_) (3 * k + 1) = a1_.getN k ∧
                  (Gen.ExtWrap.G3_copy_avx dst a0_ a1_ a2_) (3 * k + 2) = a2_.getN k) ∧
    (∀ j, 12 ≤ j → (Gen.ExtWrap.G3_copy_avx dst a0_ a1_ a2_) j = dst j) ∧
    (∀ k, k < 8 → (Gen.ExtWrap.G3_copy_avx512 dst w0_ w1_ w2_) (3 * k) = w0_.getN k ∧
                  (Gen.ExtWrap.G3_copy_avx512 dst w0_ w1_ w2_) (3 * k + 1) = w1_.getN k ∧
                  (Gen.ExtWrap.G3_copy_avx512 dst w0_ w1_ w2_) (3 * k + 2) = w2_.getN k) ∧
    (∀ j, 24 ≤ j → (Gen.ExtWrap.G3_copy_avx512 dst w0_ w1_ w2_) j = dst j) := by
  obtain ⟨hb, hbf⟩ := C16_copy_meaning (C16Gen.G3_copy_batch_spec dst src)
  obtain ⟨ha, haf⟩ := C16_copy_meaning (C16Gen.G3_copy_avx_spec dst a0_ a1_ a2_)
  obtain ⟨hw, hwf⟩ := C16_copy_meaning (C16Gen.G3_copy_avx512_spec dst w0_ w1_ w2_)
  refine ⟨fun j hj => ?_, hbf, fun k hk => ⟨?_, ?_, ?_⟩, haf, fun k hk => ⟨?_, ?_, ?_⟩, hwf⟩
  · have := hb (j / 3) (j % 3) (by omega) (Nat.mod_lt _ (by decide))
    have e : 3 * (j / 3) + j % 3 = j := Nat.div_add_mod j 3
    simpa only [posD, e] using this
  · have := ha k 0 hk (by decide)
    rw [Nat.add_zero] at this
    exact this
  · exact ha k 1 hk (by decide)
  · exact ha k 2 hk (by decide)
  · have := hw k 0 hk (by decide)
    rw [Nat.add_zero] at this
    exact this
  · exact hw k 1 hk (by decide)
  · exact hw k 2 hk (by decide)

-- premises are satisfiable / the vocabulary is not degenerate
example : posS 3#64 2 1 = 7 ∧ posD 3 2 1 = 7 ∧ posA (Region.ofList [5#64, 9#64]) 1 2 = 11 ∧ posC 3 2 = 2 := by decide
example : ChalSums ⟨1, 2, 3⟩ 3 4 5 := ⟨by decide, by decide, by decide⟩

end GoldilocksVerif.C16
