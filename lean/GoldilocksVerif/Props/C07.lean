/-
  C07 — linear_hash is the rate-8 capacity-4 sponge for every input length.

  About `Model.linearHash` / `Model.linearHash512` (Model/Sponge.lean), the loop-for-loop models of linear_hash_seq,
  linear_hash and linear_hash_avx512, tied to the code by the correspondence run for every length 0..40 and more.
  The theorems hold for EVERY permutation `perm`; the check instantiates it with the translated permutations of C06.
-/
import GoldilocksVerif.Lemmas.SpongeL
import GoldilocksVerif.Lemmas.BridgeSponge
import GoldilocksVerif.Lemmas.BridgePerm
import GoldilocksVerif.Lemmas.BridgePermAvx

namespace GoldilocksVerif.C07
open GoldilocksVerif.Model

/-- a sequence of at most four elements is returned unchanged, zero-padded to four -/
theorem C07_passthrough (perm : List Wd → List Wd) (input : List Wd) (h : input.length ≤ 4) :
    linearHash perm input = input ++ zeros (4 - input.length) := by
  unfold linearHash; simp only [h, if_true]

/-- for every input length and every permutation, the loop (remaining counter, capacity feedback, zero padding) is the
    sponge: zero initial capacity, eight elements absorbed at a time with zero padding of the last block, the first four
    outputs fed back, the digest = first four outputs of the last permutation -/
theorem C07_linear_hash_is_sponge (perm : List Wd → List Wd) (input : List Wd) :
    linearHash perm input = spongeSpec perm input := linearHash_eq_spec perm input

/-- the scalar and AVX2 variants run the same loop: equal digests whenever the two permutations agree (C06 gives agreement
    on all states) -/
theorem C07_variants_agree (p1 p2 : List Wd → List Wd) (h : ∀ s, p1 s = p2 s) (input : List Wd) :
    linearHash p1 input = linearHash p2 input := by
  have : p1 = p2 := funext h
  rw [this]

/-- the digest has four elements (for permutations returning at least four) -/
theorem C07_digest_length (perm : List Wd → List Wd) (hp : ∀ s, 4 ≤ (perm s).length) (input : List Wd) :
    (linearHash perm input).length = 4 := linearHash_length perm hp input

/-- the two-at-a-time AVX512 variant, pass-through case: two inputs of at most four elements are returned unchanged,
    each zero-padded to four -/
theorem C07_avx512_passthrough (perm2 : List Wd → List Wd) (in1 in2 : List Wd) (hl : in1.length = in2.length)
    (h : in1.length ≤ 4) :
    linearHash512 perm2 (in1 ++ in2) in1.length = (in1 ++ zeros (4 - in1.length)) ++ (in2 ++ zeros (4 - in2.length)) :=
  linearHash512_small perm2 in1 in2 hl h

/-- the two-at-a-time AVX512 variant, every length: if the two-state permutation acts on the interleaved layout
    [a0..3 b0..3 a4..7 b4..7 a8..11 b8..11] as the one-state permutation on each state (C06_avx512_eq_spec), and the
    one-state permutation returns twelve elements, then hashing two equally long inputs side by side gives exactly the two
    one-input digests, i.e. (by `C07_linear_hash_is_sponge`) two sponges.  `Model.linearHash512` mirrors the
    interleaved-state loop (memset + four memcpy's per block, eight-word capacity feedback). -/
theorem C07_avx512 (perm perm2 : List Wd → List Wd)
    (h : ∀ a b, a.length = 12 → b.length = 12 → perm2 (interleave a b) = interleave (perm a) (perm b))
    (hp : ∀ s, s.length = 12 → (perm s).length = 12)
    (in1 in2 : List Wd) (hl : in1.length = in2.length) :
    linearHash512 perm2 (in1 ++ in2) in1.length = linearHash perm in1 ++ linearHash perm in2 :=
  linearHash512_eq perm perm2 h hp in1 in2 hl

/-- hence both AVX512 digests are the specification sponge of their input -/
theorem C07_avx512_is_sponge (perm perm2 : List Wd → List Wd)
    (h : ∀ a b, a.length = 12 → b.length = 12 → perm2 (interleave a b) = interleave (perm a) (perm b))
    (hp : ∀ s, s.length = 12 → (perm s).length = 12)
    (in1 in2 : List Wd) (hl : in1.length = in2.length) :
    linearHash512 perm2 (in1 ++ in2) in1.length = spongeSpec perm in1 ++ spongeSpec perm in2 := by
  rw [C07_avx512 perm perm2 h hp in1 in2 hl, linearHash_eq_spec, linearHash_eq_spec]

/-! ## The same statement about the TRANSLATED `linear_hash_seq` and `linear_hash`

  `Gen.LinearHashGen.Pos_linear_hash_seq / Pos_linear_hash` are regenerated from poseidon_goldilocks.cpp on every run (the
  `while (remaining)` loop as a fuel-bounded fold over its lifted body, `memcpy` / `memset` with run-time sizes as region
  copies, the early `return` of the pass-through case as a branch).  The statements hold for every 64-bit `size`, every
  input / output region and every fuel > size.  They are generic in the permutation in the same way as the statements above:
  `perm` is any list function that describes what the translated permutation the loop calls does on its first twelve words
  (hypothesis `hP`; C06 proves what these permutations compute: the copies `…_al_state_input` the loops call are C06's functions
  with the state as both arguments, `seq_al_eq`, `avx_al_eq`).  Proofs: Lemmas/BridgeSponge.lean. -/

/-- translated `linear_hash_seq`: returns, the four output words are the sponge of the first `size` input words (pass-through
    below five elements), nothing beyond output[3] is written -/
theorem C07_generated_linear_hash_seq (perm : List Wd → List Wd)
    (hP : ∀ s, GoldilocksVerif.Region.toList (Gen.LinearHashGen.Pos_hash_full_result_seq_al_state_input s) 12 =
      perm (GoldilocksVerif.Region.toList s 12))
    (fuel : Nat) (output input : GoldilocksVerif.Region) (size : BitVec 64) (hf : size.toNat < fuel) :
    ∃ out', Gen.LinearHashGen.Pos_linear_hash_seq fuel output input size = some out' ∧
      GoldilocksVerif.Region.toList out' 4 = spongeSpec perm (GoldilocksVerif.Region.toList input size.toNat) ∧
      ∀ k, 4 ≤ k → out' k = output k := by
  rw [GoldilocksVerif.lh_seq_generic, ← linearHash_eq_spec]
  exact GoldilocksVerif.lhGenG_spec _ perm hP fuel output input size hf

/-- translated `linear_hash` (AVX2 permutation): the same statement -/
theorem C07_generated_linear_hash_avx2 (perm : List Wd → List Wd)
    (hP : ∀ s, GoldilocksVerif.Region.toList (Gen.LinearHashGen.Pos_hash_full_result_al_state_input s) 12 =
      perm (GoldilocksVerif.Region.toList s 12))
    (fuel : Nat) (output input : GoldilocksVerif.Region) (size : BitVec 64) (hf : size.toNat < fuel) :
    ∃ out', Gen.LinearHashGen.Pos_linear_hash fuel output input size = some out' ∧
      GoldilocksVerif.Region.toList out' 4 = spongeSpec perm (GoldilocksVerif.Region.toList input size.toNat) ∧
      ∀ k, 4 ≤ k → out' k = output k := by
  rw [← linearHash_eq_spec]
  exact GoldilocksVerif.leafHash_avx perm hP fuel output input size hf

/-- the translated functions equal the hand model `Model.linearHash` (which is thereby tied to the code by proof, not by
    testing only) -/
theorem C07_generated_linear_hash_eq_model (perm : List Wd → List Wd) (P : GoldilocksVerif.Region → GoldilocksVerif.Region)
    (hP : ∀ s, GoldilocksVerif.Region.toList (P s) 12 = perm (GoldilocksVerif.Region.toList s 12))
    (fuel : Nat) (output input : GoldilocksVerif.Region) (size : BitVec 64) (hf : size.toNat < fuel) :
    ∃ out', GoldilocksVerif.lhGenG P fuel output input size = some out' ∧
      GoldilocksVerif.Region.toList out' 4 = linearHash perm (GoldilocksVerif.Region.toList input size.toNat) ∧
      ∀ k, 4 ≤ k → out' k = output k := GoldilocksVerif.lhGenG_spec P perm hP fuel output input size hf

/-- translated `linear_hash_seq`, WITHOUT the hypothesis on the permutation: `perm := permSeqList`, the translated scalar
    permutation run on a 12-element list (its locality is proved in Lemmas/BridgePerm.lean, its field-level meaning is C06's) -/
theorem C07_generated_linear_hash_seq_is_sponge (fuel : Nat) (output input : GoldilocksVerif.Region) (size : BitVec 64)
    (hf : size.toNat < fuel) :
    ∃ out', Gen.LinearHashGen.Pos_linear_hash_seq fuel output input size = some out' ∧
      GoldilocksVerif.Region.toList out' 4 =
        spongeSpec GoldilocksVerif.permSeqList (GoldilocksVerif.Region.toList input size.toNat) ∧
      ∀ k, 4 ≤ k → out' k = output k :=
  C07_generated_linear_hash_seq GoldilocksVerif.permSeqList GoldilocksVerif.perm_seq_hP fuel output input size hf

/-- translated `linear_hash_avx512` (two inputs of `size` words back to back, eight output words): if the translated two-state
    permutation acts on its first 24 words as `perm2` (`hP2`) and `perm2` acts on the interleaved layout as `perm` on each
    state (`h`, the conclusion of C06_avx512_eq_spec), then for every fuel > size both digests are the sponges of their input
    and nothing beyond output[7] is written -/
theorem C07_generated_linear_hash_avx512 (perm perm2 : List Wd → List Wd)
    (h : ∀ a b, a.length = 12 → b.length = 12 → perm2 (interleave a b) = interleave (perm a) (perm b))
    (hp : ∀ s, s.length = 12 → (perm s).length = 12)
    (hP2 : ∀ s, GoldilocksVerif.Region.toList (Gen.LinearHashGen.Pos_hash_full_result_avx512_al_state_input s) 24 =
      perm2 (GoldilocksVerif.Region.toList s 24))
    (fuel : Nat) (output input : GoldilocksVerif.Region) (size : BitVec 64) (hf : size.toNat < fuel) :
    ∃ out', Gen.LinearHashGen.Pos_linear_hash_avx512 fuel output input size = some out' ∧
      GoldilocksVerif.Region.toList out' 8 =
        spongeSpec perm (GoldilocksVerif.Region.toList input size.toNat) ++
        spongeSpec perm (GoldilocksVerif.Region.toList (GoldilocksVerif.Region.shift input size.toNat) size.toNat) ∧
      ∀ k, 8 ≤ k → out' k = output k := by
  rw [GoldilocksVerif.lh512_generic]
  obtain ⟨out', h1, h2, h3⟩ := GoldilocksVerif.lh512GenG_spec _ perm2 hP2 fuel output input size hf
  refine ⟨out', h1, ?_, h3⟩
  rw [h2, GoldilocksVerif.toList_two_inputs]
  have hl : (GoldilocksVerif.Region.toList input size.toNat).length =
      (GoldilocksVerif.Region.toList (GoldilocksVerif.Region.shift input size.toNat) size.toNat).length := by
    rw [GoldilocksVerif.Region.length_toList, GoldilocksVerif.Region.length_toList]
  have := C07_avx512_is_sponge perm perm2 h hp _ _ hl
  rw [GoldilocksVerif.Region.length_toList] at this
  exact this

/-- translated `linear_hash` (AVX2), WITHOUT the hypothesis on the permutation: `perm := permAvxList`, the translated AVX2
    permutation run on a 12-element list (its locality is proved in Lemmas/BridgePermAvx.lean) -/
theorem C07_generated_linear_hash_avx2_is_sponge (fuel : Nat) (output input : GoldilocksVerif.Region) (size : BitVec 64)
    (hf : size.toNat < fuel) :
    ∃ out', Gen.LinearHashGen.Pos_linear_hash fuel output input size = some out' ∧
      GoldilocksVerif.Region.toList out' 4 =
        spongeSpec GoldilocksVerif.permAvxList (GoldilocksVerif.Region.toList input size.toNat) ∧
      ∀ k, 4 ≤ k → out' k = output k :=
  C07_generated_linear_hash_avx2 GoldilocksVerif.permAvxList GoldilocksVerif.perm_avx_hP fuel output input size hf

/-- translated `linear_hash_avx512`, WITHOUT hypotheses: it equals the hand model `Model.linearHash512` instantiated with the
    translated two-state permutation run on a 24-element list (`perm512List`; locality proved in Lemmas/BridgePermAvx.lean);
    nothing beyond output[7] is written.  That the two digests are two sponges needs, in addition, C06's statement that the
    two-state permutation acts on the interleaved layout as the one-state permutation on each state
    (`C07_generated_linear_hash_avx512_is_sponge`). -/
theorem C07_generated_linear_hash_avx512_eq_model (fuel : Nat) (output input : GoldilocksVerif.Region) (size : BitVec 64)
    (hf : size.toNat < fuel) :
    ∃ out', Gen.LinearHashGen.Pos_linear_hash_avx512 fuel output input size = some out' ∧
      GoldilocksVerif.Region.toList out' 8 =
        linearHash512 GoldilocksVerif.perm512List (GoldilocksVerif.Region.toList input (2 * size.toNat)) size.toNat ∧
      ∀ k, 8 ≤ k → out' k = output k :=
  GoldilocksVerif.pairHash_avx512 fuel output input size hf

/-- both digests of the translated `linear_hash_avx512` are sponges, the only remaining hypothesis being C06's interleaving
    statement about the two-state permutation -/
theorem C07_generated_linear_hash_avx512_is_sponge (perm : List Wd → List Wd)
    (h : ∀ a b, a.length = 12 → b.length = 12 →
      GoldilocksVerif.perm512List (interleave a b) = interleave (perm a) (perm b))
    (hp : ∀ s, s.length = 12 → (perm s).length = 12)
    (fuel : Nat) (output input : GoldilocksVerif.Region) (size : BitVec 64) (hf : size.toNat < fuel) :
    ∃ out', Gen.LinearHashGen.Pos_linear_hash_avx512 fuel output input size = some out' ∧
      GoldilocksVerif.Region.toList out' 8 =
        spongeSpec perm (GoldilocksVerif.Region.toList input size.toNat) ++
        spongeSpec perm (GoldilocksVerif.Region.toList (GoldilocksVerif.Region.shift input size.toNat) size.toNat) ∧
      ∀ k, 8 ≤ k → out' k = output k :=
  C07_generated_linear_hash_avx512 perm GoldilocksVerif.perm512List h hp GoldilocksVerif.perm512_hP fuel output input size hf

/-- non-vacuity: a 13-element input takes two blocks, the second zero-padded -/
example : (spongeSpec (fun s => s) (List.replicate 13 1#64)).length = 4 := by decide

end GoldilocksVerif.C07
