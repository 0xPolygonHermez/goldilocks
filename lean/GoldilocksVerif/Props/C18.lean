/-
  C18 — no out-of-bounds, uninitialised, mismatched-free or undefined behaviour.   LEVEL: PARTIAL BY NATURE.

  Memory safety lives partly in the runtime; what is logic is modelled and proved here, the rest is observed by the
  C18 check (guard-page / redzone / sanitizer campaigns over the shapes of C03–C09, C13, C14, C17) and is NOT a theorem:
  * allocation discipline of `NTT_Goldilocks` for EVERY history of calls on an object (Model/NttAlloc.lean, tied to the
    code by comparing the model's event sequence with the recorded malloc/free/new[]/delete[]/delete calls);
  * extents of the transform's scratch memory: one block of `ceil(ncols / nblock)` columns always fits the documented
    `size * ncols` caller buffer, the blocks tile the columns exactly;
  * the wrappers write only the positions their parameters designate (C17_frame, re-exported), the Merkle buffer has
    exactly `getTreeNumElements` elements (C08_buffer_size), parcpy touches exactly `size` elements (C17_parcpy).
  Not expressible in these models: uninitialised reads, alignment, signed-overflow / shift UB inside the C++ (D12),
  stack VLAs; see DESIGN.md §C18.

  THE GENERATED HEAP MODEL (second half of this file, theorems `C18_generated_*`).  The whole NTT source is translated on
  every run into Gen/NttGen.lean (heap mode: `Heap.alloc` for malloc / new[] / run-time sized stack arrays, `Heap.free`
  for free / delete[] / scope end, `Heap.get/set/copy/zero` for the accesses), so statements about ITS heap are re-checked
  against what the code says now:
  * ALLOCATION BALANCE (Lemmas/HeapSafe.lean, HeapSafeBal.lean, HeapSafeOwn.lean).  `Heap.ext h b` = addressable words of
    block b (0 = NULL / released / never allocated), `Heap.live h b` = `0 < ext`.  For EVERY argument value:
    `NTT`, `INTT`, `NTT_iters`, `reversePermutation` return a heap with the same number of blocks and the same extent of
    every block (`C18_generated_NTT_alloc_balance`, …); the constructor allocates exactly the two tables it stores
    (`…_ctor_allocates_tables`); the destructor releases exactly the blocks the object owns (`…_dtor_frees_owned`);
    `extendPol` changes only the cache blocks, releases the replaced ones (`…_extendPol_alloc_balance`); for every history
    constructor → calls → destructor the live blocks at the end are the live blocks at the start
    (`C18_generated_alloc_balance`).
    NOT expressible there: `free` versus `delete[]` (both are `Heap.free`: the family of a block stays with
    `C18_alloc_discipline` + the recorded allocator calls); a block of zero words is not distinguished from a released
    one; releasing a block that is already dead is a no-op of the model (the balance statements do not see a double
    release — the `FreeOK` conditions of the in-bounds part do).
  * IN-BOUNDS ACCESSES (Lemmas/HeapSafeVC.lean ff.).  `Heap.get` outside a block gives 0 and `Heap.set` outside is dropped,
    which HIDES an overrun.  `derive_safe f` (a command, Lemmas/HeapSafeVC.lean) computes from the generated DEFINITION of
    `f` the proposition `f.Safe args` = "every get / set is inside its block, every memcpy / memset range is inside its
    block and memcpy ranges do not overlap, every free gets NULL or the start of a live block", along all paths, loops
    and callees (Lemmas/HeapSafeDefs.lean: nothing hand-written).  Proved under the documented extents
    (`C18_generated_inbounds_*`): `reversePermutation` (all four branches), one batch of butterflies, `NTT_iters` (any
    `nphase`), `NTT` and `INTT` (ANY `nblock`, with or without caller buffer, in place or not, size 1 through `parcpy`),
    `computeR`, `extendPol` in all three cache states, the destructor, and whole histories constructor → any documented
    calls → destructor; without any hypothesis: the constructor's own table loops (1 ≤ s ≤ 32 is an invariant of the
    translated loop that counts `s`).  `64 ≤ fuel` is used where a proof needs the VALUE a `while` computes: `log2` (63 halvings
    + the last test) and, through `ctor_gen`, the loops of the constructor (fewer iterations).
    NOT proved: log2 n > 30; direct `NTT` / `INTT` calls with `extend = true` inside a history (the flag is internal to
    `extendPol`); buffers that are distinct ranges of ONE block; pointer arithmetic that leaves a block without an access
    (`&buffer[k]` alone) is not a condition.
-/
import GoldilocksVerif.Lemmas.NttAllocL
import GoldilocksVerif.Lemmas.WrapL
import GoldilocksVerif.Lemmas.ParCopyL
import GoldilocksVerif.Lemmas.HeapSafeOwn
import GoldilocksVerif.Lemmas.HeapSafeCtor
import GoldilocksVerif.Lemmas.HeapSafeDtor
import GoldilocksVerif.Lemmas.HeapSafeHist

namespace GoldilocksVerif.C18
open GoldilocksVerif GoldilocksVerif.NttAlloc

/-- For every constructor argument and every history of NTT / INTT / extendPol calls (any shapes, with or without a
    caller buffer, any block count), construction + the calls + destruction release every block exactly once, with the
    deallocator of the family it was allocated with, and never release anything else. -/
theorem C18_alloc_discipline (maxDomain : Nat) (cs : List Call) : Clean (lifeEv maxDomain cs) := by
  unfold Clean lifeEv
  simp only
  have h0 := run_ctor [] 0 maxDomain
  have ht := ctor_tablesOk 0 maxDomain
  obtain ⟨h1, h2, h3⟩ := run_calls (tablesL (ctor 0 maxDomain).2.2 ++ []) cs ⟨(ctor 0 maxDomain).2.1, (ctor 0 maxDomain).2.2, none⟩ trivial
  refine ⟨(callsEv ⟨(ctor 0 maxDomain).2.1, (ctor 0 maxDomain).2.2, none⟩ cs).2.next, ?_⟩
  rw [List.append_assoc, run_append_some _ _ _ _ h0]
  have h1' : run (tablesL (ctor 0 maxDomain).2.2 ++ [], (ctor 0 maxDomain).2.1)
      (callsEv ⟨(ctor 0 maxDomain).2.1, (ctor 0 maxDomain).2.2, none⟩ cs).1 = _ := h1
  rw [run_append_some _ _ _ _ h1', h3]
  have := run_dtor [] (ctor 0 maxDomain).2.2 (callsEv ⟨(ctor 0 maxDomain).2.1, (ctor 0 maxDomain).2.2, none⟩ cs).2.cache
    (callsEv ⟨(ctor 0 maxDomain).2.1, (ctor 0 maxDomain).2.2, none⟩ cs).2.next h2 ht
  simpa [List.append_assoc] using this

/-- a mismatched release is NOT clean: `delete r` on a `new[]` block (the pinned tree's destructor, D10) -/
example : ¬ Clean [.alloc .newArr 64, .free .scalar 0] := by decide
/-- nor is a leak, nor a double release -/
example : ¬ Clean [.alloc .malloc 64] ∧ ¬ Clean [.alloc .malloc 64, .free .malloc 0, .free .malloc 0] := by decide
/-- a concrete history: an extendPol that builds the cache, one that replaces it, a blocked NTT without buffer -/
example : Clean (lifeEv 16 [.extendPol 32 16 3 2 false, .extendPol 16 8 3 1 true, .ntt 16 5 2 false]) := by decide

/-- scratch extents of `NTT()`: with `nb` the clamped block count, a block holds `ncolsAlloc = ceil(ncols/nb)` columns;
    it never exceeds the caller's `size * ncols` buffer, every block has at most `ncolsAlloc` columns, and the blocks
    tile the `ncols` columns exactly (block `ib` has `ncols / nb + (ib < ncols % nb)` columns) -/
theorem C18_ntt_scratch_extents (size ncols nblock : Nat) (hc : 0 < ncols) :
    let nb := if nblock < 1 then 1 else if nblock > ncols then ncols else nblock
    let ncolsAlloc := ncols / nb + (if ncols % nb > 0 then 1 else 0)
    0 < nb ∧ nb ≤ ncols ∧ size * ncolsAlloc ≤ size * ncols ∧
    (∀ ib, ib < nb → ncols / nb + (if ib < ncols % nb then 1 else 0) ≤ ncolsAlloc) ∧
    nb * (ncols / nb) + ncols % nb = ncols := by
  intro nb ncolsAlloc
  have hnb : 0 < nb ∧ nb ≤ ncols := by
    by_cases h1 : nblock < 1
    · have e : nb = 1 := if_pos h1
      rw [e]; exact ⟨Nat.one_pos, hc⟩
    · by_cases h2 : nblock > ncols
      · have e : nb = ncols := by show (if nblock < 1 then 1 else if nblock > ncols then ncols else nblock) = ncols
                                  rw [if_neg h1, if_pos h2]
        rw [e]; exact ⟨hc, Nat.le_refl _⟩
      · have e : nb = nblock := by show (if nblock < 1 then 1 else if nblock > ncols then ncols else nblock) = nblock
                                   rw [if_neg h1, if_neg h2]
        rw [e]; omega
  have hdm := Nat.div_add_mod ncols nb
  have hml := Nat.mod_lt ncols hnb.1
  have hle : ncolsAlloc ≤ ncols := by
    show ncols / nb + (if ncols % nb > 0 then 1 else 0) ≤ ncols
    have h1 : ncols / nb ≤ ncols := Nat.div_le_self _ _
    split
    · rename_i hpos
      -- remainder > 0 forces nb ≥ 2, hence ncols / nb < ncols
      have : ncols / nb < ncols := by
        apply Nat.div_lt_self hc
        rcases Nat.lt_or_ge 1 nb with h | h
        · exact h
        · have : nb = 1 := by omega
          rw [this, Nat.mod_one] at hpos
          exact absurd hpos (Nat.lt_irrefl 0)
      omega
    · omega
  refine ⟨hnb.1, hnb.2, Nat.mul_le_mul_left _ hle, ?_, hdm⟩
  intro ib _
  show ncols / nb + (if ib < ncols % nb then 1 else 0) ≤ ncols / nb + (if ncols % nb > 0 then 1 else 0)
  split
  · rename_i h; rw [if_pos (by omega)]
    all_goals exact Nat.le_refl _   -- (with more of Mathlib imported `rw` closes `a ≤ a` itself)
  · omega

/-- wrappers: nothing outside the designated output positions is written (C17), parcpy writes exactly [0, size) -/
theorem C18_wrappers_frame (res c : Region) (pos : Nat → Nat) (v : Nat → BitVec 64) (W : Nat)
    (h : res = writeSeq c pos v W) (j : Nat) (hj : ∀ k, k < W → j ≠ pos k) : res j = c j :=
  h ▸ writeSeq_frame c pos v W j hj

theorem C18_parcpy_extent (dst src : Region) (size : Nat) (nt : Int) (j : Nat) (hj : size ≤ j) :
    (ParCopy.parcpy dst src size nt) j = dst j := by
  have h : (ParCopy.parcpy dst src size nt) j = if j < size then src j else dst j :=
    ParCopy.foldl_chunks_cover (fun j => src j) size nt _ (fun _ => Iff.rfl) dst j
  rw [h, if_neg (by omega)]

/-! ## The GENERATED heap model (Gen/NttGen.lean)

The balance statements hold for EVERY value of every argument (pointers, sizes, column and block counts, fuel) whenever
the generated function returns; the only hypothesis is that the heap has its NULL block (`0 < hp.size`, otherwise
`Heap.alloc` would hand out NULL) — and, for `extendPol`, that `r_` is NULL when `r` is. -/
section generated
open Gen.NttGen GoldilocksVerif.HeapSafe

/-- `NTT` (any `nblock`, with or without caller buffer, forward or inverse): same number of blocks, every block has the
    extent it had — `aux` and the block destination `dst_` are released, the row temporaries of `reversePermutation` are
    released in every iteration, nothing else is released -/
theorem C18_generated_NTT_alloc_balance (fuel : Nat) (hp hp' : Heap) (self : NTT_Goldilocks) (dst src : Ptr)
    (size ncols : BitVec 64) (buffer : Ptr) (nphase nblock : BitVec 64) (inverse extend : Bool) (hs : 0 < hp.size)
    (h : NTT_NTT fuel hp self dst src size ncols buffer nphase nblock inverse extend = some hp') :
    hp'.size = hp.size ∧ ∀ b, hp'.ext b = hp.ext b :=
  NTT_same fuel hp self dst src size ncols buffer nphase nblock inverse extend hs hp' h

theorem C18_generated_INTT_alloc_balance (fuel : Nat) (hp hp' : Heap) (self : NTT_Goldilocks) (dst src : Ptr)
    (size ncols : BitVec 64) (buffer : Ptr) (nphase nblock : BitVec 64) (extend : Bool) (hs : 0 < hp.size)
    (h : NTT_INTT fuel hp self dst src size ncols buffer nphase nblock extend = some hp') :
    hp'.size = hp.size ∧ ∀ b, hp'.ext b = hp.ext b :=
  INTT_same fuel hp self dst src size ncols buffer nphase nblock extend hs hp' h

/-- the pieces: `reversePermutation` (all four branches) and `NTT_iters` -/
theorem C18_generated_reversePermutation_alloc_balance (fuel : Nat) (hp hp' : Heap) (self : NTT_Goldilocks) (dst src : Ptr)
    (size offset_cols ncols ncols_all : BitVec 64) (hs : 0 < hp.size)
    (h : NTT_reversePermutation fuel hp self dst src size offset_cols ncols ncols_all = some hp') :
    hp'.size = hp.size ∧ ∀ b, hp'.ext b = hp.ext b :=
  reversePermutation_same fuel hp self dst src size offset_cols ncols ncols_all hs hp' h

theorem C18_generated_NTT_iters_alloc_balance (fuel : Nat) (hp hp' : Heap) (self : NTT_Goldilocks) (dst src : Ptr)
    (size offset_cols ncols ncols_all nphase : BitVec 64) (aux : Ptr) (inverse extend : Bool) (hs : 0 < hp.size)
    (h : NTT_NTT_iters fuel hp self dst src size offset_cols ncols ncols_all nphase aux inverse extend = some hp') :
    hp'.size = hp.size ∧ ∀ b, hp'.ext b = hp.ext b :=
  NTT_iters_same fuel hp self dst src size offset_cols ncols ncols_all nphase aux inverse extend hs hp' h

/-- the constructor allocates exactly the two tables it stores in the object (none for `maxDomainSize == 0`): they are the
    two new last blocks, every other block keeps its extent, the cache pointers are NULL, `s != 0` (so the destructor will
    release the tables) -/
theorem C18_generated_ctor_allocates_tables (fuel : Nat) (hp hp' : Heap) (self self' : NTT_Goldilocks) (m : BitVec 64)
    (thr : BitVec 32) (e : Int) (h : NTT_ctor fuel hp self m thr e = some (hp', self')) :
    self'.r = Ptr.null ∧ self'.r_ = Ptr.null ∧
    ((m = 0#64 ∧ hp' = hp ∧ self'.s = self.s) ∨
     (m ≠ 0#64 ∧ self'.s ≠ 0#32 ∧ self'.roots = ⟨hp.size, 0⟩ ∧ self'.powTwoInv = ⟨hp.size + 1, 0⟩ ∧ hp'.size = hp.size + 2 ∧
      ∃ n1 n2, ∀ b, hp'.ext b = if b = hp.size then n1 else if b = hp.size + 1 then n2 else hp.ext b)) := by
  have hpost := ctor_shape fuel hp self m thr e (hp', self') h
  rcases hpost with ⟨e0, e1, e2, e3, e4⟩ | ⟨e0, hinv, n1, n2, e1, e2, hsame⟩
  · exact ⟨e3, e4, Or.inl ⟨e0, e1, e2⟩⟩
  · refine ⟨hinv.2.1, hinv.2.2, Or.inr ⟨e0, hinv.1, e1, ?_, ?_, n1, n2, fun b => ?_⟩⟩
    · rw [e2, Heap.alloc_snd, Heap.size_alloc]
    · rw [hsame.1, Heap.size_alloc, Heap.size_alloc]
    · rw [hsame.2 b, Heap.ext_alloc, Heap.ext_alloc, Heap.size_alloc]
      by_cases h1 : b = hp.size
      · rw [if_pos h1, if_neg (by omega), if_pos h1]
      · rw [if_neg h1, if_neg h1]

/-- the destructor releases exactly the blocks the object owns (`roots`, `powTwoInv` when `s != 0`; `r`, `r_` when not NULL) -/
theorem C18_generated_dtor_frees_owned (hp : Heap) (self : NTT_Goldilocks) (hs : 0 < hp.size) (b : Nat) :
    (Owned self b → (NTT_dtor hp self).ext b = 0) ∧ (¬ Owned self b → (NTT_dtor hp self).ext b = hp.ext b) := by
  classical
  have fd := dtor_own self (Fr.ofExt hp hs (Owned self)) (fun b hb => if_pos hb)
  have := Fr.done (fd.iff (fun b => ⟨fun x => x.elim, fun x => x.2 x.1⟩)) b
  exact ⟨fun ho => by rw [this, if_pos ho], fun ho => by rw [this, if_neg ho]⟩

/-- `extendPol` (any arguments, with or without caller buffer, every state of the cache): the local transform object's
    tables and the scratch buffer are allocated and released; of the object only the cache `r`, `r_` may change;
    every block that is neither an old nor a new cache block keeps its extent; an old cache block that is not a new one is
    released; a new cache block that is not an old one was not live before -/
theorem C18_generated_extendPol_alloc_balance (fuel : Nat) (hp hp' : Heap) (self self' : NTT_Goldilocks) (output input : Ptr)
    (N_Extended N ncols : BitVec 64) (buffer : Ptr) (nphase nblock : BitVec 64) (hs : 0 < hp.size)
    (hc : self.r = Ptr.null → self.r_ = Ptr.null)
    (h : NTT_extendPol fuel hp self output input N_Extended N ncols buffer nphase nblock = some (hp', self')) :
    self'.s = self.s ∧ self'.roots = self.roots ∧ self'.powTwoInv = self.powTwoInv ∧ (self'.r = Ptr.null → self'.r_ = Ptr.null) ∧
    (∀ b, ¬ Cache self b → ¬ Cache self' b → hp'.ext b = hp.ext b) ∧
    (∀ b, Cache self b → ¬ Cache self' b → hp'.ext b = 0) ∧
    (∀ b, Cache self' b → ¬ Cache self b → hp.ext b = 0) := by
  classical
  obtain ⟨f', hc', e1, e2, e3⟩ := extendPol_own fuel hp self output input N_Extended N ncols buffer nphase nblock
    ((Fr.ofExt hp hs (Cache self)).iff (fun b => ⟨fun x => x.resolve_left id, Or.inr⟩)) hc (hp', self') h
  refine ⟨e1, e2, e3, hc', fun b h1 h2 => ?_, fun b h1 h2 => ?_, fun b h1 h2 => ?_⟩
  · have := f'.frame b (fun x => h2 (x.resolve_left id))
    rw [this, if_neg h1]
  · have := f'.frame b (fun x => h2 (x.resolve_left id))
    rw [this, if_pos h1]
  · have := f'.dead b (Or.inr h1)
    rw [if_neg h2] at this
    exact this

/-- ALLOCATION BALANCE OF THE GENERATED MODEL.  For every constructor argument and every list of `NTT` / `INTT` /
    `extendPol` calls with any arguments: generated constructor on the default-initialised members, the calls, generated
    destructor — when the history returns, every block of the heap has the extent it had at the start: the set of live
    blocks at the end equals the set at the start (every allocated block was released, nothing else was released) -/
theorem C18_generated_alloc_balance (fuel : Nat) (h0 h' : Heap) (maxDomainSize : BitVec 64) (nThreads : BitVec 32)
    (extension : Int) (cs : List HeapSafe.Call) (hs : 0 < h0.size) (h : life fuel h0 maxDomainSize nThreads extension cs = some h') :
    (∀ b, h'.ext b = h0.ext b) ∧ (∀ b, Heap.live h' b ↔ Heap.live h0 b) := by
  have := life_balance fuel h0 maxDomainSize nThreads extension cs hs h' h
  exact ⟨this, fun b => by unfold Heap.live; rw [this b]⟩

/-- `reversePermutation`, all four branches (destination distinct / in place × extension ≤ 1 / > 1): every `memcpy` /
    `memset` range is inside the destination (size rows of ncols words), the source (the first `srcRows` rows of ncols_all
    words: all of them, or size / extension) or the row temporary; source and destination of a `memcpy` do not overlap; the
    temporary is released while live -/
theorem C18_generated_inbounds_reversePermutation (fuel : Nat) (hf : 64 ≤ fuel) (hp : Heap) (self : NTT_Goldilocks)
    (dst src : Ptr) (size offset_cols ncols ncols_all : BitVec 64) (k : Nat) (hs : 0 < hp.size)
    (sh : RPShape hp self dst src size offset_cols ncols ncols_all k) :
    NTT_reversePermutation.Safe fuel hp self dst src size offset_cols ncols ncols_all :=
  reversePermutation_safe fuel hf hp self dst src size offset_cols ncols ncols_all k hs sh

/-- one batch of one pass (the body of the OpenMP batch loop): all butterfly stages of the batch — rows
    `b·2^sInc + …` of `a`, twiddle factors `roots[j << (s − stage)]` — and the copy into the other buffer (transposing, or
    reflecting and scaling with `r_[dsty]` / `powTwoInv[domainPow]`) -/
theorem C18_generated_inbounds_butterfly_batch (st : Heap) (self : NTT_Goldilocks) (a a2 : Ptr)
    (N NC K MBP S sInc nB b : Nat) (inverse extend : Bool) (sh : IShape st self a a2 N NC K extend) (hS1 : 1 ≤ S) (hSK : S ≤ K)
    (hSI : S + sInc ≤ K + 1) (hnB : nB = N / 2 ^ sInc) (hb : b < nB) :
    NTT_NTT_iters_loop9.Safe (BridgeNtt.bv N) (BridgeNtt.bv NC) inverse extend self a a2 (BridgeNtt.bv K) (BridgeNtt.bv MBP)
      (BridgeNtt.bv S) (BridgeNtt.bv sInc) (BridgeNtt.bv (S - 1)) (BridgeNtt.bv (K - 1)) (BridgeNtt.bv (2 ^ (S - 1)))
      (BridgeNtt.bv (2 ^ (K - S) - 1)) (BridgeNtt.bv (2 ^ sInc)) (BridgeNtt.bv nB) b st :=
  passBatch_safe st self a a2 N NC K MBP S sInc nB b inverse extend sh hS1 hSI hnB hb

/-- `NTT_iters` (2 ≤ size = 2^K ≤ 2^30, any `nphase`, forward / inverse / extend): `reversePermutation` into the buffer the
    parity of the phase count selects and every access of every pass of the ping-pong between destination and `aux` -/
theorem C18_generated_inbounds_NTT_iters (fuel : Nat) (hf : 64 ≤ fuel) (hp : Heap) (self : NTT_Goldilocks) (dst src aux : Ptr)
    (N NC K : Nat) (offset_cols ncols_all nphase : BitVec 64) (inverse extend : Bool) (hK1 : 1 ≤ K) (hs : 0 < hp.size)
    (sh : IShape hp self (if (dst != Ptr.null) = true then dst else src) aux N NC K extend)
    (hNC : 0 < NC) (hcols : offset_cols.toNat + NC ≤ ncols_all.toNat) (hbytes : N * ncols_all.toNat * 8 < 2 ^ 64)
    (hsrc : src.off + srcRows self (BridgeNtt.bv N) * ncols_all.toNat ≤ hp.ext src.blk)
    (hd1 : (if (dst != Ptr.null) = true then dst else src) ≠ src →
      (if (dst != Ptr.null) = true then dst else src).blk ≠ src.blk)
    (hd2 : aux.blk ≠ src.blk) :
    NTT_NTT_iters.Safe fuel hp self dst src (BridgeNtt.bv N) offset_cols (BridgeNtt.bv NC) ncols_all nphase aux inverse extend :=
  NTT_iters_safe fuel hf hp self dst src aux N NC K offset_cols ncols_all nphase inverse extend hK1 hs sh hNC hcols hbytes hsrc
    hd1 hd2

/-- **`NTT`** on buffers of the documented extents (`NTTShape`: destination and caller buffer of size·ncols words, source
    of srcRows·ncols words, the constructor's tables), for EVERY `nblock`, with or without caller buffer, in place or
    not: every access of the call tree (scratch allocation, block loop, `NTT_iters`, scatter, the two `free`s) is in bounds -/
theorem C18_generated_inbounds_NTT (fuel : Nat) (hf : 64 ≤ fuel) (hp : Heap) (self : NTT_Goldilocks) (dst src buffer : Ptr)
    (N NC K : Nat) (nphase nblock : BitVec 64) (inverse extend : Bool) (sh : NTTShape hp self dst src buffer N NC K extend) :
    NTT_NTT.Safe fuel hp self dst src (BridgeNtt.bv N) (BridgeNtt.bv NC) buffer nphase nblock inverse extend :=
  NTT_safe fuel hf hp self dst src buffer N NC K nphase nblock inverse extend sh

theorem C18_generated_inbounds_INTT (fuel : Nat) (hf : 64 ≤ fuel) (hp : Heap) (self : NTT_Goldilocks) (dst src buffer : Ptr)
    (N NC K : Nat) (nphase nblock : BitVec 64) (extend : Bool) (sh : NTTShape hp self dst src buffer N NC K extend) :
    NTT_INTT.Safe fuel hp self dst src (BridgeNtt.bv N) (BridgeNtt.bv NC) buffer nphase nblock extend :=
  INTT_safe fuel hf hp self dst src buffer N NC K nphase nblock extend sh

/-- no hypothesis about the object: the generated constructor on any heap, then the generated `NTT` of a size up to
    `maxDomainSize` on caller buffers of the documented extents (`CallerShape`) -/
theorem C18_generated_inbounds_construct_and_transform (fuel : Nat) (hf : 64 ≤ fuel) (hp hp' : Heap) (hpos : 0 < hp.size)
    (self' : NTT_Goldilocks) (maxDomainSize : BitVec 64) (nThreads : BitVec 32) (extension : Nat) (hm0 : maxDomainSize ≠ 0#64)
    (hctor : NTT_ctor fuel hp NTT_Goldilocks.init maxDomainSize nThreads (extension : Int) = some (hp', self'))
    (dst src buffer : Ptr) (N NC K : Nat) (nphase nblock : BitVec 64) (inverse : Bool)
    (hKm : K ≤ Model.Ntt.log2 maxDomainSize.toNat) (sh : CallerShape hp (extension : Int) dst src buffer N NC K) :
    NTT_NTT.Safe fuel hp' self' dst src (BridgeNtt.bv N) (BridgeNtt.bv NC) buffer nphase nblock inverse false :=
  construct_transform_safe fuel hf hp hp' hpos self' maxDomainSize nThreads extension hm0 hctor dst src buffer N NC K nphase
    nblock inverse hKm sh

/-- the destructor of an object that owns distinct live blocks releases only starts of live blocks -/
theorem C18_generated_inbounds_dtor (hp : Heap) (self : NTT_Goldilocks) (h : OwnsLive hp self) : NTT_dtor.Safe hp self :=
  dtor_safe hp self h

instance (h : Heap) (p : Ptr) (i : Nat) : Decidable (Heap.InB h p i) := by unfold Heap.InB; infer_instance

/-- the predicate sees an overrun that the computed values hide: in a block of 4 words, the butterfly of the rows at
    offsets 0 and 2 is in bounds for column 1 and NOT for column 2 (the model's read of `a[2 + 2]` silently gives 0) -/
example : NTT_NTT_iters_loop1.Safe ⟨1, 0⟩ 0#64 2#64 1#64 1 ⟨#[#[], Array.replicate 4 0#64]⟩ ∧
    ¬ NTT_NTT_iters_loop1.Safe ⟨1, 0⟩ 0#64 2#64 1#64 2 ⟨#[#[], Array.replicate 4 0#64]⟩ := by
  unfold NTT_NTT_iters_loop1.Safe
  constructor <;> decide   -- (the whole conjunction is decided: no dependence on the order of the accesses in the source)


/-- **the constructor**: `roots = malloc(nRoots·8)`, `powTwoInv = malloc((s+1)·8)`, the stores `roots[0]`, `powTwoInv[0]`,
    `roots[1]`, `powTwoInv[1]`, the loop `roots[i] = roots[i-1]·roots[1]` (2 ≤ i < nRoots), the read `roots[nRoots-1]` of the
    assert, the loop `powTwoInv[i] = powTwoInv[i-1]·powTwoInv[1]` (2 ≤ i ≤ s; every state the `while` reaches) — for EVERY heap,
    member state, `maxDomainSize`, thread count, extension and fuel.  No hypothesis: that 1 ≤ s ≤ 32 (so `1 << s` does not
    wrap and `powTwoInv` has two words) is proved as an invariant of the translated loop that counts `s` -/
theorem C18_generated_inbounds_ctor (fuel : Nat) (hp : Heap) (self : NTT_Goldilocks) (maxDomainSize : BitVec 64)
    (nThreads : BitVec 32) (extension : Int) : NTT_ctor.Safe fuel hp self maxDomainSize nThreads extension :=
  ctor_safe fuel hp self maxDomainSize nThreads extension

/-- the derived predicate of the table loop is not trivially true: with `roots` a block of 4 words, iteration 3 is in
    bounds and iteration 4 (one past `nRoots`) is not -/
example : NTT_ctor_loop3.Safe { NTT_Goldilocks.init with roots := ⟨1, 0⟩ } 3 ⟨#[#[], Array.replicate 4 0#64]⟩ ∧
    ¬ NTT_ctor_loop3.Safe { NTT_Goldilocks.init with roots := ⟨1, 0⟩ } 4 ⟨#[#[], Array.replicate 4 0#64]⟩ := by
  unfold NTT_ctor_loop3.Safe
  constructor
  · decide
  · intro h
    exact absurd h.2 (by decide)

/-- **`computeR(N)`**, 1 ≤ N < 2^31 (an `int`), on an object whose `powTwoInv` table has the s + 1 words the constructor gave
    it and that was built for a domain of at least N points (log2 N ≤ s): `r = new Element[N]`, `r_ = new Element[N]`,
    `r[0]`, `r_[0] = powTwoInv[log2 N]`, the loop `r[i] = r[i-1]·shift; r_[i] = r[i]·powTwoInv[log2 N]` (1 ≤ i < N) -/
theorem C18_generated_inbounds_computeR (fuel : Nat) (hf : 64 ≤ fuel) (hp : Heap) (self : NTT_Goldilocks) (N : Nat)
    (hN1 : 1 ≤ N) (hN31 : N < 2 ^ 31) (hlog : Model.Ntt.log2 N ≤ self.s.toNat)
    (hpti : self.powTwoInv.off + self.s.toNat + 1 ≤ hp.ext self.powTwoInv.blk) :
    NTT_computeR.Safe fuel hp self (N : Int) :=
  computeR_safe fuel hf hp self N hN1 hN31 hlog hpti

/-- the hypotheses hold on a concrete state: s = 2, `powTwoInv` a block of 3 words, N = 4 -/
example : NTT_computeR.Safe 64 ⟨#[#[], Array.replicate 3 0#64]⟩ { NTT_Goldilocks.init with s := 2#32, powTwoInv := ⟨1, 0⟩ }
    ((4 : Nat) : Int) :=
  C18_generated_inbounds_computeR 64 (by decide) _ _ 4 (by decide) (by decide) (by decide) (by decide)

/-- `Goldilocks::parcpy(dst, src, n, nt)` (called by `NTT_iters` for size 1): two distinct blocks with n words from the
    pointers, any `int` thread count (≤ 0 included): every chunk `memcpy` of every state the `while` loop reaches -/
theorem C18_generated_inbounds_parcpy (fuel : Nat) (hp : Heap) (dst src : Ptr) (n : Nat) (nt : Int) (hn8 : n * 8 < 2 ^ 64)
    (hnt : nt < 2 ^ 63) (hd : dst.off + n ≤ hp.ext dst.blk) (hsr : src.off + n ≤ hp.ext src.blk) (hne : dst.blk ≠ src.blk) :
    parcpy.Safe fuel hp dst src (BridgeNtt.bv n) nt :=
  parcpy_safe fuel hp dst src n nt hn8 hnt hd hsr hne

example : parcpy.Safe 64 ⟨#[#[], Array.replicate 5 0#64, Array.replicate 5 0#64]⟩ ⟨1, 0⟩ ⟨2, 0⟩ (BridgeNtt.bv 5) 2 :=
  C18_generated_inbounds_parcpy 64 _ _ _ 5 2 (by decide) (by decide) (by decide) (by decide) (by decide)

/-- `NTT_iters` for EVERY size 1 ≤ 2^K ≤ 2^30 (size 1: one phase, `reversePermutation` into `aux`, the pass loop is not
    entered, `parcpy(dst_, aux, ncols, nThreads)`) -/
theorem C18_generated_inbounds_NTT_iters_all (fuel : Nat) (hf : 64 ≤ fuel) (hp : Heap) (self : NTT_Goldilocks) (dst src aux : Ptr)
    (N NC K : Nat) (offset_cols ncols_all nphase : BitVec 64) (inverse extend : Bool) (hs : 0 < hp.size)
    (sh : IShape hp self (if (dst != Ptr.null) = true then dst else src) aux N NC K extend)
    (hNC : 0 < NC) (hcols : offset_cols.toNat + NC ≤ ncols_all.toNat) (hbytes : N * ncols_all.toNat * 8 < 2 ^ 64)
    (hsrc : src.off + srcRows self (BridgeNtt.bv N) * ncols_all.toNat ≤ hp.ext src.blk)
    (hd1 : (if (dst != Ptr.null) = true then dst else src) ≠ src →
      (if (dst != Ptr.null) = true then dst else src).blk ≠ src.blk)
    (hd2 : aux.blk ≠ src.blk) :
    NTT_NTT_iters.Safe fuel hp self dst src (BridgeNtt.bv N) offset_cols (BridgeNtt.bv NC) ncols_all nphase aux inverse extend :=
  NTT_iters_safe_all fuel hf hp self dst src aux N NC K offset_cols ncols_all nphase inverse extend hs sh hNC hcols hbytes hsrc
    hd1 hd2

/-- the extents of a size-1 `NTT_iters`: destination and `aux` two blocks of one row of 3 words, s = 1 -/
example : IShape ⟨#[#[], Array.replicate 3 0#64, Array.replicate 3 0#64, Array.replicate 2 0#64, Array.replicate 2 0#64]⟩
    { NTT_Goldilocks.init with s := 1#32, roots := ⟨3, 0⟩, powTwoInv := ⟨4, 0⟩ } ⟨1, 0⟩ ⟨2, 0⟩ 1 3 0 false := by
  constructor <;> decide

/-- **`NTT` / `INTT`, every size 1 ≤ 2^K ≤ 2^30** (`NTTShape0` = `NTTShape` without `1 ≤ K`), every `nblock`, with or without
    caller buffer, in place or not -/
theorem C18_generated_inbounds_NTT_all (fuel : Nat) (hf : 64 ≤ fuel) (hp : Heap) (self : NTT_Goldilocks) (dst src buffer : Ptr)
    (N NC K : Nat) (nphase nblock : BitVec 64) (inverse extend : Bool) (sh : NTTShape0 hp self dst src buffer N NC K extend) :
    NTT_NTT.Safe fuel hp self dst src (BridgeNtt.bv N) (BridgeNtt.bv NC) buffer nphase nblock inverse extend :=
  NTT_safe_all fuel hf hp self dst src buffer N NC K nphase nblock inverse extend sh

theorem C18_generated_inbounds_INTT_all (fuel : Nat) (hf : 64 ≤ fuel) (hp : Heap) (self : NTT_Goldilocks) (dst src buffer : Ptr)
    (N NC K : Nat) (nphase nblock : BitVec 64) (extend : Bool) (sh : NTTShape0 hp self dst src buffer N NC K extend) :
    NTT_INTT.Safe fuel hp self dst src (BridgeNtt.bv N) (BridgeNtt.bv NC) buffer nphase nblock extend :=
  INTT_safe_all fuel hf hp self dst src buffer N NC K nphase nblock extend sh

/-- a size-1 call shape: one row of 3 words transformed in place (`dst == NULL`), no caller buffer, s = 1 -/
example : NTTShape0 ⟨#[#[], Array.replicate 3 0#64, Array.replicate 2 0#64, Array.replicate 2 0#64]⟩
    { NTT_Goldilocks.init with s := 1#32, roots := ⟨2, 0⟩, powTwoInv := ⟨3, 0⟩ } Ptr.null ⟨1, 0⟩ Ptr.null 1 3 0 false := by
  constructor <;> decide

/-- **`extendPol`** on buffers of the documented extents (`EPShape`: `N = 2^dn ≤ N_Extended = 2^de ≤ 2^30`, `output` of
    N_Extended·ncols words, `input` of N·ncols words — the same pointer or another block —, a caller buffer of
    N_Extended·ncols words in a third block, an object built for at least N points, its cache absent or two live blocks
    of its own with `r_` of `r_N` words): the constructor of the local object, the scratch allocation, the cache refresh
    (both `delete[]`s, `computeR`) in all three cache states, `INTT(…, extend = true)` (reads `r_[0 … N)`), the in-place `NTT` of
    the local object (zero fill of the extension), `free(tmp)`, the destructor of the local object — every `nblock` -/
theorem C18_generated_inbounds_extendPol (fuel : Nat) (hf : 64 ≤ fuel) (hp : Heap) (self : NTT_Goldilocks)
    (output input buffer : Ptr) (N N_Extended NC dn de : Nat) (nphase nblock : BitVec 64)
    (sh : EPShape hp self output input buffer N N_Extended NC dn de) :
    NTT_extendPol.Safe fuel hp self output input (BridgeNtt.bv N_Extended) (BridgeNtt.bv N) (BridgeNtt.bv NC) buffer nphase nblock :=
  extendPol_safe fuel hf hp self output input buffer N N_Extended NC dn de nphase nblock sh

/-- the shape holds on a concrete state, cache absent: N = 2, N_Extended = 4, 2 columns, `output` (8 words) and `input`
    (4 words) two blocks, no caller buffer, the object's tables for s = 2 -/
example : EPShape ⟨#[#[], Array.replicate 8 0#64, Array.replicate 4 0#64, Array.replicate 4 0#64, Array.replicate 3 0#64]⟩
    { NTT_Goldilocks.init with s := 2#32, roots := ⟨3, 0⟩, powTwoInv := ⟨4, 0⟩ } ⟨1, 0⟩ ⟨2, 0⟩ Ptr.null 2 4 2 1 2 := by
  refine ⟨by decide, by decide, by decide, by decide, by decide, by decide, by decide, by decide, by decide, by decide, by decide,
    by decide, by decide, by decide, by decide, fun h => absurd rfl h⟩

/-- … and with a cache that is present and valid (`r`, `r_`: blocks 5 and 6 of 2 words, `r_N = 2`), a caller buffer (block 7) -/
example : EPShape ⟨#[#[], Array.replicate 8 0#64, Array.replicate 4 0#64, Array.replicate 4 0#64, Array.replicate 3 0#64,
      Array.replicate 2 0#64, Array.replicate 2 0#64, Array.replicate 8 0#64]⟩
    { NTT_Goldilocks.init with s := 2#32, roots := ⟨3, 0⟩, powTwoInv := ⟨4, 0⟩, r := ⟨5, 0⟩, r_ := ⟨6, 0⟩, r_N := 2#64 }
    ⟨1, 0⟩ ⟨2, 0⟩ ⟨7, 0⟩ 2 4 2 1 2 := by
  refine ⟨by decide, by decide, by decide, by decide, by decide, by decide, by decide, by decide, by decide, by decide, by decide,
    by decide, by decide, by decide, by decide, fun _ => ⟨by decide, by decide, by decide, by decide, by decide, ?_, by decide⟩⟩
  rintro b (rfl | rfl | ⟨_, rfl⟩ | rfl | rfl) <;> decide

/-- **the state `extendPol` leaves** (what makes the next call's hypotheses available): every block that was live and is
    not a block of the old cache keeps its extent (the local object's tables and the scratch buffer are released), the
    object's tables are the same, its cache is present, valid for `N` (`r_N = N`, `r_` of `N` words) and consists of two
    live blocks of its own -/
theorem C18_generated_extendPol_state (fuel : Nat) (hf : 64 ≤ fuel) (hp : Heap) (self : NTT_Goldilocks) (output input buffer : Ptr)
    (N N_Extended NC dn de : Nat) (nphase nblock : BitVec 64) (sh : EPShape hp self output input buffer N N_Extended NC dn de)
    (r : Heap × NTT_Goldilocks)
    (h : NTT_extendPol fuel hp self output input (BridgeNtt.bv N_Extended) (BridgeNtt.bv N) (BridgeNtt.bv NC) buffer nphase nblock
      = some r) :
    (∀ b, EPOld hp self b → r.1.ext b = hp.ext b) ∧
    (r.2.s = self.s ∧ r.2.roots = self.roots ∧ r.2.powTwoInv = self.powTwoInv ∧ r.2.extension = self.extension ∧
      r.2.nThreads = self.nThreads) ∧
    CacheInv r.1 r.2 (EPOld hp self) ∧ r.2.r ≠ Ptr.null ∧ r.2.r_N = BridgeNtt.bv N :=
  extendPol_post fuel hf hp self output input buffer N N_Extended NC dn de nphase nblock sh r h

/-- **IN-BOUNDS ACCESSES OF A WHOLE OBJECT LIFE** (`life.Safe`: the derived predicates along the history, each on the state
    the history has reached).  The generated constructor (`maxDomainSize ≠ 0`) on the default-initialised members in any
    heap that has its NULL block, any list of `NTT` / `INTT` / `extendPol` calls whose arguments satisfy the documented
    preconditions (`CallOK`: power-of-two sizes up to the domain the object was built for and 2^30, the caller's buffers
    are blocks that exist before the construction and have the documented extents — `BufOK`, `EPBuf` —, `extend = false`
    in direct transforms), the generated destructor: every get / set, every `memcpy` / `memset` range, every release of the
    whole history is in bounds — the extents of the tables and of the cache at each call come from the invariant `HS`
    (constructor: `ctor_tables`; `NTT` / `INTT`: allocation balance; `extendPol`: `C18_generated_extendPol_state`) -/
theorem C18_generated_inbounds_history (fuel : Nat) (hf : 64 ≤ fuel) (h0 : Heap) (hpos : 0 < h0.size) (maxDomainSize : BitVec 64)
    (nThreads : BitVec 32) (extension : Nat) (hm0 : maxDomainSize ≠ 0#64) (cs : List HeapSafe.Call)
    (hok : ∀ c, c ∈ cs → CallOK h0 (Model.Ntt.log2 maxDomainSize.toNat) c) :
    life.Safe fuel h0 maxDomainSize nThreads (extension : Int) cs :=
  life_safe fuel hf h0 maxDomainSize nThreads extension hm0 cs hok

/-- a concrete history with documented arguments: an object for 4 points; `extendPol` 2 → 4 (builds the cache), `extendPol`
    1 → 2 in place with the third block as caller buffer (replaces the cache), a size-1 `NTT`, an in-place `INTT` of size 4 -/
example : ∀ c, c ∈ [HeapSafe.Call.extendPol ⟨1, 0⟩ ⟨2, 0⟩ (BridgeNtt.bv 4) (BridgeNtt.bv 2) (BridgeNtt.bv 2) Ptr.null 3#64 1#64,
      HeapSafe.Call.extendPol ⟨1, 0⟩ ⟨1, 0⟩ (BridgeNtt.bv 2) (BridgeNtt.bv 1) (BridgeNtt.bv 2) ⟨3, 0⟩ 0#64 2#64,
      HeapSafe.Call.ntt ⟨1, 0⟩ ⟨2, 0⟩ (BridgeNtt.bv 1) (BridgeNtt.bv 4) Ptr.null 3#64 1#64 false false,
      HeapSafe.Call.intt Ptr.null ⟨1, 0⟩ (BridgeNtt.bv 4) (BridgeNtt.bv 2) ⟨3, 0⟩ 3#64 5#64 false] →
    CallOK ⟨#[#[], Array.replicate 8 0#64, Array.replicate 4 0#64, Array.replicate 8 0#64]⟩
      (Model.Ntt.log2 (4#64 : BitVec 64).toNat) c := by
  intro c hc
  simp only [List.mem_cons, List.not_mem_nil, or_false] at hc
  rcases hc with rfl | rfl | rfl | rfl
  · exact ⟨2, 4, 2, 1, 2, rfl, rfl, rfl, by decide, by constructor <;> decide⟩
  · exact ⟨1, 2, 2, 0, 1, rfl, rfl, rfl, by decide, by constructor <;> decide⟩
  · exact ⟨rfl, 1, 4, 0, rfl, rfl, by decide, by constructor <;> decide⟩
  · exact ⟨rfl, 4, 2, 2, rfl, rfl, by decide, by constructor <;> decide⟩

end generated

end GoldilocksVerif.C18
