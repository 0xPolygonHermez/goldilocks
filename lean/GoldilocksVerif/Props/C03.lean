/-
  C03 — "For every power-of-two size n up to the transform object's maximum domain size, every column count, every phase
  and block setting (out-of-range values are clamped), every thread count, with or without a caller scratch buffer, and
  with the destination equal to, distinct from, or null instead of the source, the forward transform delivers
  out[k][c] = sum_j in[j][c]*w_n^(j*k) for all k and c, where w_n is the library's primitive n-th root of unity. When the
  destination is a different buffer the source is left unchanged, and size 0 or zero columns is a no-op."

  The first part is about the hand model `Model/Ntt.lean` (a function-by-function transcription of ntt_goldilocks.{hpp,cpp},
  tied to the code by the correspondence campaign of `./check C03`); the sections `generated` and `generated_all` carry it over
  to the functions translated from the C++ text.  The field operations inside the model are the GENERATED scalar operations,
  whose correctness is C01.  `den : BitVec 64 → ZMod P` is the field view.
  * all shapes: every d with 2^d ≤ maxDomainSize (the constructor exists iff log2 maxDomainSize ≤ 32), every ncols ≥ 1,
    every nphase, nblock : Nat (clamped by the model as by the code), every destination mode, every input.
  * the hand model is sequential and allocates its scratch buffer `aux` itself: the thread count is covered by the
    correspondence campaign only, a caller scratch buffer by the `…_buffer` theorems on the translated `NTT` (the initial
    content of `aux` is irrelevant, Lemmas/NttIndep.lean).
  * the model does index arithmetic on `Nat`; it mirrors the code's `int` / `u_int64_t` arithmetic for log2 n ≤ 30
    (DESIGN.md §6, D12) — the theorems hold for the model up to 2^32.
-/
import GoldilocksVerif.Lemmas.NttShapes
import GoldilocksVerif.Lemmas.BridgeNttTop
import GoldilocksVerif.Lemmas.BridgeNttCtor
import GoldilocksVerif.Lemmas.BridgeNttBuf
import GoldilocksVerif.Lemmas.BridgeNttBlocks
import GoldilocksVerif.Lemmas.BridgeNttBufEq

namespace GoldilocksVerif.C03
open GoldilocksVerif.Model.Ntt GoldilocksVerif.NttSpec Finset

/-- `w_n` (n = 2^d) is the entry `W[d]` of the library's table, read through `Goldilocks::w(d)` -/
theorem C03_omega_is_library_root (d : Nat) (hd : d ≤ 32) :
    omega d = den (Gen.Scalar.w__rE (BitVec.ofNat 64 d)) := (mkObj_aux_den_w d hd).symm

/-- `w_n` is a primitive n-th root of unity: `w_n^n = 1` and `w_n^m ≠ 1` for `0 < m < n` (n = 2^d, d ≤ 32) -/
theorem C03_omega_primitive (d : Nat) (hd : d ≤ 32) :
    omega d ^ (2 ^ d) = 1 ∧ ∀ m, 0 < m → m < 2 ^ d → omega d ^ m ≠ 1 :=
  ⟨(omega_prim d hd).pow_n, (omega_prim d hd).ne_one⟩

/-- C03 (main statement): the forward transform never aborts, returns the source unchanged when the destination is
    another buffer (and the result in the source when it is the same or null), and delivers the DFT of every column. -/
theorem C03_forward_transform (maxDomainSize extension : Nat) (o : Obj) (hobj : mkObj maxDomainSize extension = some o)
    (hext : extension ≤ 1) (d : Nat) (hn : 2 ^ d ≤ maxDomainSize)
    (ncols nphase nblock : Nat) (hnc : 1 ≤ ncols) (mode : DstMode) (dstB srcB : Buf)
    (hsrc : srcB.size = 2 ^ d * ncols) (hdst : mode = .other → dstB.size = 2 ^ d * ncols) :
    ∃ out, ntt o mode dstB srcB (2 ^ d) ncols nphase nblock false false
        = .ok (out, if mode = .other then srcB else out) ∧
      out.size = 2 ^ d * ncols ∧
      ∀ k c, k < 2 ^ d → c < ncols →
        den (out.getD (k * ncols + c) 0#64)
          = ∑ j ∈ range (2 ^ d), den (srcB.getD (j * ncols + c) 0#64) * omega d ^ (j * k) :=
  ntt_forward_mk maxDomainSize extension o hobj hext d hn ncols nphase nblock hnc mode dstB srcB hsrc hdst

/-- C03: when the destination is a different buffer the source is left unchanged — for ALL arguments (any size, also
    sizes that are not powers of two or exceed the domain: if the call returns at all, the source is unchanged) -/
theorem C03_source_unchanged (o : Obj) (dstB srcB : Buf) (size ncols nphase nblock : Nat) (d s' : Buf)
    (h : ntt o .other dstB srcB size ncols nphase nblock false false = .ok (d, s')) : s' = srcB :=
  ntt_other_src o dstB srcB size ncols nphase nblock false false d s' h

/-- C03: size 0 or zero columns is a no-op (every buffer keeps its content) -/
theorem C03_noop (o : Obj) (mode : DstMode) (dstB srcB : Buf) (size ncols nphase nblock : Nat)
    (h : ncols = 0 ∨ size = 0) :
    ntt o mode dstB srcB size ncols nphase nblock false false = .ok (if mode = .other then dstB else srcB, srcB) :=
  ntt_noop o mode dstB srcB size ncols nphase nblock false false h

/-- non-vacuity: a constructed object exists for every maximum domain size up to 2^32, and the hypotheses of the main
    statement are satisfiable (size 4 inside an object of size 8, 3 columns, in place) -/
example : ∀ m, m ≤ 2 ^ 32 → ∃ o, mkObj m 1 = some o := fun m hm => mkObj_some_le m 1 hm
example : ∃ o out, mkObj 8 1 = some o ∧
    ntt o .same #[] (Array.replicate (2 ^ 2 * 3) 1#64) (2 ^ 2) 3 3 2 false false = .ok (out, out) := by
  obtain ⟨o, ho⟩ := mkObj_some 8 1 (by decide)
  obtain ⟨out, e, _⟩ := C03_forward_transform 8 1 o ho (by omega) 2 (by omega) 3 3 2 (by omega) .same #[]
    (Array.replicate (2 ^ 2 * 3) 1#64) (by simp) (by simp)
  exact ⟨o, out, ho, e⟩

/-! ### the model GENERATED from ntt_goldilocks.cpp / .hpp (Gen/NttGen.lean, heap mode of the translator; DESIGN.NTTGEN.md)
  The statements above are about the hand model.  The functions below are translated from the C++ text on every run,
  executed against the compiled code by the campaign of this check (`nttseqg`), and PROVED equal to the hand model
  piece by piece (Lemmas/BridgeNtt*.lean): a change of the source that the test generators do not reach breaks these proofs.
  `hp` is the heap (list of memory blocks), `self` the generated object state, `ObjRep hp self o` says that they represent
  the hand model's object `o`; `bv n = BitVec.ofNat 64 n`. -/
section generated
open GoldilocksVerif.BridgeNtt Gen.NttGen

/-- generated `NTT_Goldilocks::log2` = `Nat.log2` for every non-zero 64-bit size and every fuel ≥ 64; `log2(0)` is the
    failed assert -/
theorem C03_generated_log2 (fuel : Nat) (hf : 64 ≤ fuel) (size : BitVec 64) :
    NTT_log2 fuel size = if size = 0#64 then none else some (BitVec.ofNat 32 (log2 size.toNat)) := by
  by_cases h : size = 0#64
  · subst h; rw [if_pos rfl]; exact log2_gen_zero fuel
  · rw [if_neg h]; exact log2_gen_eq fuel hf size h

/-- generated `intt_idx` (on `int`) = the model's `inttIdx` -/
theorem C03_generated_intt_idx (i N : Nat) (h : i ≤ N) : NTT_intt_idx (i : Int) (N : Int) = ((inttIdx i N : Nat) : Int) :=
  intt_idx_gen i N h

/-- generated `BR` = the model's `br`, hence the bit reversal of the low `d` bits -/
theorem C03_generated_BR (d i : Nat) (hd : d ≤ 32) (hi : i < 2 ^ d) :
    (BR (BitVec.ofNat 64 i) (BitVec.ofNat 64 d)).toNat = bitrev d i := by
  have h64 : (2 : Nat) ^ d < 2 ^ 64 := Nat.pow_lt_pow_right (by omega) (by omega)
  have e1 : (BitVec.ofNat 64 i).toNat = i := by rw [BitVec.toNat_ofNat]; exact Nat.mod_eq_of_lt (by omega)
  have e2 : (BitVec.ofNat 64 d).toNat = d := by rw [BitVec.toNat_ofNat]; exact Nat.mod_eq_of_lt (by omega)
  rw [BR_gen _ _ (by rw [e2]; exact hd), e1, e2, br_eq_bitrev d i hd hi]

/-- generated `root` reads the model's twiddle table -/
theorem C03_generated_root (hp : Heap) (self : NTT_Goldilocks) (o : Obj) (h : ObjRep hp self o) (dp : BitVec 32)
    (idx : BitVec 64) (hdp : dp.toNat ≤ o.s) (hidx : idx.toNat * 2 ^ (o.s - dp.toNat) < 2 ^ 64) :
    NTT_root hp self dp idx = root o dp.toNat idx.toNat :=
  root_gen hp self o dp idx h.roots h.roots_off h.hs hdp hidx

/-- generated `reversePermutation` (all four branches) changes the destination block exactly as the model changes its
    buffer; the failed assert is the model's error -/
theorem C03_generated_reversePermutation (fuel : Nat) (hf : 64 ≤ fuel) (hp : Heap) (self : NTT_Goldilocks) (o : Obj)
    (d s : Nat) (size oc nc nca : BitVec 64) (k : Nat) (hk : k ≤ 32) (hsize : size.toNat = 2 ^ k) (hd : d < hp.size)
    (hext : self.extension = (o.extension : Int)) (hext31 : o.extension < 2 ^ 31)
    (hb1 : size.toNat * nca.toNat + oc.toNat < 2 ^ 64) (hb2 : size.toNat * nc.toNat < 2 ^ 64) (hb3 : nc.toNat * 8 < 2 ^ 64) :
    NTT_reversePermutation fuel hp self ⟨d, 0⟩ ⟨s, 0⟩ size oc nc nca =
      match reversePermutation o (hp.block d) (hp.block s) (decide (d = s)) size.toNat oc.toNat nc.toNat nca.toNat with
      | .ok D => some (hp.setBlock d D)
      | .error _ => none :=
  reversePermutation_gen fuel hf hp self o d s size oc nc nca k hk hsize hd hext hext31 hb1 hb2 hb3

/-- generated `NTT_iters` (2 ≤ size = 2^K ≤ 2^30: schedule, butterflies, twiddle index, transposing / reflecting copies,
    pointer ping-pong, never-needed copy) returns iff the model's `nttIters` does, with the model's result in the
    destination block -/
theorem C03_generated_NTT_iters (fuel : Nat) (hf : 64 ≤ fuel) (hp : Heap) (self : NTT_Goldilocks) (o : Obj)
    (hrep : ObjRep hp self o) (D Sx Ax : Nat) (hD : D < hp.size) (hAx : Ax < hp.size) (hDA : D ≠ Ax) (hSA : Sx ≠ Ax)
    (hfrD : ObjFrame self D) (hfrA : ObjFrame self Ax)
    (dst : Ptr) (hdst : (if (dst != Ptr.null) = true then dst else (⟨Sx, 0⟩ : Ptr)) = ⟨D, 0⟩)
    (K N oc NC NCA : Nat) (nphase : BitVec 64) (inverse extend : Bool)
    (hK1 : 1 ≤ K) (hK : K ≤ 30) (hN : N = 2 ^ K) (hKs : K ≤ o.s) (hos : o.s ≤ 32)
    (hb1 : N * NCA + oc < 2 ^ 64) (hNNC : N * NC < 2 ^ 64) (hNC8 : NC * 8 < 2 ^ 64) (hext31 : o.extension < 2 ^ 31)
    (hcache : extend = true → o.rcache ≠ none) :
    match nttIters o (hp.block D) (hp.block Sx) (hp.block Ax) (decide (D = Sx)) N oc NC NCA nphase.toNat inverse extend with
    | .ok (d, _) => ∃ X', NTT_NTT_iters fuel hp self dst ⟨Sx, 0⟩ (bv N) (bv oc) (bv NC) (bv NCA) nphase ⟨Ax, 0⟩ inverse extend =
        some ((hp.setBlock D d).setBlock Ax X') ∧ X'.size = (hp.block Ax).size
    | .error _ => NTT_NTT_iters fuel hp self dst ⟨Sx, 0⟩ (bv N) (bv oc) (bv NC) (bv NCA) nphase ⟨Ax, 0⟩ inverse extend = none :=
  nttIters_gen fuel hf hp self o hrep D Sx Ax hD hAx hDA hSA hfrD hfrA dst hdst K N oc NC NCA nphase inverse extend hK1 hK hN
    hKs hos hb1 hNNC hNC8 hext31 hcache

/-- generated `NTT` = the model's `ntt` (default call shape: no caller scratch buffer, one column block) -/
theorem C03_generated_NTT_eq_model (fuel : Nat) (hf : 64 ≤ fuel) (hp : Heap) (self : NTT_Goldilocks) (o : Obj)
    (hrep : ObjRep hp self o) (hin : ObjIn hp self) (D Sx : Nat) (hD : D < hp.size) (hSx : Sx < hp.size) (hD0 : D ≠ 0)
    (hfrD : ObjFrame self D) (mode : DstMode) (hmode : mode = .other ↔ D ≠ Sx)
    (dst : Ptr) (hdst : (if (dst == Ptr.null) = true then (⟨Sx, 0⟩ : Ptr) else dst) = ⟨D, 0⟩)
    (K N NC : Nat) (nphase nblock : BitVec 64) (inverse extend : Bool)
    (hK1 : 1 ≤ K) (hK : K ≤ 30) (hN : N = 2 ^ K) (hKs : K ≤ o.s) (hos : o.s ≤ 32) (hNC1 : 1 ≤ NC)
    (hNNC8 : N * NC * 8 < 2 ^ 64) (hext31 : o.extension < 2 ^ 31) (hcache : extend = true → o.rcache ≠ none)
    (hnb : clampBlock nblock.toNat NC = 1) :
    match ntt o mode (hp.block D) (hp.block Sx) N NC nphase.toNat nblock.toNat inverse extend with
    | .ok (d, _) => NTT_NTT fuel hp self dst ⟨Sx, 0⟩ (bv N) (bv NC) Ptr.null nphase nblock inverse extend =
        some (hp.setBlock D d)
    | .error _ => NTT_NTT fuel hp self dst ⟨Sx, 0⟩ (bv N) (bv NC) Ptr.null nphase nblock inverse extend = none :=
  NTT_gen_all fuel hp self o hrep hin D Sx hD hSx hD0 hfrD mode hmode dst hdst K N NC nphase nblock inverse extend hK hN hKs hos
    hNC1 hNNC8 hext31 hcache (itersFuel_le self K NC fuel hf (by omega))

/-- generated constructor `NTT_Goldilocks(maxDomainSize ≠ 0, nThreads, extension)` (GMP calls by their results): it throws
    iff the model's `mkObj` returns `none`; otherwise it appends the model's `roots` and `powTwoInv` tables as two new
    blocks, the assert `roots[nRoots-1]·roots[1] == 1` passes, and the new object state represents the model's object -/
theorem C03_generated_constructor (fuel : Nat) (hf : 64 ≤ fuel) (hp : Heap) (hpos : 0 < hp.size) (self0 : NTT_Goldilocks)
    (m : BitVec 64) (thr : BitVec 32) (e : Nat) (hm0 : m ≠ 0#64) :
    match mkObj m.toNat e with
    | none => NTT_ctor fuel hp self0 m thr (e : Int) = none
    | some o => ∃ self', NTT_ctor fuel hp self0 m thr (e : Int) = some ((hp.push o.roots).push o.powTwoInv, self') ∧
        ObjRep ((hp.push o.roots).push o.powTwoInv) self' o ∧ ObjIn ((hp.push o.roots).push o.powTwoInv) self' := by
  cases hobj : mkObj m.toNat e with
  | none =>
    have h := ctor_gen fuel hf hp self0 m thr e hm0
    rw [hobj] at h
    exact h
  | some o =>
    obtain ⟨self', h1, h2, h3, _⟩ := ctor_rep fuel hf hp self0 m thr e hm0 o hobj
    exact ⟨self', h1, h2, h3⟩

/-- the translated constructor for `maxDomainSize ≤ 2^32` on any heap returns; the new object state represents the model's
    object, owns only the two new blocks (none of the caller's blocks `D ≠ 0`), and every old block keeps its content -/
theorem ctor_state (fuel : Nat) (hf : 64 ≤ fuel) (hp : Heap) (self0 : NTT_Goldilocks)
    (m : BitVec 64) (thr : BitVec 32) (e : Nat) (hm0 : m.toNat ≠ 0) (hm32 : m.toNat ≤ 2 ^ 32) :
    ∃ o hp1 self, mkObj m.toNat e = some o ∧ NTT_ctor fuel hp self0 m thr (e : Int) = some (hp1, self) ∧
      ObjRep hp1 self o ∧ ObjIn hp1 self ∧ hp.size ≤ hp1.size ∧
      (∀ D, D < hp.size → D ≠ 0 → ObjFrame self D) ∧ (∀ c, c < hp.size → hp1.block c = hp.block c) := by
  obtain ⟨o, hobj⟩ := mkObj_some_le m.toNat e hm32
  have hm0' : m ≠ 0#64 := by intro h; rw [h] at hm0; exact hm0 rfl
  obtain ⟨self, hc, hrep, hin, h3, h4, h5, h6⟩ := ctor_rep fuel hf hp self0 m thr e hm0' o hobj
  refine ⟨o, _, self, hobj, hc, hrep, hin, by simp; omega, ?_, ?_⟩
  · intro D hD hD0
    refine ⟨?_, ?_, ?_, ?_⟩
    · rw [h3]; show D ≠ hp.size; omega
    · rw [h4]; show D ≠ hp.size + 1; omega
    · rw [h5]; exact hD0
    · rw [h6]; exact hD0
  · intro c hc'
    rw [Heap.block_push_lt _ _ _ (by simp; omega), Heap.block_push_lt _ _ _ hc']

/-- **the property on the generated function, caller scratch buffer**: `NTT(dst, src, size, ncols, buffer, …)` with a buffer
    block of at least size·ncols words and ANY content: the TRANSLATED function returns, changes only the destination and the
    buffer block, and the destination block holds the DFT of every column.  (Route: generated `NTT_iters` = the model's
    `nttIters` run with that buffer as `aux`; the model's field-level specification holds for every `aux`.) -/
theorem C03_generated_forward_transform_buffer (maxDomainSize extension : Nat) (o : Obj)
    (hobj : mkObj maxDomainSize extension = some o) (hext : extension ≤ 1) (d : Nat) (hd1 : 1 ≤ d) (hd30 : d ≤ 30)
    (hn : 2 ^ d ≤ maxDomainSize)
    (fuel : Nat) (hf : 64 ≤ fuel) (hp : Heap) (self : NTT_Goldilocks) (hrep : ObjRep hp self o)
    (D Sx B : Nat) (hD : D < hp.size) (hB : B < hp.size) (hD0 : D ≠ 0) (hB0 : B ≠ 0) (hDB : D ≠ B) (hSB : Sx ≠ B)
    (hfrD : ObjFrame self D) (hfrB : ObjFrame self B)
    (dst : Ptr) (hdst : (if (dst == Ptr.null) = true then (⟨Sx, 0⟩ : Ptr) else dst) = ⟨D, 0⟩)
    (ncols : Nat) (nphase nblock : BitVec 64) (hnc : 1 ≤ ncols) (hbound : 2 ^ d * ncols * 8 < 2 ^ 64)
    (hnb : clampBlock nblock.toNat ncols = 1)
    (hsrc : (hp.block Sx).size = 2 ^ d * ncols) (hdsts : (hp.block D).size = 2 ^ d * ncols)
    (hbuf : 2 ^ d * ncols ≤ (hp.block B).size) :
    ∃ out X', NTT_NTT fuel hp self dst ⟨Sx, 0⟩ (bv (2 ^ d)) (bv ncols) ⟨B, 0⟩ nphase nblock false false =
        some ((hp.setBlock D out).setBlock B X') ∧
      out.size = 2 ^ d * ncols ∧
      ∀ k c, k < 2 ^ d → c < ncols →
        den (out.getD (k * ncols + c) 0#64)
          = ∑ j ∈ range (2 ^ d), den ((hp.block Sx).getD (j * ncols + c) 0#64) * omega d ^ (j * k) := by
  obtain ⟨hds, hs32, hext31⟩ := mkObj_bounds maxDomainSize extension o hobj hext d hn
  obtain ⟨out, e, hsz, hdft⟩ := nttIters_forward o _ (mkObj_ok_le maxDomainSize extension o hobj hext d hn) (hp.block D)
    (hp.block Sx) (hp.block B) (decide (D = Sx)) d ncols nphase.toNat (Nat.le_refl _) (by by_cases h : D = Sx <;> simp [h, hsrc, hdsts]) hbuf
  have hg := NTT_gen_buf fuel hf hp self o hrep D Sx B hD hB hD0 hB0 hDB hSB hfrD hfrB dst hdst d (2 ^ d) ncols nphase nblock
    false false hd1 hd30 rfl hds hs32 hnc hbound hext31 (by intro h; cases h) hnb
  rw [e] at hg
  obtain ⟨X', hX, _⟩ := hg
  refine ⟨out, X', hX, ?_, hdft⟩
  rw [hsz]; by_cases h : D = Sx <;> simp [h, hsrc, hdsts]

end generated

/-! ### the generated model, EVERY `nblock` and size 1 (Lemmas/NttIndep.lean, BridgeParcpy.lean, BridgeNttSize1.lean, BridgeNttBlocks.lean)
  The theorems above cover the call shape "`nblock` clamps to 1, size ≥ 2".  Below: every `nblock : u_int64_t` (clamped by the
  translated code to `1 … ncols`; for more than one block the translated code allocates the temporary destination `dst_`, runs
  `NTT_iters` per column block into it — reusing the scratch block and `dst_` the previous block dirtied —, scatters the block
  into the destination, frees both), and every size `1 ≤ 2^d ≤ 2^30` (size 1 goes through the translated `Goldilocks::parcpy`).
  FUEL: `itersFuel self d ncols` = 64 for d ≥ 1; for d = 0 it is `max 64 (min(ncols, max(1, (int) nThreads)) + 1)` because the
  chunk loop of `parcpy` is a `while` loop of the generated model (`C03_generated_fuel`). -/
section generated_all
open GoldilocksVerif.BridgeNtt Gen.NttGen

/-- the fuel bound of the theorems below is met by every `fuel ≥ 64` that, for size 1 only, also exceeds the column count or
    the thread count of the object -/
theorem C03_generated_fuel (self : NTT_Goldilocks) (d ncols fuel : Nat) (h64 : 64 ≤ fuel)
    (h1 : d = 0 → ncols < fuel ∨ self.nThreads.toNat < fuel) : itersFuel self d ncols ≤ fuel := by
  unfold itersFuel
  by_cases hd : d = 0
  · rw [if_pos hd]
    unfold parFuel ParCopy.threads I32.ofU32
    have ht : (if self.nThreads.toInt < 1 then 1 else self.nThreads.toInt.toNat) ≤ max 1 self.nThreads.toNat := by
      rw [BitVec.toInt_eq_toNat_cond]
      split <;> split <;> omega
    rcases h1 hd with h | h <;> omega
  · rw [if_neg hd]; exact h64

/-- generated `NTT` = the model's `ntt`, every `nblock`, every size 1 ≤ 2^K ≤ 2^30, bit for bit: the heap ends with the
    destination block holding the model's result and nothing else changed -/
theorem C03_generated_NTT_eq_model_all (fuel : Nat) (hp : Heap) (self : NTT_Goldilocks) (o : Obj)
    (hrep : ObjRep hp self o) (hin : ObjIn hp self) (D Sx : Nat) (hD : D < hp.size) (hSx : Sx < hp.size) (hD0 : D ≠ 0)
    (hfrD : ObjFrame self D) (mode : DstMode) (hmode : mode = .other ↔ D ≠ Sx)
    (dst : Ptr) (hdst : (if (dst == Ptr.null) = true then (⟨Sx, 0⟩ : Ptr) else dst) = ⟨D, 0⟩)
    (K N NC : Nat) (nphase nblock : BitVec 64) (inverse extend : Bool)
    (hK : K ≤ 30) (hN : N = 2 ^ K) (hKs : K ≤ o.s) (hos : o.s ≤ 32) (hNC1 : 1 ≤ NC)
    (hNNC8 : N * NC * 8 < 2 ^ 64) (hext31 : o.extension < 2 ^ 31) (hcache : extend = true → o.rcache ≠ none)
    (hf : itersFuel self K NC ≤ fuel) :
    match ntt o mode (hp.block D) (hp.block Sx) N NC nphase.toNat nblock.toNat inverse extend with
    | .ok (d, _) => NTT_NTT fuel hp self dst ⟨Sx, 0⟩ (bv N) (bv NC) Ptr.null nphase nblock inverse extend =
        some (hp.setBlock D d)
    | .error _ => NTT_NTT fuel hp self dst ⟨Sx, 0⟩ (bv N) (bv NC) Ptr.null nphase nblock inverse extend = none :=
  NTT_gen_all fuel hp self o hrep hin D Sx hD hSx hD0 hfrD mode hmode dst hdst K N NC nphase nblock inverse extend hK hN hKs hos
    hNC1 hNNC8 hext31 hcache hf

/-- the bit-level fact behind it (hand model only): `nttIters` does not depend on the initial content of the scratch buffer nor,
    on the first size·ncols words, on the initial content of a destination buffer distinct from the source -/
theorem C03_nttIters_ignores_scratch (o : Obj) (dstB dstB' srcB auxB auxB' : Buf) (d oc nc nca nphase : Nat)
    (inverse extend : Bool) (hd : 2 ^ d * nc ≤ dstB.size) (hd' : 2 ^ d * nc ≤ dstB'.size)
    (haux : 2 ^ d * nc ≤ auxB.size) (haux' : 2 ^ d * nc ≤ auxB'.size) :
    (∃ r r', nttIters o dstB srcB auxB false (2 ^ d) oc nc nca nphase inverse extend = .ok (r, srcB) ∧
        nttIters o dstB' srcB auxB' false (2 ^ d) oc nc nca nphase inverse extend = .ok (r', srcB) ∧
        ∀ i, i < 2 ^ d * nc → r.getD i 0#64 = r'.getD i 0#64) ∨
    (∃ e, nttIters o dstB srcB auxB false (2 ^ d) oc nc nca nphase inverse extend = .error e ∧
        nttIters o dstB' srcB auxB' false (2 ^ d) oc nc nca nphase inverse extend = .error e) := by
  rcases nttIters_indep o dstB dstB' srcB auxB auxB' false d oc nc nca nphase inverse extend (fun _ => False)
    ⟨hd, hd', fun i hi => absurd hi id⟩ haux haux' with ⟨r, r', e, e', hag⟩ | ⟨er, e, e'⟩
  · exact Or.inl ⟨r, r', e, e', fun i hi => hag.eq i (Or.inr hi)⟩
  · exact Or.inr ⟨er, e, e'⟩

/-- **the property on the generated function, every `nblock`, every size 1 ≤ 2^d ≤ min(maxDomainSize, 2^30)**: for an object
    state representing a constructed object, every nphase, every nblock, no caller buffer, every destination mode: the TRANSLATED
    `NTT` returns, changes only the destination block, and that block holds the DFT of every column -/
theorem C03_generated_forward_transform_all (maxDomainSize extension : Nat) (o : Obj)
    (hobj : mkObj maxDomainSize extension = some o) (hext : extension ≤ 1) (d : Nat) (hd30 : d ≤ 30) (hn : 2 ^ d ≤ maxDomainSize)
    (fuel : Nat) (hp : Heap) (self : NTT_Goldilocks) (hrep : ObjRep hp self o) (hin : ObjIn hp self)
    (D Sx : Nat) (hD : D < hp.size) (hSx : Sx < hp.size) (hD0 : D ≠ 0) (hfrD : ObjFrame self D)
    (mode : DstMode) (hmode : mode = .other ↔ D ≠ Sx)
    (dst : Ptr) (hdst : (if (dst == Ptr.null) = true then (⟨Sx, 0⟩ : Ptr) else dst) = ⟨D, 0⟩)
    (ncols : Nat) (nphase nblock : BitVec 64) (hnc : 1 ≤ ncols) (hbound : 2 ^ d * ncols * 8 < 2 ^ 64)
    (hsrc : (hp.block Sx).size = 2 ^ d * ncols) (hdsts : mode = .other → (hp.block D).size = 2 ^ d * ncols)
    (hf : itersFuel self d ncols ≤ fuel) :
    ∃ out, NTT_NTT fuel hp self dst ⟨Sx, 0⟩ (bv (2 ^ d)) (bv ncols) Ptr.null nphase nblock false false = some (hp.setBlock D out) ∧
      out.size = 2 ^ d * ncols ∧
      ∀ k c, k < 2 ^ d → c < ncols →
        den (out.getD (k * ncols + c) 0#64)
          = ∑ j ∈ range (2 ^ d), den ((hp.block Sx).getD (j * ncols + c) 0#64) * omega d ^ (j * k) := by
  obtain ⟨hds, hs32, hext31⟩ := mkObj_bounds maxDomainSize extension o hobj hext d hn
  obtain ⟨out, e, hsz, hdft⟩ := C03_forward_transform maxDomainSize extension o hobj hext d hn ncols nphase.toNat nblock.toNat
    hnc mode (hp.block D) (hp.block Sx) hsrc hdsts
  have hg := NTT_gen_all fuel hp self o hrep hin D Sx hD hSx hD0 hfrD mode hmode dst hdst d (2 ^ d) ncols nphase nblock false false
    hd30 rfl hds hs32 hnc hbound hext31 (by intro h; cases h) hf
  rw [e] at hg
  exact ⟨out, hg, hsz, hdft⟩

/-- **end to end, every `nblock`, every size 1 ≤ 2^d**: translated constructor, then translated `NTT`, on any heap.  Fuel: 64, and
    for size 1 more than the column count -/
theorem C03_generated_construct_and_transform_all (fuel : Nat) (hf : 64 ≤ fuel) (hp : Heap) (self0 : NTT_Goldilocks)
    (m : BitVec 64) (thr : BitVec 32) (e : Nat) (he : e ≤ 1) (hm32 : m.toNat ≤ 2 ^ 32)
    (d : Nat) (hd30 : d ≤ 30) (hn : 2 ^ d ≤ m.toNat)
    (D Sx : Nat) (hD : D < hp.size) (hSx : Sx < hp.size) (hD0 : D ≠ 0)
    (mode : DstMode) (hmode : mode = .other ↔ D ≠ Sx)
    (dst : Ptr) (hdst : (if (dst == Ptr.null) = true then (⟨Sx, 0⟩ : Ptr) else dst) = ⟨D, 0⟩)
    (ncols : Nat) (nphase nblock : BitVec 64) (hnc : 1 ≤ ncols) (hbound : 2 ^ d * ncols * 8 < 2 ^ 64)
    (hf1 : d = 0 → ncols < fuel)
    (hsrc : (hp.block Sx).size = 2 ^ d * ncols) (hdsts : mode = .other → (hp.block D).size = 2 ^ d * ncols) :
    ∃ hp1 self out, NTT_ctor fuel hp self0 m thr (e : Int) = some (hp1, self) ∧
      NTT_NTT fuel hp1 self dst ⟨Sx, 0⟩ (bv (2 ^ d)) (bv ncols) Ptr.null nphase nblock false false = some (hp1.setBlock D out) ∧
      out.size = 2 ^ d * ncols ∧
      ∀ k c, k < 2 ^ d → c < ncols →
        den (out.getD (k * ncols + c) 0#64)
          = ∑ j ∈ range (2 ^ d), den ((hp.block Sx).getD (j * ncols + c) 0#64) * omega d ^ (j * k) := by
  have hmn : m.toNat ≠ 0 := by have := Nat.two_pow_pos d; omega
  obtain ⟨o, hp1, self, hobj, hc, hrep, hin, hsz1, hfr, hb1⟩ := ctor_state fuel hf hp self0 m thr e hmn hm32
  obtain ⟨out, hntt, hsz, hdft⟩ := C03_generated_forward_transform_all m.toNat e o hobj he d hd30 hn fuel
    hp1 self hrep hin D Sx (by omega) (by omega) hD0 (hfr D hD hD0) mode hmode dst hdst ncols
    nphase nblock hnc hbound (by rw [hb1 _ hSx]; exact hsrc) (by intro h; rw [hb1 _ hD]; exact hdsts h)
    (C03_generated_fuel self d ncols fuel hf (fun h => Or.inl (hf1 h)))
  refine ⟨_, self, out, hc, hntt, hsz, ?_⟩
  intro k c hk hc'
  rw [hdft k c hk hc', hb1 _ hSx]

/-- **the property on the generated function**: for an object state representing a constructed object, sizes
    2 ≤ 2^d ≤ min(maxDomainSize, 2^30), every nphase, nblock clamping to one block, no caller buffer, every destination
    mode: the TRANSLATED `NTT` returns, changes only the destination block, and that block holds the DFT of every column -/
theorem C03_generated_forward_transform (maxDomainSize extension : Nat) (o : Obj) (hobj : mkObj maxDomainSize extension = some o)
    (hext : extension ≤ 1) (d : Nat) (hd1 : 1 ≤ d) (hd30 : d ≤ 30) (hn : 2 ^ d ≤ maxDomainSize)
    (fuel : Nat) (hf : 64 ≤ fuel) (hp : Heap) (self : NTT_Goldilocks) (hrep : ObjRep hp self o) (hin : ObjIn hp self)
    (D Sx : Nat) (hD : D < hp.size) (hSx : Sx < hp.size) (hD0 : D ≠ 0) (hfrD : ObjFrame self D)
    (mode : DstMode) (hmode : mode = .other ↔ D ≠ Sx)
    (dst : Ptr) (hdst : (if (dst == Ptr.null) = true then (⟨Sx, 0⟩ : Ptr) else dst) = ⟨D, 0⟩)
    (ncols : Nat) (nphase nblock : BitVec 64) (hnc : 1 ≤ ncols) (hbound : 2 ^ d * ncols * 8 < 2 ^ 64)
    (hnb : clampBlock nblock.toNat ncols = 1)
    (hsrc : (hp.block Sx).size = 2 ^ d * ncols) (hdsts : mode = .other → (hp.block D).size = 2 ^ d * ncols) :
    ∃ out, NTT_NTT fuel hp self dst ⟨Sx, 0⟩ (bv (2 ^ d)) (bv ncols) Ptr.null nphase nblock false false = some (hp.setBlock D out) ∧
      out.size = 2 ^ d * ncols ∧
      ∀ k c, k < 2 ^ d → c < ncols →
        den (out.getD (k * ncols + c) 0#64)
          = ∑ j ∈ range (2 ^ d), den ((hp.block Sx).getD (j * ncols + c) 0#64) * omega d ^ (j * k) := 
  C03_generated_forward_transform_all maxDomainSize extension o hobj hext d hd30 hn fuel hp self hrep hin D Sx hD hSx hD0 hfrD
    mode hmode dst hdst ncols nphase nblock hnc hbound hsrc hdsts (itersFuel_le self d ncols fuel hf (by omega))

/-- **end to end on the generated functions, no hypothesis about the object**: on any heap, the TRANSLATED constructor for
    `maxDomainSize ≤ 2^32` followed by the TRANSLATED `NTT` of a size 2 ≤ 2^d ≤ min(maxDomainSize, 2^30) returns, and the
    destination block holds the DFT of every column of the source block (this is what the request `nttseqg` of the
    correspondence campaign executes) -/
theorem C03_generated_construct_and_transform (fuel : Nat) (hf : 64 ≤ fuel) (hp : Heap) (self0 : NTT_Goldilocks)
    (m : BitVec 64) (thr : BitVec 32) (e : Nat) (he : e ≤ 1) (hm32 : m.toNat ≤ 2 ^ 32)
    (d : Nat) (hd1 : 1 ≤ d) (hd30 : d ≤ 30) (hn : 2 ^ d ≤ m.toNat)
    (D Sx : Nat) (hD : D < hp.size) (hSx : Sx < hp.size) (hD0 : D ≠ 0)
    (mode : DstMode) (hmode : mode = .other ↔ D ≠ Sx)
    (dst : Ptr) (hdst : (if (dst == Ptr.null) = true then (⟨Sx, 0⟩ : Ptr) else dst) = ⟨D, 0⟩)
    (ncols : Nat) (nphase nblock : BitVec 64) (hnc : 1 ≤ ncols) (hbound : 2 ^ d * ncols * 8 < 2 ^ 64)
    (hnb : clampBlock nblock.toNat ncols = 1)
    (hsrc : (hp.block Sx).size = 2 ^ d * ncols) (hdsts : mode = .other → (hp.block D).size = 2 ^ d * ncols) :
    ∃ hp1 self out, NTT_ctor fuel hp self0 m thr (e : Int) = some (hp1, self) ∧
      NTT_NTT fuel hp1 self dst ⟨Sx, 0⟩ (bv (2 ^ d)) (bv ncols) Ptr.null nphase nblock false false = some (hp1.setBlock D out) ∧
      out.size = 2 ^ d * ncols ∧
      ∀ k c, k < 2 ^ d → c < ncols →
        den (out.getD (k * ncols + c) 0#64)
          = ∑ j ∈ range (2 ^ d), den ((hp.block Sx).getD (j * ncols + c) 0#64) * omega d ^ (j * k) := 
  C03_generated_construct_and_transform_all fuel hf hp self0 m thr e he hm32 d hd30 hn D Sx hD hSx hD0 mode hmode dst hdst ncols
    nphase nblock hnc hbound (fun h => by omega) hsrc hdsts

/-- generated `NTT` WITH a caller scratch buffer (block `B`, ANY content, at least size·ncols words) = the model's `ntt` (which
    takes a zero-filled scratch buffer of its own), bit for bit, every `nblock`, every size 1 ≤ 2^K ≤ 2^30: the destination block
    holds the model's result, the buffer block keeps its size, nothing else changes -/
theorem C03_generated_NTT_buffer_eq_model (fuel : Nat) (hp : Heap) (self : NTT_Goldilocks) (o : Obj)
    (hrep : ObjRep hp self o) (hin : ObjIn hp self) (D Sx B : Nat) (hD : D < hp.size) (hSx : Sx < hp.size) (hB : B < hp.size)
    (hD0 : D ≠ 0) (hB0 : B ≠ 0) (hDB : D ≠ B) (hSB : Sx ≠ B) (hfrD : ObjFrame self D) (hfrB : ObjFrame self B)
    (mode : DstMode) (hmode : mode = .other ↔ D ≠ Sx)
    (dst : Ptr) (hdst : (if (dst == Ptr.null) = true then (⟨Sx, 0⟩ : Ptr) else dst) = ⟨D, 0⟩)
    (K N NC : Nat) (nphase nblock : BitVec 64) (inverse extend : Bool)
    (hK : K ≤ 30) (hN : N = 2 ^ K) (hKs : K ≤ o.s) (hos : o.s ≤ 32) (hNC1 : 1 ≤ NC)
    (hNNC8 : N * NC * 8 < 2 ^ 64) (hext31 : o.extension < 2 ^ 31) (hcache : extend = true → o.rcache ≠ none)
    (hf : itersFuel self K NC ≤ fuel) (hdsz : N * NC ≤ (hp.block D).size) (hbuf : N * NC ≤ (hp.block B).size) :
    match ntt o mode (hp.block D) (hp.block Sx) N NC nphase.toNat nblock.toNat inverse extend with
    | .ok (d, _) => ∃ X', NTT_NTT fuel hp self dst ⟨Sx, 0⟩ (bv N) (bv NC) ⟨B, 0⟩ nphase nblock inverse extend =
        some ((hp.setBlock D d).setBlock B X') ∧ X'.size = (hp.block B).size
    | .error _ => NTT_NTT fuel hp self dst ⟨Sx, 0⟩ (bv N) (bv NC) ⟨B, 0⟩ nphase nblock inverse extend = none :=
  NTT_gen_buf_all fuel hp self o hrep hin D Sx B hD hSx hB hD0 hB0 hDB hSB hfrD hfrB mode hmode dst hdst K N NC nphase nblock
    inverse extend hK hN hKs hos hNC1 hNNC8 hext31 hcache hf hdsz hbuf

/-- **the property on the generated function, caller scratch buffer, every `nblock`, every size 1 ≤ 2^d** -/
theorem C03_generated_forward_transform_buffer_all (maxDomainSize extension : Nat) (o : Obj)
    (hobj : mkObj maxDomainSize extension = some o) (hext : extension ≤ 1) (d : Nat) (hd30 : d ≤ 30)
    (hn : 2 ^ d ≤ maxDomainSize)
    (fuel : Nat) (hp : Heap) (self : NTT_Goldilocks) (hrep : ObjRep hp self o) (hin : ObjIn hp self)
    (D Sx B : Nat) (hD : D < hp.size) (hSx : Sx < hp.size) (hB : B < hp.size) (hD0 : D ≠ 0) (hB0 : B ≠ 0) (hDB : D ≠ B)
    (hSB : Sx ≠ B) (hfrD : ObjFrame self D) (hfrB : ObjFrame self B)
    (mode : DstMode) (hmode : mode = .other ↔ D ≠ Sx)
    (dst : Ptr) (hdst : (if (dst == Ptr.null) = true then (⟨Sx, 0⟩ : Ptr) else dst) = ⟨D, 0⟩)
    (ncols : Nat) (nphase nblock : BitVec 64) (hnc : 1 ≤ ncols) (hbound : 2 ^ d * ncols * 8 < 2 ^ 64)
    (hsrc : (hp.block Sx).size = 2 ^ d * ncols) (hdsts : (hp.block D).size = 2 ^ d * ncols)
    (hbuf : 2 ^ d * ncols ≤ (hp.block B).size) (hf : itersFuel self d ncols ≤ fuel) :
    ∃ out X', NTT_NTT fuel hp self dst ⟨Sx, 0⟩ (bv (2 ^ d)) (bv ncols) ⟨B, 0⟩ nphase nblock false false =
        some ((hp.setBlock D out).setBlock B X') ∧
      out.size = 2 ^ d * ncols ∧ X'.size = (hp.block B).size ∧
      ∀ k c, k < 2 ^ d → c < ncols →
        den (out.getD (k * ncols + c) 0#64)
          = ∑ j ∈ range (2 ^ d), den ((hp.block Sx).getD (j * ncols + c) 0#64) * omega d ^ (j * k) := by
  obtain ⟨hds, hs32, hext31⟩ := mkObj_bounds maxDomainSize extension o hobj hext d hn
  obtain ⟨out, e, hsz, hdft⟩ := C03_forward_transform maxDomainSize extension o hobj hext d hn ncols nphase.toNat nblock.toNat
    hnc mode (hp.block D) (hp.block Sx) hsrc (fun _ => hdsts)
  have hg := NTT_gen_buf_all fuel hp self o hrep hin D Sx B hD hSx hB hD0 hB0 hDB hSB hfrD hfrB mode hmode dst hdst d (2 ^ d) ncols
    nphase nblock false false hd30 rfl hds hs32 hnc hbound hext31 (by intro h; cases h) hf (by omega) hbuf
  rw [e] at hg
  obtain ⟨X', hX, hXs⟩ := hg
  exact ⟨out, X', hX, hsz, hXs, hdft⟩

end generated_all

end GoldilocksVerif.C03
