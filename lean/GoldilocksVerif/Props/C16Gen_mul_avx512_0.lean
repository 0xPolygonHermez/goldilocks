-- GENERATED by tools/extspec.py from the C++ SIGNATURES (routine name, parameter types and names) of the current source.
-- Do not edit.  One theorem per batched / AVX2 / AVX512 cubic-extension overload: for element k the written
-- coefficients denote (in ZMod p) the K3 sum / difference / product of the k-th designated operands.
import GoldilocksVerif.Lemmas.ExtWrapL
namespace GoldilocksVerif.C16Gen
open GoldilocksVerif

/-- `mul13_avx512(Goldilocks3::Element_avx512 & c_, const __m512i & a_, const Goldilocks3::Element_avx512 & b_)` -/
theorem G3_mul13_avx512__nWN_spec (c_ : VRegion8) (a_ : V8) (b_ : VRegion8) :
    PlanarV8 (fun k => K3.mul ((reg8 a_) k) ((vreg8 b_) k)) c_ (Gen.ExtWrap.G3_mul13_avx512__nWN c_ a_ b_) := by
  ext_body Gen.ExtWrap.G3_mul13_avx512__nWN
  exact PlanarV8.of_sets fun k hk => by ext_lane8 hk

/-- `mul13_avx512(Goldilocks3::Element_avx512 & c_, Goldilocks::Element * a, __m512i * b_, uint64_t stride_a)` -/
theorem G3_mul13_avx512__npnE_spec (c_ : VRegion8) (a : Region) (b_ : VRegion8) (stride_a : BitVec 64) :
    PlanarV8 (fun k => K3.mul ((base1 a (posS stride_a)) k) ((vreg8 b_) k)) c_ (Gen.ExtWrap.G3_mul13_avx512__npnE c_ a b_ stride_a) := by
  ext_body Gen.ExtWrap.G3_mul13_avx512__npnE
  exact PlanarV8.of_sets fun k hk => by ext_lane8 hk

/-- `mul13_avx512(Goldilocks3::Element_avx512 & c_, Goldilocks::Element * a, __m512i * b_, const uint64_t * stride_a)` -/
theorem G3_mul13_avx512__npnP_spec (c_ : VRegion8) (a : Region) (b_ : VRegion8) (stride_a : Region) :
    PlanarV8 (fun k => K3.mul ((base1 a (posA stride_a)) k) ((vreg8 b_) k)) c_ (Gen.ExtWrap.G3_mul13_avx512__npnP c_ a b_ stride_a) := by
  ext_body Gen.ExtWrap.G3_mul13_avx512__npnP
  exact PlanarV8.of_sets fun k hk => by ext_lane8 hk

/-- `mul13c_avx512(Goldilocks3::Element_avx512 & c_, const __m512i & a_, Goldilocks::Element * b)` -/
theorem G3_mul13c_avx512__nWp_spec (c_ : VRegion8) (a_ : V8) (b : Region) :
    PlanarV8 (fun k => K3.mul ((reg8 a_) k) ((ext3 b posC) k)) c_ (Gen.ExtWrap.G3_mul13c_avx512__nWp c_ a_ b) := by
  ext_body Gen.ExtWrap.G3_mul13c_avx512__nWp
  exact PlanarV8.of_sets fun k hk => by ext_lane8 hk

/-- `mul13c_avx512(Goldilocks3::Element_avx512 & c_, Goldilocks::Element * a, Goldilocks::Element * b, uint64_t stride_a)` -/
theorem G3_mul13c_avx512__nppE_spec (c_ : VRegion8) (a : Region) (b : Region) (stride_a : BitVec 64) :
    PlanarV8 (fun k => K3.mul ((base1 a (posS stride_a)) k) ((ext3 b posC) k)) c_ (Gen.ExtWrap.G3_mul13c_avx512__nppE c_ a b stride_a) := by
  ext_body Gen.ExtWrap.G3_mul13c_avx512__nppE
  exact PlanarV8.of_sets fun k hk => by ext_lane8 hk

/-- `mul13c_avx512(Goldilocks3::Element_avx512 & c_, Goldilocks::Element * a, Goldilocks::Element * b, const uint64_t * stride_a)` -/
theorem G3_mul13c_avx512__nppP_spec (c_ : VRegion8) (a : Region) (b : Region) (stride_a : Region) :
    PlanarV8 (fun k => K3.mul ((base1 a (posA stride_a)) k) ((ext3 b posC) k)) c_ (Gen.ExtWrap.G3_mul13c_avx512__nppP c_ a b stride_a) := by
  ext_body Gen.ExtWrap.G3_mul13c_avx512__nppP
  exact PlanarV8.of_sets fun k hk => by ext_lane8 hk

/-- `mul13c_avx512(__m512i & c0_, __m512i & c1_, __m512i & c2_, Goldilocks::Element * a, Goldilocks3::Element & b, uint64_t stride_a)` -/
theorem G3_mul13c_avx512__wwwpa3E_spec (a : Region) (b : Region) (stride_a : BitVec 64) :
    Planar8 (fun k => K3.mul ((base1 a (posS stride_a)) k) ((ext3 b posC) k)) (Gen.ExtWrap.G3_mul13c_avx512__wwwpa3E a b stride_a).1 (Gen.ExtWrap.G3_mul13c_avx512__wwwpa3E a b stride_a).2.1 (Gen.ExtWrap.G3_mul13c_avx512__wwwpa3E a b stride_a).2.2 := by
  ext_body Gen.ExtWrap.G3_mul13c_avx512__wwwpa3E
  intro k hk
  ext_lane8 hk

/-- `mul1c3c_avx512(Goldilocks3::Element_avx512 & c_, Goldilocks::Element a, Goldilocks3::Element & b)` -/
theorem G3_mul1c3c_avx512_spec (c_ : VRegion8) (a : BitVec 64) (b : Region) :
    PlanarV8 (fun k => K3.mul ((val1 a) k) ((ext3 b posC) k)) c_ (Gen.ExtWrap.G3_mul1c3c_avx512 c_ a b) := by
  ext_body Gen.ExtWrap.G3_mul1c3c_avx512
  exact PlanarV8.of_sets fun k hk => by ext_lane8 hk

/-- `mul33c_avx512(Goldilocks3::Element_avx512 & c_, Goldilocks3::Element_avx512 & a_, Goldilocks::Element * b)` -/
theorem G3_mul33c_avx512__nnp_spec (c_ : VRegion8) (a_ : VRegion8) (b : Region) :
    PlanarV8 (fun k => K3.mul ((vreg8 a_) k) ((ext3 b posC) k)) c_ (Gen.ExtWrap.G3_mul33c_avx512__nnp c_ a_ b) := by
  ext_body Gen.ExtWrap.G3_mul33c_avx512__nnp
  exact PlanarV8.of_sets fun k hk => by ext_lane8 hk

/-- `mul33c_avx512(Goldilocks3::Element_avx512 & c_, Goldilocks::Element * a, Goldilocks::Element * b, uint64_t stride_a)` -/
theorem G3_mul33c_avx512__nppE_spec (c_ : VRegion8) (a : Region) (b : Region) (stride_a : BitVec 64) :
    PlanarV8 (fun k => K3.mul ((ext3 a (posS stride_a)) k) ((ext3 b posC) k)) c_ (Gen.ExtWrap.G3_mul33c_avx512__nppE c_ a b stride_a) := by
  ext_body Gen.ExtWrap.G3_mul33c_avx512__nppE
  exact PlanarV8.of_sets fun k hk => by ext_lane8 hk

/-- `mul33c_avx512(Goldilocks3::Element_avx512 & c_, Goldilocks::Element * a, Goldilocks::Element * b, const uint64_t * stride_a)` -/
theorem G3_mul33c_avx512__nppP_spec (c_ : VRegion8) (a : Region) (b : Region) (stride_a : Region) :
    PlanarV8 (fun k => K3.mul ((ext3 a (posA stride_a)) k) ((ext3 b posC) k)) c_ (Gen.ExtWrap.G3_mul33c_avx512__nppP c_ a b stride_a) := by
  ext_body Gen.ExtWrap.G3_mul33c_avx512__nppP
  exact PlanarV8.of_sets fun k hk => by ext_lane8 hk

/-- `mul_avx512(Goldilocks3::Element_avx512 & c_, Goldilocks3::Element_avx512 & a_, Goldilocks3::Element_avx512 & b_)` -/
theorem G3_mul_avx512__nnn_spec (c_ : VRegion8) (a_ : VRegion8) (b_ : VRegion8) :
    PlanarV8 (fun k => K3.mul ((vreg8 a_) k) ((vreg8 b_) k)) c_ (Gen.ExtWrap.G3_mul_avx512__nnn c_ a_ b_) := by
  ext_body Gen.ExtWrap.G3_mul_avx512__nnn
  exact PlanarV8.of_sets fun k hk => by ext_lane8 hk

/-- `mul_avx512(Goldilocks::Element * c, uint64_t stride_c, Goldilocks3::Element_avx512 & a_, Goldilocks3::Element_avx512 & b_)` -/
theorem G3_mul_avx512__pEnn_spec (c : Region) (stride_c : BitVec 64) (a_ : VRegion8) (b_ : VRegion8) :
    Scatter3 8 (posS stride_c) (fun k => K3.mul ((vreg8 a_) k) ((vreg8 b_) k)) c (Gen.ExtWrap.G3_mul_avx512__pEnn c stride_c a_ b_) := by
  ext_body Gen.ExtWrap.G3_mul_avx512__pEnn
  exact Scatter3.of_planar8 fun k hk => by ext_lane8 hk

/-- `mul_avx512(Goldilocks::Element * c, uint64_t * stride_c, Goldilocks3::Element_avx512 & a_, Goldilocks3::Element_avx512 & b_)` -/
theorem G3_mul_avx512__ppnn_spec (c : Region) (stride_c : Region) (a_ : VRegion8) (b_ : VRegion8) :
    Scatter3 8 (posA stride_c) (fun k => K3.mul ((vreg8 a_) k) ((vreg8 b_) k)) c (Gen.ExtWrap.G3_mul_avx512__ppnn c stride_c a_ b_) := by
  ext_body Gen.ExtWrap.G3_mul_avx512__ppnn
  exact Scatter3.of_planar8 fun k hk => by ext_lane8 hk

/-- `mul_avx512(Goldilocks3::Element_avx512 & c_, Goldilocks::Element * a, Goldilocks::Element * b, uint64_t stride_a, uint64_t stride_b)` -/
theorem G3_mul_avx512__nppEE_spec (c_ : VRegion8) (a : Region) (b : Region) (stride_a : BitVec 64) (stride_b : BitVec 64) :
    PlanarV8 (fun k => K3.mul ((ext3 a (posS stride_a)) k) ((ext3 b (posS stride_b)) k)) c_ (Gen.ExtWrap.G3_mul_avx512__nppEE c_ a b stride_a stride_b) := by
  ext_body Gen.ExtWrap.G3_mul_avx512__nppEE
  exact PlanarV8.of_sets fun k hk => by ext_lane8 hk

/-- `mul_avx512(Goldilocks3::Element_avx512 & c_, Goldilocks::Element * a, Goldilocks3::Element_avx512 & b_, const uint64_t * stride_a)` -/
theorem G3_mul_avx512__npnP_spec (c_ : VRegion8) (a : Region) (b_ : VRegion8) (stride_a : Region) :
    PlanarV8 (fun k => K3.mul ((ext3 a (posA stride_a)) k) ((vreg8 b_) k)) c_ (Gen.ExtWrap.G3_mul_avx512__npnP c_ a b_ stride_a) := by
  ext_body Gen.ExtWrap.G3_mul_avx512__npnP
  exact PlanarV8.of_sets fun k hk => by ext_lane8 hk

/-- `mul_avx512(Goldilocks3::Element_avx512 & c_, Goldilocks::Element * a, Goldilocks3::Element_avx512 & b_, const uint64_t stride_a)` -/
theorem G3_mul_avx512__npnE_spec (c_ : VRegion8) (a : Region) (b_ : VRegion8) (stride_a : BitVec 64) :
    PlanarV8 (fun k => K3.mul ((ext3 a (posS stride_a)) k) ((vreg8 b_) k)) c_ (Gen.ExtWrap.G3_mul_avx512__npnE c_ a b_ stride_a) := by
  ext_body Gen.ExtWrap.G3_mul_avx512__npnE
  exact PlanarV8.of_sets fun k hk => by ext_lane8 hk

/-- `mul_avx512(Goldilocks3::Element_avx512 & c_, Goldilocks::Element * a, Goldilocks::Element * b, const uint64_t * stride_a, const uint64_t * stride_b)` -/
theorem G3_mul_avx512__nppPP_spec (c_ : VRegion8) (a : Region) (b : Region) (stride_a : Region) (stride_b : Region) :
    PlanarV8 (fun k => K3.mul ((ext3 a (posA stride_a)) k) ((ext3 b (posA stride_b)) k)) c_ (Gen.ExtWrap.G3_mul_avx512__nppPP c_ a b stride_a stride_b) := by
  ext_body Gen.ExtWrap.G3_mul_avx512__nppPP
  exact PlanarV8.of_sets fun k hk => by ext_lane8 hk

/-- `mul_avx512(__m512i & c0_, __m512i & c1_, __m512i & c2_, __m512i a0_, __m512i a1_, __m512i a2_, __m512i b0_, __m512i b1_, __m512i b2_, __m512i aux0_, __m512i aux1_, __m512i aux2_)`
    challenge product: aux lanes hold (b0+b1, b0+b2, b1+b2) of the same lane [hypothesis] -/
theorem G3_mul_avx512__wwwWWWWWWWWW_spec (a0_ : V8) (a1_ : V8) (a2_ : V8) (b0_ : V8) (b1_ : V8) (b2_ : V8) (aux0_ : V8) (aux1_ : V8) (aux2_ : V8)
    (h : ∀ k, k < 8 → ChalSums ((regs8 b0_ b1_ b2_) k) (den (aux0_.getN k)) (den (aux1_.getN k)) (den (aux2_.getN k))) :
    Planar8 (fun k => K3.mul ((regs8 a0_ a1_ a2_) k) ((regs8 b0_ b1_ b2_) k)) (Gen.ExtWrap.G3_mul_avx512__wwwWWWWWWWWW a0_ a1_ a2_ b0_ b1_ b2_ aux0_ aux1_ aux2_).1 (Gen.ExtWrap.G3_mul_avx512__wwwWWWWWWWWW a0_ a1_ a2_ b0_ b1_ b2_ aux0_ aux1_ aux2_).2.1 (Gen.ExtWrap.G3_mul_avx512__wwwWWWWWWWWW a0_ a1_ a2_ b0_ b1_ b2_ aux0_ aux1_ aux2_).2.2 := by
  ext_body Gen.ExtWrap.G3_mul_avx512__wwwWWWWWWWWW
  intro k hk
  obtain ⟨h0, h1, h2⟩ := h k hk
  simp only [regs8] at h0 h1 h2
  ext_lane8 hk

/-- `mul_avx512(__m512i & c0_, __m512i & c1_, __m512i & c2_, __m512i a0_, __m512i a1_, __m512i a2_, Goldilocks::Element * b)` -/
theorem G3_mul_avx512__wwwWWWp_spec (a0_ : V8) (a1_ : V8) (a2_ : V8) (b : Region) :
    Planar8 (fun k => K3.mul ((regs8 a0_ a1_ a2_) k) ((ext3 b (posD 3)) k)) (Gen.ExtWrap.G3_mul_avx512__wwwWWWp a0_ a1_ a2_ b).1 (Gen.ExtWrap.G3_mul_avx512__wwwWWWp a0_ a1_ a2_ b).2.1 (Gen.ExtWrap.G3_mul_avx512__wwwWWWp a0_ a1_ a2_ b).2.2 := by
  ext_body Gen.ExtWrap.G3_mul_avx512__wwwWWWp
  intro k hk
  ext_lane8 hk

end GoldilocksVerif.C16Gen
