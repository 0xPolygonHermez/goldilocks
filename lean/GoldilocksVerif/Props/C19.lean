/-
  C19 — "For every sequence of forward, inverse and extension calls with differing sizes, column counts and phase/block
  settings issued on one transform object (each size within its maximum domain), every call returns exactly what a freshly
  constructed object returns for the same arguments. Earlier calls never change later results."

  The first part is about the hand model `Model/Ntt.lean` (tied to the code by the correspondence campaign of `./check C19`):
  `runCalls o cs` threads ONE object through the history `cs`; `Call.run o c` is call `c` on the object `o`.
  Its theorems hold for EVERY history, every argument (also out-of-range ones: aborts are results too).  The sections after
  it are about histories of the functions translated from the C++ text.
-/
import GoldilocksVerif.Lemmas.NttShapes
import GoldilocksVerif.Lemmas.BridgeNttExtend
import GoldilocksVerif.Lemmas.BridgeNttHist
import GoldilocksVerif.Lemmas.BridgeNttHistBuf
import GoldilocksVerif.Lemmas.BridgeNttDtor
import GoldilocksVerif.Lemmas.BridgeNttProp

namespace GoldilocksVerif.C19
open GoldilocksVerif.Model.Ntt

/-- a freshly constructed object has no shift-power cache -/
theorem C19_constructed_without_cache (maxDomainSize extension : Nat) (o : Obj)
    (h : mkObj maxDomainSize extension = some o) : o.rcache = none :=
  mkObj_fresh _ _ o h

/-- C19: on a freshly constructed object, the k-th result of ANY history of NTT / INTT / extendPol calls is exactly the
    result of the same call issued on the fresh object. -/
theorem C19_history_eq_fresh (maxDomainSize extension : Nat) (o : Obj) (h : mkObj maxDomainSize extension = some o)
    (cs : List Call) : runCalls o cs = cs.map (fun c => (c.run o).2) := by
  have hf := mkObj_fresh _ _ o h
  have := runCalls_base cs o (wf_of_fresh o hf)
  rw [base_of_fresh o hf] at this
  exact this

/-- the same from any reachable object state (any prefix history already executed): later results are those of the fresh
    object `o.base` (= `o` with the cache dropped) -/
theorem C19_history_after_prefix (maxDomainSize extension : Nat) (o : Obj) (h : mkObj maxDomainSize extension = some o)
    (pre cs : List Call) : (runCalls o (pre ++ cs)).drop pre.length = cs.map (fun c => (c.run o).2) := by
  rw [C19_history_eq_fresh _ _ o h]
  simp

/-- NTT and INTT never modify the object -/
theorem C19_ntt_intt_leave_object (o : Obj) (mode : DstMode) (dstB srcB : Buf) (size ncols nphase nblock : Nat) :
    ((Call.ntt mode dstB srcB size ncols nphase nblock).run o).1 = o ∧
    ((Call.intt mode dstB srcB size ncols nphase nblock).run o).1 = o := ⟨rfl, rfl⟩

/-- the only state a call can change is the cache, and the cache keeps its invariant -/
theorem C19_only_cache_changes (o : Obj) (h : o.wf) (c : Call) : (c.run o).1.base = o.base ∧ (c.run o).1.wf :=
  ⟨(Call.run_base o h c).2.2, (Call.run_base o h c).2.1⟩

/-- NTT / INTT results do not depend on the cache content at all -/
theorem C19_ntt_ignores_cache (o : Obj) (cache : Option (Nat × Array W × Array W)) (mode : DstMode) (dstB srcB : Buf)
    (size ncols nphase nblock : Nat) (inverse : Bool) :
    ntt (setCache o cache) mode dstB srcB size ncols nphase nblock inverse false
      = ntt o mode dstB srcB size ncols nphase nblock inverse false :=
  ntt_setCache o cache mode dstB srcB size ncols nphase nblock inverse

/-- extendPol returns the same buffer (and leaves the same object) whatever cache an earlier extendPol call left -/
theorem C19_extendPol_ignores_cache (o : Obj) (h : o.wf) (same : Bool) (outB inB : Buf) (nExt n ncols nphase nblock : Nat) :
    extendPol o same outB inB nExt n ncols nphase nblock = extendPol o.base same outB inB nExt n ncols nphase nblock :=
  extendPol_base o h same outB inB nExt n ncols nphase nblock

/-- non-vacuity: objects exist, extendPol does change the cache, and a second extendPol with another N replaces it -/
example : (mkObj 8 1).isSome = true := by decide +kernel
example : ∃ o, mkObj 8 1 = some o ∧
    (((Call.extendPol false (Array.replicate 4 0#64) #[1#64, 2#64] 4 2 1 3 1).run o).1.rcache.map (·.1)) = some 2 ∧
    (((Call.extendPol false (Array.replicate 8 0#64) #[1#64, 2#64, 3#64, 4#64] 8 4 1 3 1).run
        ((Call.extendPol false (Array.replicate 4 0#64) #[1#64, 2#64] 4 2 1 3 1).run o).1).1.rcache.map (·.1)) = some 4 := by
  refine ⟨(mkObj 8 1).get (by decide +kernel), by simp, ?_, ?_⟩ <;> decide +kernel

/-! ### the model GENERATED from ntt_goldilocks.cpp / .hpp (see Props/C03.lean, DESIGN.NTTGEN.md) -/
section generated
open GoldilocksVerif.BridgeNtt Gen.NttGen GoldilocksVerif.NttSpec

/-- object reuse on the generated functions: two states of one object that differ only in the cache an earlier `extendPol`
    left behind (absent, built for this N, built for another N — each on its own heap, the input and output blocks holding the
    same data) make the TRANSLATED `extendPol` deliver the same output block, field element for field element.  The
    translated code frees and rebuilds a stale table (`r_N != N`), reuses a valid one, builds a missing one. -/
theorem C19_generated_extendPol_ignores_cache (maxDomainSize extension : Nat) (o1 o2 : Obj)
    (hb1 : mkObj maxDomainSize extension = some o1.base) (hb2 : o2.base = o1.base) (hwf1 : o1.wf) (hwf2 : o2.wf)
    (hext : extension ≤ 1) (dn de : Nat) (hdn1 : 1 ≤ dn) (hn : 2 ^ dn ≤ maxDomainSize) (hne : dn ≤ de) (hde : de ≤ 30)
    (fuel : Nat) (hf : 64 ≤ fuel)
    (hp1 hp2 : Heap) (s1 s2 : NTT_Goldilocks) (hr1 : ObjRep hp1 s1 o1) (hr2 : ObjRep hp2 s2 o2)
    (hi1 : ObjIn hp1 s1) (hi2 : ObjIn hp2 s2) (hd1 : ObjDisj s1) (hd2 : ObjDisj s2)
    (Out In : Nat) (hO1 : Out < hp1.size) (hO2 : Out < hp2.size) (hI1 : In < hp1.size) (hI2 : In < hp2.size) (hOut0 : Out ≠ 0)
    (hfO1 : ObjFrame s1 Out) (hfO2 : ObjFrame s2 Out) (hfI1 : ObjFrame s1 In) (hfI2 : ObjFrame s2 In)
    (hsameIn : hp1.block In = hp2.block In)
    (ncols : Nat) (nphase nblock : BitVec 64) (hnc : 1 ≤ ncols) (hbound : 2 ^ de * ncols * 8 < 2 ^ 64)
    (hnb : clampBlock nblock.toNat ncols = 1)
    (ho1 : 2 ^ de * ncols ≤ (hp1.block Out).size) (ho2 : 2 ^ de * ncols ≤ (hp2.block Out).size) :
    ∃ h1 t1 h2 t2,
      NTT_extendPol fuel hp1 s1 ⟨Out, 0⟩ ⟨In, 0⟩ (bv (2 ^ de)) (bv (2 ^ dn)) (bv ncols) Ptr.null nphase nblock = some (h1, t1) ∧
      NTT_extendPol fuel hp2 s2 ⟨Out, 0⟩ ⟨In, 0⟩ (bv (2 ^ de)) (bv (2 ^ dn)) (bv ncols) Ptr.null nphase nblock = some (h2, t2) ∧
      ∀ k c, k < 2 ^ de → c < ncols →
        den ((h1.block Out).getD (k * ncols + c) 0#64) = den ((h2.block Out).getD (k * ncols + c) 0#64) := by
  obtain ⟨h1, t1, _, g1, _, _, _, _, _, c1⟩ := extendPol_gen_lde ⟨hb1, hwf1, hext, hn⟩ fuel hf hp1 s1 hr1 hi1 hd1 Out In none
    hO1 hI1 hOut0 hfO1 hfI1 de ncols hne hde hnc hbound nphase nblock ho1 (by omega) ScratchOk.none
  obtain ⟨h2, t2, _, g2, _, _, _, _, _, c2⟩ := extendPol_gen_lde ⟨hb2 ▸ hb1, hwf2, hext, hn⟩ fuel hf hp2 s2 hr2 hi2 hd2 Out In none
    hO2 hI2 hOut0 hfO2 hfI2 de ncols hne hde hnc hbound nphase nblock ho2 (by omega) ScratchOk.none
  exact ⟨h1, t1, h2, t2, g1, g2, fun k c hk hc => (c1 k c hk hc).trans (hsameIn ▸ (c2 k c hk hc).symm)⟩

end generated

/-! ### HISTORIES on the generated model (Lemmas/BridgeNttHist.lean)
  `GCall` is one call of the TRANSLATED `NTT` / `INTT` / `extendPol` (block numbers of the caller's buffers, log2 of the sizes,
  column count, phase / block settings; no caller scratch buffer), `GCall.run fuel (hp, self)` runs it on the heap and the object
  state, `runG` threads a list of calls, `GCall.toCall hp` is the hand model's `Call` with the same arguments and the CURRENT
  contents of the blocks as buffers.  `GInv o0 n0 U sz (hp, self)` — "(hp, self) represents a hand-model object whose tables are
  those of the constructed object `o0` and whose cache is absent or valid; the object's blocks exist and are distinct; the caller's
  blocks `U` (below the original heap size `n0`, not the NULL block) are not the object's and have the sizes `sz`".
  `GCall.ok`: the shapes covered (sizes within the object's domain and ≤ 2^30, ≥ 1 column, destination large enough, every
  `nphase`, every `nblock`; fuel ≥ 64, and > ncols for size 1). -/
section generated_history
open GoldilocksVerif.BridgeNtt Gen.NttGen GoldilocksVerif.NttSpec Finset

/-- the invariant holds right after the TRANSLATED constructor, the caller's blocks being all blocks that existed before -/
theorem C19_generated_constructed_state (fuel : Nat) (hf : 64 ≤ fuel) (hp : Heap) (hpos : 0 < hp.size) (self0 : NTT_Goldilocks)
    (m : BitVec 64) (thr : BitVec 32) (e : Nat) (hm0 : m ≠ 0#64) (o0 : Obj) (hobj : mkObj m.toNat e = some o0) :
    ∃ st, NTT_ctor fuel hp self0 m thr (e : Int) = some st ∧
      GInv o0 hp.size (fun c => 0 < c ∧ c < hp.size) (fun c => (hp.block c).size) st ∧
      ∀ c, c < hp.size → st.1.block c = hp.block c :=
  ctor_inv fuel hf hp hpos self0 m thr e hm0 o0 hobj

/-- **one call after ANY history** (any state satisfying the invariant): the translated call returns; its destination block
    holds EXACTLY (bit for bit) what the hand model returns for the same arguments and buffer contents on the FRESHLY constructed
    object `o0`; the caller's other blocks are unchanged; the invariant holds again (tables unchanged, cache absent or valid) -/
theorem C19_generated_call_after_history (m e : Nat) (o0 : Obj) (hobj : mkObj m e = some o0) (he : e ≤ 1)
    (fuel : Nat) (hf : 64 ≤ fuel) (n0 : Nat) (U : Nat → Prop) (sz : Nat → Nat)
    (st : Heap × NTT_Goldilocks) (hinv : GInv o0 n0 U sz st) (c : GCall) (hok : c.ok m fuel U sz) :
    ∃ st' out src, c.run fuel st = some st' ∧ ((c.toCall st.1).run o0).2 = .ok (out, src) ∧ st'.1.block c.dst = out ∧
      (∀ b, U b → b ≠ c.dst → st'.1.block b = st.1.block b) ∧ GInv o0 n0 U sz st' :=
  gcall_step m e o0 hobj he fuel hf n0 U sz st hinv c hok

/-- **C19 on the generated model**: every history of valid calls returns and ends in a state satisfying the invariant — so
    (`C19_generated_call_after_history`) the k-th call of every history delivers what the fresh object delivers -/
theorem C19_generated_history (m e : Nat) (o0 : Obj) (hobj : mkObj m e = some o0) (he : e ≤ 1)
    (fuel : Nat) (hf : 64 ≤ fuel) (n0 : Nat) (U : Nat → Prop) (sz : Nat → Nat) (cs : List GCall)
    (st : Heap × NTT_Goldilocks) (hinv : GInv o0 n0 U sz st) (hok : ∀ c, c ∈ cs → c.ok m fuel U sz) :
    ∃ st', runG fuel st cs = some st' ∧ GInv o0 n0 U sz st' :=
  runG_inv m e o0 hobj he fuel hf n0 U sz cs st hinv hok

/-- end to end: the translated constructor on any heap, then ANY history of valid calls on the caller's blocks, then one more
    call: everything returns and the last call's destination block holds the fresh-object result of the hand model -/
theorem C19_generated_history_from_constructor (fuel : Nat) (hf : 64 ≤ fuel) (hp : Heap) (hpos : 0 < hp.size)
    (self0 : NTT_Goldilocks) (m : BitVec 64) (thr : BitVec 32) (e : Nat) (he : e ≤ 1) (hm0 : m ≠ 0#64) (o0 : Obj)
    (hobj : mkObj m.toNat e = some o0) (cs : List GCall) (c : GCall)
    (hok : ∀ c', c' ∈ c :: cs → c'.ok m.toNat fuel (fun b => 0 < b ∧ b < hp.size) (fun b => (hp.block b).size)) :
    ∃ st0 st st' out src, NTT_ctor fuel hp self0 m thr (e : Int) = some st0 ∧ runG fuel st0 cs = some st ∧
      c.run fuel st = some st' ∧ ((c.toCall st.1).run o0).2 = .ok (out, src) ∧ st'.1.block c.dst = out := by
  obtain ⟨st0, hc, hinv0, _⟩ := ctor_inv fuel hf hp hpos self0 m thr e hm0 o0 hobj
  obtain ⟨st, hr, hinv⟩ := runG_inv m.toNat e o0 hobj he fuel hf hp.size _ _ cs st0 hinv0
    (fun c' hc' => hok c' (List.mem_cons_of_mem _ hc'))
  obtain ⟨st', out, src, h1, h2, h3, _, _⟩ := gcall_step m.toNat e o0 hobj he fuel hf hp.size _ _ st hinv c
    (hok c List.mem_cons_self)
  exact ⟨st0, st, st', out, src, hc, hr, h1, h2, h3⟩

/-- **the property after any history**: after ANY history of valid calls, a translated forward transform delivers the DFT of every
    column of the block that is its source at that moment (each call's result is the property-level result, whatever was called
    before) -/
theorem C19_generated_transform_after_history (m e : Nat) (o0 : Obj) (hobj : mkObj m e = some o0) (he : e ≤ 1)
    (fuel : Nat) (hf : 64 ≤ fuel) (n0 : Nat) (U : Nat → Prop) (sz : Nat → Nat) (cs : List GCall)
    (st0 : Heap × NTT_Goldilocks) (hinv : GInv o0 n0 U sz st0) (hcs : ∀ c, c ∈ cs → c.ok m fuel U sz)
    (D Sx d nc : Nat) (nphase nblock : BitVec 64) (hok : (GCall.ntt D Sx d nc nphase nblock).ok m fuel U sz)
    (hsD : sz D = 2 ^ d * nc) (hsS : sz Sx = 2 ^ d * nc) :
    ∃ st st', runG fuel st0 cs = some st ∧ (GCall.ntt D Sx d nc nphase nblock).run fuel st = some st' ∧
      ∀ k c, k < 2 ^ d → c < nc →
        den ((st'.1.block D).getD (k * nc + c) 0#64)
          = ∑ j ∈ range (2 ^ d), den ((st.1.block Sx).getD (j * nc + c) 0#64) * omega d ^ (j * k) := by
  obtain ⟨st, hr, hinv'⟩ := runG_inv m e o0 hobj he fuel hf n0 U sz cs st0 hinv hcs
  obtain ⟨st', h1, hdft⟩ := gcallB_ntt_dft m e o0 hobj he fuel hf n0 U sz st hinv' (some D) Sx d nc none nphase nblock
    (GCall.toB_ok m fuel U sz _ hok)
  exact ⟨st, st', hr, h1, hdft⟩

end generated_history

/-! ### HISTORIES with caller scratch buffers and `dst == NULL`, and histories that END WITH THE DESTRUCTOR
  (Lemmas/BridgeNttHistBuf.lean, Lemmas/BridgeNttDtor.lean)
  `GCallB` is the second history type: the destination of `NTT` / `INTT` is an `Option Nat` (`none`: the caller passes `dst == NULL`,
  the transform is in place), every call has an optional caller scratch buffer (`none`: `buffer == NULL`).  `GCall.toB` embeds the
  first type; the invariant is the same `GInv`.  `GCallB.ok`: as `GCall.ok`, plus (`BufArg`) the buffer is one of the caller's
  blocks, another one than the destination's and the source's, of at least size·ncols (N_ext·ncols for `extendPol`) words.
  The hand model has no caller buffer: `GCallB.toCall` forgets it.
  `HeapSafe.Owned self b`: b is not the NULL block and is the block of `roots` / `powTwoInv` (when `s != 0`) or of `r` / `r_` (when
  not NULL) — the pointers the destructor releases. -/
section generated_history_buffers
open GoldilocksVerif.BridgeNtt Gen.NttGen GoldilocksVerif.NttSpec Finset

/-- **one call after ANY history, caller buffer and `dst == NULL` included**: the translated call returns; its destination block
    holds EXACTLY (bit for bit) what the hand model returns for the same arguments on the FRESHLY constructed object `o0` —
    whatever the scratch buffer held; the caller's blocks other than the destination and the scratch buffer are unchanged; the
    invariant holds again (the scratch buffer keeps its size) -/
theorem C19_generated_call_after_history_buffers (m e : Nat) (o0 : Obj) (hobj : mkObj m e = some o0) (he : e ≤ 1)
    (fuel : Nat) (hf : 64 ≤ fuel) (n0 : Nat) (U : Nat → Prop) (sz : Nat → Nat)
    (st : Heap × NTT_Goldilocks) (hinv : GInv o0 n0 U sz st) (c : GCallB) (hok : c.ok m fuel U sz) :
    ∃ st' out src, c.run fuel st = some st' ∧ ((c.toCall st.1).run o0).2 = .ok (out, src) ∧ st'.1.block c.dst = out ∧
      (∀ b, U b → b ≠ c.dst → c.buf ≠ some b → st'.1.block b = st.1.block b) ∧ GInv o0 n0 U sz st' :=
  gcallB_step m e o0 hobj he fuel hf n0 U sz st hinv c hok

/-- **C19 on the generated model, histories with caller buffers and in-place (`dst == NULL`) calls**: every history of valid calls
    returns and ends in a state satisfying the invariant — so (`C19_generated_call_after_history_buffers`) the k-th call of every
    history delivers what the fresh object delivers -/
theorem C19_generated_history_buffers (m e : Nat) (o0 : Obj) (hobj : mkObj m e = some o0) (he : e ≤ 1)
    (fuel : Nat) (hf : 64 ≤ fuel) (n0 : Nat) (U : Nat → Prop) (sz : Nat → Nat) (cs : List GCallB)
    (st : Heap × NTT_Goldilocks) (hinv : GInv o0 n0 U sz st) (hok : ∀ c, c ∈ cs → c.ok m fuel U sz) :
    ∃ st', runGB fuel st cs = some st' ∧ GInv o0 n0 U sz st' :=
  runGB_inv m e o0 hobj he fuel hf n0 U sz cs st hinv hok

/-- the second history type contains the first: same runs, valid calls stay valid -/
theorem C19_generated_history_buffers_extends (m fuel : Nat) (U : Nat → Prop) (sz : Nat → Nat) (cs : List GCall)
    (st : Heap × NTT_Goldilocks) :
    runGB fuel st (cs.map GCall.toB) = runG fuel st cs ∧
    ((∀ c, c ∈ cs → c.ok m fuel U sz) → ∀ c, c ∈ cs.map GCall.toB → c.ok m fuel U sz) := by
  refine ⟨runG_toB fuel cs st, fun h c hc => ?_⟩
  rw [List.mem_map] at hc
  obtain ⟨c0, hc0, rfl⟩ := hc
  exact GCall.toB_ok m fuel U sz c0 (h c0 hc0)

/-- **the property after any history, in place with a caller buffer**: after ANY history of valid calls (with or without buffers), a
    translated forward transform called with `dst == NULL` and a caller scratch buffer of ANY content delivers, in its source
    block, the DFT of every column of what that block held -/
theorem C19_generated_transform_after_history_buffers (m e : Nat) (o0 : Obj) (hobj : mkObj m e = some o0) (he : e ≤ 1)
    (fuel : Nat) (hf : 64 ≤ fuel) (n0 : Nat) (U : Nat → Prop) (sz : Nat → Nat) (cs : List GCallB)
    (st0 : Heap × NTT_Goldilocks) (hinv : GInv o0 n0 U sz st0) (hcs : ∀ c, c ∈ cs → c.ok m fuel U sz)
    (Sx d nc B : Nat) (nphase nblock : BitVec 64) (hok : (GCallB.ntt none Sx d nc (some B) nphase nblock).ok m fuel U sz) :
    ∃ st st', runGB fuel st0 cs = some st ∧ (GCallB.ntt none Sx d nc (some B) nphase nblock).run fuel st = some st' ∧
      ∀ k c, k < 2 ^ d → c < nc →
        den ((st'.1.block Sx).getD (k * nc + c) 0#64)
          = ∑ j ∈ range (2 ^ d), den ((st.1.block Sx).getD (j * nc + c) 0#64) * omega d ^ (j * k) := by
  obtain ⟨st, hr, hinv'⟩ := runGB_inv m e o0 hobj he fuel hf n0 U sz cs st0 hinv hcs
  obtain ⟨st', h1, hdft⟩ := gcallB_ntt_dft m e o0 hobj he fuel hf n0 U sz st hinv' none Sx d nc (some B) nphase nblock hok
  exact ⟨st, st', hr, h1, hdft⟩

/-- the caller may ALLOCATE new buffers between two calls (a block with any content, as the driver of the generated model does for
    the data of every call): the invariant holds again, re-based to the larger heap, the new block being one more caller block —
    so `C19_generated_call_after_history_buffers` / `C19_generated_history_buffers` apply to the calls that follow -/
theorem C19_generated_caller_alloc_keeps_invariant (o0 : Obj) (n0 : Nat) (U : Nat → Prop) (sz : Nat → Nat) (hp : Heap)
    (self : NTT_Goldilocks) (hinv : GInv o0 n0 U sz (hp, self)) (a : Block) :
    GInv o0 (hp.size + 1) (fun c => U c ∨ c = hp.size) (fun c => if c = hp.size then a.size else sz c)
      ((hp.allocWith a).1, self) :=
  hinv.callerAlloc a

/-- **the destructor, standalone**: the translated destructor releases every block the object owns (extent 0 afterwards) and leaves
    the content of every other block -/
theorem C19_generated_destructor (hp : Heap) (hpos : 0 < hp.size) (self : NTT_Goldilocks) :
    (∀ b, HeapSafe.Owned self b → (NTT_dtor hp self).ext b = 0) ∧
    (∀ b, ¬ HeapSafe.Owned self b → (NTT_dtor hp self).block b = hp.block b) :=
  ⟨fun b hb => dtor_ext_owned hp hpos self b hb, fun b hb => dtor_block_unowned hp self b hb⟩

/-- **a history that ENDS with the destructor**: from any state satisfying the invariant, any history of valid calls (buffers,
    `dst == NULL`) returns — each call with the fresh-object result in its destination block — and the translated destructor then
    releases every block the object owns, leaves the content of every block it does not own, in particular every caller block
    keeps what the history gave it (and its size) -/
theorem C19_generated_history_then_dtor (m e : Nat) (o0 : Obj) (hobj : mkObj m e = some o0) (he : e ≤ 1)
    (fuel : Nat) (hf : 64 ≤ fuel) (n0 : Nat) (U : Nat → Prop) (sz : Nat → Nat) (cs : List GCallB)
    (st : Heap × NTT_Goldilocks) (hinv : GInv o0 n0 U sz st) (hok : ∀ c, c ∈ cs → c.ok m fuel U sz) :
    ∃ st', runGB fuel st cs = some st' ∧ GInv o0 n0 U sz st' ∧
      (∀ b, HeapSafe.Owned st'.2 b → (NTT_dtor st'.1 st'.2).ext b = 0) ∧
      (∀ b, ¬ HeapSafe.Owned st'.2 b → (NTT_dtor st'.1 st'.2).block b = st'.1.block b) ∧
      (∀ b, U b → (NTT_dtor st'.1 st'.2).block b = st'.1.block b ∧ ((NTT_dtor st'.1 st'.2).block b).size = sz b) :=
  runGB_then_dtor m e o0 hobj he fuel hf n0 U sz cs st hinv hok

/-- **constructor → any history → destructor** on any heap: everything returns (`HeapSafe.life` is the composition of the
    allocation-balance theorem `C18_generated_alloc_balance`); every block that existed before the constructor keeps, through the
    destructor, the content the history gave it; afterwards EVERY extent is what it was before the constructor ran: the object's
    blocks (all with numbers ≥ the original heap size) are released, nothing else is -/
theorem C19_generated_life_then_dtor (fuel : Nat) (hf : 64 ≤ fuel) (hp : Heap) (hpos : 0 < hp.size) (m : BitVec 64) (thr : BitVec 32)
    (e : Nat) (he : e ≤ 1) (hm0 : m ≠ 0#64) (o0 : Obj) (hobj : mkObj m.toNat e = some o0) (cs : List GCallB)
    (hok : ∀ c, c ∈ cs → c.ok m.toNat fuel (fun b => 0 < b ∧ b < hp.size) (fun b => (hp.block b).size)) :
    ∃ st0 st, NTT_ctor fuel hp NTT_Goldilocks.init m thr (e : Int) = some st0 ∧ runGB fuel st0 cs = some st ∧
      HeapSafe.life fuel hp m thr (e : Int) (cs.map GCallB.toRaw) = some (NTT_dtor st.1 st.2) ∧
      GInv o0 hp.size (fun b => 0 < b ∧ b < hp.size) (fun b => (hp.block b).size) st ∧
      (∀ b, b < hp.size → (NTT_dtor st.1 st.2).block b = st.1.block b) ∧
      (∀ b, (NTT_dtor st.1 st.2).ext b = hp.ext b) ∧
      (∀ b, hp.size ≤ b → (NTT_dtor st.1 st.2).ext b = 0) :=
  life_then_dtor fuel hf hp hpos m thr e he hm0 o0 hobj cs hok

/-- non-vacuity: a concrete history with documented arguments on a heap with three caller blocks (8, 16, 16 words), an object for 8
    points: `extendPol` 4 → 8 with the third block as scratch, two column blocks; an in-place (`dst == NULL`) `NTT` of size 4 with the
    scratch block; an `INTT` into another block without buffer; a size-1 in-place `NTT` of 8 columns with the scratch block; an
    in-place `extendPol` without buffer.  The whole life returns and gives back every block -/
example : ∃ st0 st,
    NTT_ctor 64 ⟨#[#[], Array.replicate 8 5#64, Array.replicate 16 0#64, Array.replicate 16 9#64]⟩ NTT_Goldilocks.init 8#64 1#32
      ((1 : Nat) : Int) = some st0 ∧
    runGB 64 st0 [GCallB.extendPol 2 1 3 2 2 (some 3) 3#64 2#64, GCallB.ntt none 1 2 2 (some 3) 3#64 1#64,
      GCallB.intt (some 2) 1 2 2 none 0#64 5#64, GCallB.ntt none 1 0 8 (some 3) 3#64 1#64,
      GCallB.extendPol 2 2 3 2 2 none 3#64 1#64] = some st ∧
    ∀ b, (NTT_dtor st.1 st.2).ext b =
      Heap.ext ⟨#[#[], Array.replicate 8 5#64, Array.replicate 16 0#64, Array.replicate 16 9#64]⟩ b := by
  obtain ⟨o0, ho0⟩ := mkObj_some (8#64 : BitVec 64).toNat 1 (by decide)
  obtain ⟨st0, st, h1, h2, _, _, _, h3, _⟩ := C19_generated_life_then_dtor 64 (by omega)
    ⟨#[#[], Array.replicate 8 5#64, Array.replicate 16 0#64, Array.replicate 16 9#64]⟩ (by decide) 8#64 1#32 1 (by omega) (by decide)
    o0 ho0 [GCallB.extendPol 2 1 3 2 2 (some 3) 3#64 2#64, GCallB.ntt none 1 2 2 (some 3) 3#64 1#64,
      GCallB.intt (some 2) 1 2 2 none 0#64 5#64, GCallB.ntt none 1 0 8 (some 3) 3#64 1#64,
      GCallB.extendPol 2 2 3 2 2 none 3#64 1#64] (by
    intro c hc
    simp only [List.mem_cons, List.not_mem_nil, or_false] at hc
    rcases hc with rfl | rfl | rfl | rfl | rfl
    · exact ⟨by decide, by decide, by decide, by decide, by decide, by decide, by decide, by decide, by decide,
        fun B hB => by cases hB; decide⟩
    · exact ⟨by decide, by decide, by decide, by decide, by decide, by decide, by decide, by decide,
        fun B hB => by cases hB; decide⟩
    · exact ⟨by decide, by decide, by decide, by decide, by decide, by decide, by decide, by decide, fun B hB => by cases hB⟩
    · exact ⟨by decide, by decide, by decide, by decide, by decide, by decide, by decide, by decide,
        fun B hB => by cases hB; decide⟩
    · exact ⟨by decide, by decide, by decide, by decide, by decide, by decide, by decide, by decide, by decide,
        fun B hB => by cases hB⟩)
  exact ⟨st0, st, h1, h2, h3⟩

end generated_history_buffers

end GoldilocksVerif.C19
