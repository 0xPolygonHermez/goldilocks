/-
  C12 — parallel regions are race-free; results independent of threads and schedule.     LEVEL: PARTIAL BY NATURE.

  An iteration is a state transformer with a read and a write footprint.  Iterations whose footprints pairwise satisfy
  Bernstein's conditions (`Par.FootIndep`) can be run in ANY order — hence under any assignment to team members, any team
  size (fewer, equal or more members than iterations) and any order of the members — with the same final memory, whatever
  the bodies compute inside their footprints (`C12_order_independent`).  Three layers, each for all sizes and shapes:
  1. Bernstein's conditions for the footprints of every family of `#pragma omp parallel for` loops of the library (20 loops):
     parcpy / parSetZero chunks; NTT butterfly batches with the transposing / reflecting copy; block scatter; the four
     bit-reversal loops; Merkle leaf and level loops of the six tree builders.  (parcpy / parSetZero end to end, for every
     order of the chunks: `C17_parcpy`, `C17_parSetZero`, Props/C17.lean.)
  2. `C12_model_…`: THE LOOPS OF THE HAND MODEL HAVE THESE FOOTPRINTS.  Model/Ntt.lean (tied to the C++ by the differential
     campaigns of C03/C04/C05/C19) runs every parallel loop as a sequential fold of a named body.  Frame and dependency of
     these bodies are derived from the model's definitions with NO hypothesis on the buffers (Lemmas/NttPar*.lean), so
     every loop folded in any order gives the model's result, and so do whole `NTT_iters`, `NTT`, `INTT`, `extendPol` calls
     with EVERY parallel loop of every column block in an arbitrary order, aborts included (log2 size ≤ 32).
     The Merkle model (Model/Sponge.lean) is purely functional, with no indexed writes to permute.  Shown instead: a word
     of a level depends on the two children of its node only; and an imperative rendering of the leaf / level loops on
     one tree buffer (Lemmas/MerklePar.lean; hand-written, NOT executed against the C++) has the footprints of layer 1
     and, in any order, fills the buffer with the model's `merkleTree`.
  3. `C12_generated_…`: THE GENERATED LOOP BODIES.  Gen/NttGen.lean, Gen/ParZeroGen.lean, Gen/MerkleGen.lean are translated
     from the C++ on every run; an `omp parallel for` loop becomes `Loop.rangeM 0 n 1 s body`, `body` the lifted loop body
     `<fn>_loopK`.  `ParGen.inOrder body l` (Lemmas/ParGen.lean) runs that SAME body over the index list `l`, and each
     theorem has the form
         `l.Perm (range n) → inOrder body l s = Loop.rangeM 0 n 1 s body  ∧  the loop returns`
     for EVERY state `s` (heap / tree buffer) the loop is entered with: NTT butterfly batches (and one iteration of the
     pass loop around them), block scatter, the four `reversePermutation` loops (and the translated function around
     them), the chunk loops of `parcpy` / `parSetZero`, leaf and level loops of all six Merkle builders (the leaf loop of
     `merkletree_batch_avx512` for 2^(k+1) rows only).  Each rests on a per-iteration lemma (Lemmas/BridgeNtt*.lean,
     ParGen*.lean) or a `rfl` instance that a change of the loop body in the C++, hence in Gen/*.lean, breaks.
     One loop at a time, from an arbitrary state (hence every dynamic instance of the loop inside the translated function,
     when the side conditions hold there).  No order-parametrised copy of the generated functions is made (it would not
     be regenerated): whole calls with every loop permuted are layer 2, to which the bridge (`NTT_gen`, `nttIters_gen`)
     ties the translated functions.
  All of this is at ITERATION granularity.  What is NOT a theorem: (a) that the COMPILED code is the translated code
  (translator + clang AST are trusted for that; tied by the differential campaigns of C03/C04/C05/C08/C19, which execute
  the generated model against the binary); (b) freedom from data races at ACCESS granularity for the generated bodies:
  they are functions on the memory state, so a read whose value never influences the result is invisible to these
  theorems.  Explicit read/write footprints are proved for the hand model's bodies and, for Merkle / parcpy, for the
  generated ones (frame + dependency); interleavings of individual accesses follow from their disjointness.
  The compiled accesses themselves are therefore OBSERVED by the C12 check: ThreadSanitizer over a pthread stand-in for the
  OpenMP runtime (real accesses, real happens-before), controlled sequential execution of the team members in permuted
  orders and team sizes (outputs bit-identical to the single-member run), and real libgomp teams of 1,2,3,5,16 threads.
-/
import GoldilocksVerif.Lemmas.Bernstein
import GoldilocksVerif.Lemmas.NttBr
import GoldilocksVerif.Lemmas.ParCopyL
import GoldilocksVerif.Lemmas.NttParBatch
import GoldilocksVerif.Lemmas.NttParRev
import GoldilocksVerif.Lemmas.NttParIters
import GoldilocksVerif.Lemmas.NttTop
import GoldilocksVerif.Lemmas.MerklePar
import GoldilocksVerif.Lemmas.BridgeNttIters
import GoldilocksVerif.Lemmas.ParGenNtt
import GoldilocksVerif.Lemmas.ParGenCopy
import GoldilocksVerif.Lemmas.ParGenZero
import GoldilocksVerif.Lemmas.ParGenMerkle
import GoldilocksVerif.Lemmas.BridgePerm
import GoldilocksVerif.Lemmas.BridgeMerkle512

namespace GoldilocksVerif.C12
open GoldilocksVerif GoldilocksVerif.Par

/-- a location: (buffer, index).  Indices are ROWS for the transform loops (a row = `ncols` consecutive words; distinct
    rows are disjoint memory, `C12_rows_disjoint`) and WORDS for the tree builders and the copies. -/
abbrev Loc := Nat × Nat

/-- the generic claim (Lemmas/Bernstein.lean): pairwise independent iterations in any order give the same memory -/
theorem C12_order_independent {V : Type} (its its' : List (Iter Loc V)) (hp : its.Perm its')
    (hind : ∀ f ∈ its, ∀ g ∈ its, f ≠ g → Indep f g) (m : Loc → V) : exec its m = exec its' m :=
  order_independent its its' hp hind m

/-- distinct rows of a row-major matrix do not share a word -/
theorem C12_rows_disjoint (ncols r r' x : Nat) (h1 : r * ncols ≤ x) (h2 : x < (r + 1) * ncols)
    (h1' : r' * ncols ≤ x) (h2' : x < (r' + 1) * ncols) : r = r' := by
  rw [Nat.add_mul, Nat.one_mul] at h2 h2'
  exact row_unique ncols r r' x h1 h2 h1' h2'

/-! ### NTT_iters: butterfly batches (ntt_goldilocks.cpp:81) -/

/-- iteration `b` of a pass with batch size `B`, `nB` batches (size = B·nB): butterflies read and write rows
    `[b·B, (b+1)·B)` of the current buffer `A`; the copy writes rows `σ (x·nB + b)`, `x < B`, of the other buffer `A2`
    (σ = identity: transposing copy; σ = intt_idx: reflecting, scaling copy of the last inverse pass); tables are read-only. -/
def batchR (A : Nat) (tables : Nat → Prop) (B b : Nat) : Loc → Prop :=
  fun l => (l.1 = A ∧ b * B ≤ l.2 ∧ l.2 < (b + 1) * B) ∨ tables l.1
def batchW (A A2 : Nat) (σ : Nat → Nat) (B nB b : Nat) : Loc → Prop :=
  fun l => (l.1 = A ∧ b * B ≤ l.2 ∧ l.2 < (b + 1) * B) ∨ (l.1 = A2 ∧ ∃ x, x < B ∧ l.2 = σ (x * nB + b))

/-- two different batches of a pass are independent.  `hσ`: the row map of the copy is injective (`C12_inttIdx_inj` for
    the reflecting one) -/
theorem C12_ntt_batches (A A2 : Nat) (tables : Nat → Prop) (σ : Nat → Nat) (B nB : Nat) (hA : A ≠ A2)
    (hT : ¬ tables A ∧ ¬ tables A2)
    (hσ : ∀ i j, i < B * nB → j < B * nB → σ i = σ j → i = j)
    (b b' : Nat) (hb : b < nB) (hb' : b' < nB) (hne : b ≠ b') :
    FootIndep (batchR A tables B b) (batchW A A2 σ B nB b) (batchR A tables B b') (batchW A A2 σ B nB b') := by
  refine FootIndep.of_writes (fun l => tables l.1) ?_ (fun _ h => h.imp_left Or.inl) (fun _ h => h.imp_left Or.inl) ?_
  · rintro ⟨buf, r⟩ ⟨h1 | h1, h2 | h2⟩
    · exact Model.Ntt.batchRows_disjoint B b b' hne r ⟨h1.2, h2.2⟩
    · exact hA (h1.1.symm.trans h2.1)
    · exact hA (h2.1.symm.trans h1.1)
    · exact Model.Ntt.copyRows_disjoint σ B nB hσ b b' hb hb' hne r ⟨h1.2, h2.2⟩
  · rintro ⟨buf, r⟩ ht
    constructor <;> rintro (h | h) <;> simp only at h ht <;> rw [h.1] at ht
    exacts [hT.1 ht, hT.2 ht, hT.1 ht, hT.2 ht]

/-- `intt_idx(i, N) = (N − i) mod N` is injective on `[0, N)`: the reflecting copy of the last inverse pass writes
    distinct rows -/
def inttIdx (i N : Nat) : Nat := if N - i = N then 0 else N - i

theorem C12_inttIdx_inj (N i j : Nat) (hi : i < N) (hj : j < N) (h : inttIdx i N = inttIdx j N) : i = j := by
  unfold inttIdx at h
  split at h <;> split at h <;> omega

/-! ### block scatter (ntt_goldilocks.cpp:219), out-of-place bit reversal (254, 267) -/

/-- iteration `i` reads row `ρ i` of `S` and writes row `i` of `D`, `S ≠ D` (scatter: ρ = id; reversal: ρ = BR) -/
theorem C12_row_to_row (S D : Nat) (ρ : Nat → Nat) (hSD : S ≠ D) (i i' : Nat) (hne : i ≠ i') :
    FootIndep (fun l : Loc => l = (S, ρ i)) (fun l : Loc => l = (D, i))
              (fun l : Loc => l = (S, ρ i')) (fun l : Loc => l = (D, i')) := by
  refine ⟨?_, ?_, ?_⟩
  · rintro l ⟨h1, h2⟩; rw [h1] at h2; exact hne (Prod.mk.inj h2).2
  · rintro l ⟨h1, h2⟩; rw [h1] at h2; exact hSD (Prod.mk.inj h2).1.symm
  · rintro l ⟨h1, h2⟩; rw [h1] at h2; exact hSD (Prod.mk.inj h2).1.symm

/-! ### in-place bit reversal (ntt_goldilocks.cpp:289, 311): swaps only when `r < i` -/

/-- iteration `i` of the in-place loops on `2^d` rows: with `r = bitrev d i` it touches rows `i` and `r` when `r < i`,
    row `i` alone when `r = i` (the zero-extending variant clears it), nothing when `r > i` -/
def swapFoot (D d i : Nat) : Loc → Prop :=
  fun l => l.1 = D ∧ ((Model.Ntt.bitrev d i < i ∧ (l.2 = i ∨ l.2 = Model.Ntt.bitrev d i)) ∨ (Model.Ntt.bitrev d i = i ∧ l.2 = i))

theorem C12_inplace_reversal (D d i i' : Nat) (hi : i < 2 ^ d) (hi' : i' < 2 ^ d) (hne : i ≠ i') :
    FootIndep (swapFoot D d i) (swapFoot D d i) (swapFoot D d i') (swapFoot D d i') := by
  have key : ∀ l, ¬ (swapFoot D d i l ∧ swapFoot D d i' l) :=
    fun l h => Model.Ntt.swapRows_disjoint d i i' hi hi' hne l.2 ⟨h.1.2, h.2.2⟩
  exact ⟨key, key, fun l h => key l ⟨h.2, h.1⟩⟩

/-- the loop's `BR(i, domainPow)` IS `bitrev` for every domain up to 2^32 -/
theorem C12_BR_is_bitrev (d i : Nat) (hd : d ≤ 32) (hi : i < 2 ^ d) : Model.Ntt.br i d = Model.Ntt.bitrev d i :=
  Model.Ntt.br_eq_bitrev d i hd hi

/-! ### Merkle builders (poseidon_goldilocks.cpp:87-163, 277-351, 495-587): leaves, then level by level -/

/-- leaf loop, `k` rows per iteration (1; 2 for the AVX512 builders): iteration `i` reads its `k` input rows and writes
    the `4k` words `[4k·i, 4k·(i+1))` of the tree; per-iteration stack buffers are private -/
theorem C12_merkle_leaves (T I k w i i' : Nat) (hTI : T ≠ I) (hne : i ≠ i') :
    FootIndep (fun l : Loc => l.1 = I ∧ i * (k * w) ≤ l.2 ∧ l.2 < (i + 1) * (k * w))
              (fun l : Loc => l.1 = T ∧ i * (4 * k) ≤ l.2 ∧ l.2 < (i + 1) * (4 * k))
              (fun l : Loc => l.1 = I ∧ i' * (k * w) ≤ l.2 ∧ l.2 < (i' + 1) * (k * w))
              (fun l : Loc => l.1 = T ∧ i' * (4 * k) ≤ l.2 ∧ l.2 < (i' + 1) * (4 * k)) := by
  refine ⟨?_, ?_, ?_⟩
  · rintro ⟨b, x⟩ ⟨⟨_, h1, h2⟩, ⟨_, h3, h4⟩⟩
    exact hne (C12_rows_disjoint (4 * k) i i' x h1 h2 h3 h4)
  · rintro ⟨b, x⟩ ⟨⟨h1, _⟩, ⟨h2, _⟩⟩; exact hTI (h1.symm.trans h2)
  · rintro ⟨b, x⟩ ⟨⟨h1, _⟩, ⟨h2, _⟩⟩; exact hTI (h1.symm.trans h2)

/-- level loop on a level of `p` nodes stored from word `base`, `k` parent nodes per iteration, `n` iterations with
    `2·k·n ≤ p`: iteration `i` reads the `8k` words `[base + 8k·i, base + 8k·(i+1))` of level L and writes the `4k` words
    `[base + 4p + 4k·i, base + 4p + 4k·(i+1))` of level L+1 — the write region starts where the read region ends -/
theorem C12_merkle_level (T base p k n i i' : Nat) (hn : 2 * k * n ≤ p) (hi : i < n) (hi' : i' < n) (hne : i ≠ i') :
    FootIndep (fun l : Loc => l.1 = T ∧ base + i * (8 * k) ≤ l.2 ∧ l.2 < base + (i + 1) * (8 * k))
              (fun l : Loc => l.1 = T ∧ base + 4 * p + i * (4 * k) ≤ l.2 ∧ l.2 < base + 4 * p + (i + 1) * (4 * k))
              (fun l : Loc => l.1 = T ∧ base + i' * (8 * k) ≤ l.2 ∧ l.2 < base + (i' + 1) * (8 * k))
              (fun l : Loc => l.1 = T ∧ base + 4 * p + i' * (4 * k) ≤ l.2 ∧ l.2 < base + 4 * p + (i' + 1) * (4 * k)) := by
  have rd_end : ∀ j, j < n → (j + 1) * (8 * k) ≤ 4 * p := by
    intro j hj
    have h1 : (j + 1) * (8 * k) ≤ n * (8 * k) := Nat.mul_le_mul_right _ hj
    have h2 : n * (8 * k) = 4 * (2 * k * n) := by
      rw [Nat.mul_comm n (8 * k), show 8 * k = 4 * (2 * k) by omega, Nat.mul_assoc]
    omega
  refine ⟨?_, ?_, ?_⟩
  · rintro ⟨b, x⟩ ⟨⟨_, h1, h2⟩, ⟨_, h3, h4⟩⟩
    simp only at h1 h2 h3 h4
    exact hne (C12_rows_disjoint (4 * k) i i' (x - (base + 4 * p)) (by omega) (by omega) (by omega) (by omega))
  · rintro ⟨b, x⟩ ⟨⟨_, h1, _⟩, ⟨_, _, h4⟩⟩
    simp only at h1 h4
    have := rd_end i' hi'
    omega
  · rintro ⟨b, x⟩ ⟨⟨_, h1, _⟩, ⟨_, _, h4⟩⟩
    simp only at h1 h4
    have := rd_end i hi
    omega

/-! ### parcpy / parSetZero (goldilocks_base_field.cpp:72, 93) -/

open ParCopy in
/-- two different chunk iterations touch disjoint parts of `dst` (and read `src ≠ dst`) -/
theorem C12_parcpy_chunks (Dst Src size : Nat) (nt : Int) (i i' : Nat) (hSD : Src ≠ Dst)
    (hi : i ∈ starts size nt) (hi' : i' ∈ starts size nt) (hne : i ≠ i') :
    FootIndep (fun l : Loc => l.1 = Src ∧ i ≤ l.2 ∧ l.2 < i + len size nt i)
              (fun l : Loc => l.1 = Dst ∧ i ≤ l.2 ∧ l.2 < i + len size nt i)
              (fun l : Loc => l.1 = Src ∧ i' ≤ l.2 ∧ l.2 < i' + len size nt i')
              (fun l : Loc => l.1 = Dst ∧ i' ≤ l.2 ∧ l.2 < i' + len size nt i') := by
  refine ⟨?_, ?_, ?_⟩
  · rintro ⟨b, x⟩ ⟨⟨_, h1⟩, ⟨_, h2⟩⟩
    exact chunks_disjoint size nt i i' hi hi' hne x ⟨h1, h2⟩
  · rintro ⟨b, x⟩ ⟨⟨h1, _⟩, ⟨h2, _⟩⟩; exact hSD (h2.symm.trans h1)
  · rintro ⟨b, x⟩ ⟨⟨h1, _⟩, ⟨h2, _⟩⟩; exact hSD (h2.symm.trans h1)

-- the hypotheses are satisfiable: two batches of a pass on 8 rows, B = 4, nB = 2, identity copy
example : FootIndep (batchR 0 (· = 9) 4 0) (batchW 0 1 id 4 2 0) (batchR 0 (· = 9) 4 1) (batchW 0 1 id 4 2 1) :=
  C12_ntt_batches 0 1 (· = 9) id 4 2 (by decide) (by decide) (fun _ _ _ _ h => h) 0 1 (by decide) (by decide) (by decide)

/-! ## Layer 2: the loop bodies of the hand model (Model/Ntt.lean) have these footprints

  Every iteration reads only what it writes itself or what no iteration writes (`Par.FootIndep.of_writes`), so what layers 1 and
  2 share is the disjointness of the rows written: `batchRows_disjoint`, `copyRows_disjoint` (Lemmas/NttParBatch.lean),
  `swapRows_disjoint`, `Par.row_unique` (Lemmas/NttParRev.lean, NttPar.lean) are the content of `C12_ntt_batches`,
  `C12_inplace_reversal`, `C12_row_to_row` above and the side conditions of the order theorem on buffer states
  (`Par.any_order`, `Par.writers_any_order`, `Par.locals_any_order`, Lemmas/NttPar.lean): folded in ANY order the bodies give the
  model's result. -/

section Model
-- `inttIdx` stays the one above (`C12_inttIdx_inj` is stated about it); `Model.Ntt.inttIdx`, which `passSigma` uses, has the
-- same body (`C12_model_sigma_inj`)
open GoldilocksVerif.Model.Ntt hiding inttIdx

/-! ### butterfly batches: `passBatch` (ntt_goldilocks.cpp:81) -/

/-- (a) `passBatch … b` keeps the sizes and changes only the rows `[b·B, (b+1)·B)` of the first buffer (B = 2^sInc) and
    the rows `σ (x·nB + b)`, `x < B`, of the second (nB = size / B, σ = `passSigma`) -/
theorem C12_model_batch_frame (o : Obj) (size domainPow ncols s sInc : Nat) (lastInv extend : Bool) (b : Nat) (st : Buf × Buf) :
    (passBatch o size domainPow ncols s sInc lastInv extend b st).1.size = st.1.size ∧
    (passBatch o size domainPow ncols s sInc lastInv extend b st).2.size = st.2.size ∧
    (∀ j, ¬ rowsW ncols (batchRows (2 ^ sInc) b) j →
      (passBatch o size domainPow ncols s sInc lastInv extend b st).1.getD j 0#64 = st.1.getD j 0#64) ∧
    (∀ j, ¬ rowsW ncols (copyRows (passSigma size lastInv) (2 ^ sInc) (size / 2 ^ sInc) b) j →
      (passBatch o size domainPow ncols s sInc lastInv extend b st).2.getD j 0#64 = st.2.getD j 0#64) := by
  have hF := Model.Ntt.batchF_local o domainPow ncols s sInc b
  have hG := Model.Ntt.batchG_writer o size domainPow ncols sInc lastInv extend b
  rw [Model.Ntt.passBatch_split]
  exact ⟨hF.size _, hG.size _ _, fun j hj => hF.frame _ j hj, fun j hj => hG.frame _ _ j hj⟩

/-- (b) what `passBatch … b` leaves in the rows it writes depends only on the rows `[b·B, (b+1)·B)` of the first buffer
    (and on the sizes; the tables are in the object `o`, which is not part of the state) -/
theorem C12_model_batch_dep (o : Obj) (size domainPow ncols s sInc : Nat) (lastInv extend : Bool) (b : Nat) (st st' : Buf × Buf)
    (hs1 : st.1.size = st'.1.size) (hs2 : st.2.size = st'.2.size)
    (h : ∀ j, rowsW ncols (batchRows (2 ^ sInc) b) j → st.1.getD j 0#64 = st'.1.getD j 0#64) :
    (∀ j, rowsW ncols (batchRows (2 ^ sInc) b) j →
      (passBatch o size domainPow ncols s sInc lastInv extend b st).1.getD j 0#64
        = (passBatch o size domainPow ncols s sInc lastInv extend b st').1.getD j 0#64) ∧
    (∀ j, rowsW ncols (copyRows (passSigma size lastInv) (2 ^ sInc) (size / 2 ^ sInc) b) j →
      (passBatch o size domainPow ncols s sInc lastInv extend b st).2.getD j 0#64
        = (passBatch o size domainPow ncols s sInc lastInv extend b st').2.getD j 0#64) := by
  have hF := Model.Ntt.batchF_local o domainPow ncols s sInc b
  have hG := Model.Ntt.batchG_writer o size domainPow ncols sInc lastInv extend b
  rw [Model.Ntt.passBatch_split, Model.Ntt.passBatch_split]
  have hd := hF.dep _ _ hs1 h
  exact ⟨hd, hG.dep _ _ _ _ (.of_eq hs2) hd⟩

/-- the iteration `batchIter … b` (Lemmas/NttParBatch.lean) runs `passBatch … b`, and its footprints are the words of the rows
    `batchR` / `batchW` of `C12_ntt_batches` name (buffer 0 = `a`, buffer 1 = `a2`, no table in the state) -/
theorem C12_model_batch_footprint (o : Obj) (size domainPow ncols s sInc : Nat) (lastInv extend : Bool) (b : Nat) :
    (∀ st, (batchIter o size domainPow ncols s sInc lastInv extend b).run st
        = passBatch o size domainPow ncols s sInc lastInv extend b st) ∧
    (∀ l, (batchIter o size domainPow ncols s sInc lastInv extend b).R l
        ↔ l.1 = 0 ∧ rowsW ncols (batchRows (2 ^ sInc) b) l.2) ∧
    (∀ l, (batchIter o size domainPow ncols s sInc lastInv extend b).W l
        ↔ (l.1 = 0 ∧ rowsW ncols (batchRows (2 ^ sInc) b) l.2)
          ∨ (l.1 = 1 ∧ rowsW ncols (copyRows (passSigma size lastInv) (2 ^ sInc) (size / 2 ^ sInc) b) l.2)) :=
  ⟨Model.Ntt.batchIter_run o size domainPow ncols s sInc lastInv extend b, fun _ => Iff.rfl, fun _ => Iff.rfl⟩

theorem C12_model_sigma_inj (size : Nat) (lastInv : Bool) (i j : Nat) (hi : i < size) (hj : j < size)
    (h : passSigma size lastInv i = passSigma size lastInv j) : i = j :=
  Model.Ntt.passSigma_inj size lastInv i j hi hj h

/-- two different batches of a pass are independent iterations of the model -/
theorem C12_model_batches_indep (o : Obj) (size domainPow ncols s sInc : Nat) (lastInv extend : Bool) (b b' : Nat)
    (hb : b < size / 2 ^ sInc) (hb' : b' < size / 2 ^ sInc) (hne : b ≠ b') :
    FootIndep (batchIter o size domainPow ncols s sInc lastInv extend b).R
      (batchIter o size domainPow ncols s sInc lastInv extend b).W
      (batchIter o size domainPow ncols s sInc lastInv extend b').R
      (batchIter o size domainPow ncols s sInc lastInv extend b').W :=
  Model.Ntt.batchIter_indep o size domainPow ncols s sInc lastInv extend b b' hb hb' hne

/-- the batch loop of a pass, from every buffer state: the batches in any order give the two buffers of the model's
    sequential loop (`size / 2^sInc` batches, as in the model).  No side condition. -/
theorem C12_model_batches_any_order (o : Obj) (size domainPow ncols s sInc : Nat) (lastInv extend : Bool) (st0 : Buf × Buf)
    (bs' : List Nat) (hp : bs'.Perm (List.range (size / 2 ^ sInc))) :
    bs'.foldl (fun st b => passBatch o size domainPow ncols s sInc lastInv extend b st) st0
      = (List.range (size / 2 ^ sInc)).foldl (fun st b => passBatch o size domainPow ncols s sInc lastInv extend b st) st0 := by
  have e : (fun (st : Buf × Buf) b => passBatch o size domainPow ncols s sInc lastInv extend b st)
      = (fun st b => (batchIter o size domainPow ncols s sInc lastInv extend b).run st) := by
    funext st b; exact (Model.Ntt.batchIter_run o size domainPow ncols s sInc lastInv extend b st).symm
  rw [e]
  refine (any_order (batchIter o size domainPow ncols s sInc lastInv extend) _ _ hp.symm ?_ st0).symm
  intro b hb b' hb' hne
  exact C12_model_batches_indep o size domainPow ncols s sInc lastInv extend b b' (List.mem_range.1 hb) (List.mem_range.1 hb') hne

/-- a whole pass of `NTT_iters` (the model's `pass`: batch loop + pointer swap) with its batches in any order -/
theorem C12_model_pass_any_order (o : Obj) (size domainPow ncols : Nat) (inverse extend : Bool) (st : Buf × Buf × Bool)
    (p : Nat × Nat) (bs' : List Nat) (hp : bs'.Perm (List.range (size / 2 ^ p.2))) :
    pass o size domainPow ncols inverse extend st p =
      ((bs'.foldl (fun st b => passBatch o size domainPow ncols p.1 p.2 (!(p.1 + p.2 ≤ domainPow) && inverse) extend b st)
          (st.1, st.2.1)).2,
       (bs'.foldl (fun st b => passBatch o size domainPow ncols p.1 p.2 (!(p.1 + p.2 ≤ domainPow) && inverse) extend b st)
          (st.1, st.2.1)).1, !st.2.2) := by
  rw [C12_model_batches_any_order o size domainPow ncols p.1 p.2 _ extend (st.1, st.2.1) bs' hp]
  unfold pass
  simp only
  rw [iter_eq_foldl]

/-! ### block scatter: `scatterBlock` (ntt_goldilocks.cpp:219) -/

/-- the rows of the scatter loop in any order.  `oc + aux ≤ ncols`: the column block lies inside a row of `dst`
    (without it two iterations could write the same word). -/
theorem C12_model_scatter_any_order (dst d : Buf) (size ncols oc aux : Nat) (hoc : oc + aux ≤ ncols)
    (is' : List Nat) (hp : is'.Perm (List.range size)) :
    is'.foldl (fun dst ie => copyRow dst (ie * ncols + oc) d (ie * aux) aux) dst = scatterBlock dst d size ncols oc aux := by
  rw [Model.Ntt.scatterBlock_eq, iter_eq_foldl]
  exact scatterBody_any_order d size ncols oc aux hoc is' hp dst

/-! ### bit reversal, destination distinct from the source (ntt_goldilocks.cpp:254, 267) -/

/-- both out-of-place loops (plain, and zero-extending when `extension > 1`), `revOutBody` their body
    (Lemmas/NttParRev.lean): the rows in any order -/
theorem C12_model_reversal_out_any_order (o : Obj) (dst src : Buf) (size oc nc nca : Nat)
    (is' : List Nat) (hp : is'.Perm (List.range size)) :
    reversePermutation o dst src false size oc nc nca
      = .ok (is'.foldl (fun d i => revOutBody o size oc nc nca i src d) dst) := by
  rw [Model.Ntt.reversePermutation_out_eq, iter_eq_foldl, revOutBody_any_order o src size oc nc nca is' hp dst]

/-! ### bit reversal in place (ntt_goldilocks.cpp:289, 311) -/

/-- iteration `i` of the in-place loops keeps the size, changes only the rows `swapRows (BR i) i` (rows `i` and `BR i` when
    `BR i < i`, row `i` when `BR i = i`, none otherwise) and its result there depends only on these rows -/
theorem C12_model_inplace_body (o : Obj) (size nc i : Nat) :
    Local (revInBody o size nc i) (rowsW nc (swapRows (br i (log2 size)) i)) :=
  Model.Ntt.revInBody_local o size nc i

/-- both in-place loops (swap when `BR i < i`; the zero-extending variant when `extension > 1`), `revInBody` their body
    (Lemmas/NttParRev.lean), on `2^d` rows, `d ≤ 32` (`C12_BR_is_bitrev`): the rows in any order.  With `offset_cols ≠ 0`
    or `ncols ≠ ncols_all` the model aborts before the loop. -/
theorem C12_model_reversal_inplace_any_order (o : Obj) (dst src : Buf) (d nc : Nat) (hd : d ≤ 32)
    (is' : List Nat) (hp : is'.Perm (List.range (2 ^ d))) :
    reversePermutation o dst src true (2 ^ d) 0 nc nc = .ok (is'.foldl (fun a i => revInBody o (2 ^ d) nc i a) src) := by
  rw [Model.Ntt.reversePermutation_in_eq, iter_eq_foldl, revInBody_any_order o d nc hd is' hp src]

/-- a whole `NTT_iters` call with the row loop of the bit reversal in the order `ordR` and the batch loop of every pass
    `p = (s, sInc)` in the order `ordB p` (`nttItersIn`, Lemmas/NttParIters.lean): the result, buffers or abort, is that of
    the model's `nttIters`.  Sizes that are not a power of two abort before any loop. -/
theorem C12_model_nttIters_any_order (o : Obj) (dstB srcB auxB : Buf) (dstIsSrc : Bool) (size oc nc nca nphase : Nat)
    (inverse extend : Bool) (hd : log2 size ≤ 32)
    (ordR : List Nat) (hR : ordR.Perm (List.range size))
    (ordB : Nat × Nat → List Nat) (hB : ∀ p, (ordB p).Perm (List.range (size / 2 ^ p.2))) :
    nttItersIn ordR ordB o dstB srcB auxB dstIsSrc size oc nc nca nphase inverse extend
      = nttIters o dstB srcB auxB dstIsSrc size oc nc nca nphase inverse extend := by
  rw [nttIters_eq_with]
  unfold nttItersIn
  apply nttItersWith_congr
  · intro hsz dst src ip
    cases ip with
    | false =>
      unfold reversePermutationIn
      simp only [Bool.not_false, if_true]
      exact (C12_model_reversal_out_any_order o dst src size oc nc nca ordR hR).symm
    | true =>
      unfold reversePermutationIn
      simp only [Bool.not_true, Bool.false_eq_true, if_false]
      by_cases hc : oc = 0 ∧ nc = nca
      · obtain ⟨rfl, rfl⟩ := hc
        obtain ⟨d, rfl, hd'⟩ : ∃ d, size = 2 ^ d ∧ d ≤ 32 := ⟨log2 size, hsz.symm, hd⟩
        have hc' : (!decide (0 = 0 ∧ nc = nc)) = false := by simp
        rw [if_neg (by rw [hc']; simp)]
        exact (C12_model_reversal_inplace_any_order o dst src d nc hd' ordR hR).symm
      · have hc' : (!decide (oc = 0 ∧ nc = nca)) = true := by rw [decide_eq_false hc]; rfl
        rw [if_pos hc', Model.Ntt.reversePermutation_in_assert o dst src size oc nc nca hc]
  · intro st p
    unfold passIn
    exact (C12_model_pass_any_order o size (log2 size) nc inverse extend st p (ordB p) (hB p)).symm

/-! ### whole `NTT` / `INTT` / `extendPol` calls

  `nttIn ord`, `inttIn ord`, `extendPolIn ordI ordN` (Lemmas/NttParIters.lean) are the texts of the model's `ntt`, `intt`,
  `extendPol` with EVERY parallel loop (bit reversal rows, batches of every pass, scatter rows, of every column block)
  folded over the lists of `ord : Orders size`. -/

/-- the column-block loop: same state after `m` blocks.  `hs`: as `nttBlocks` starts it; then the column offset after `m` blocks is
    `blkOff … m` (`nttBlock_loop_ok`, Lemmas/NttEasy.lean), so that every scatter stays inside a row -/
theorem C12_model_blockLoop_any_order {size : Nat} (ord : Orders size) (o : Obj) (aux : Buf) (dstIsSrc : Bool) (dst0 srcB : Buf)
    (ncols nphase nblock ncols_alloc : Nat) (inverse extend : Bool) (hd : log2 size ≤ 32) (h1 : 1 ≤ nblock)
    (hs : dstIsSrc = true → dst0 = srcB) :
    ∀ m, m ≤ nblock →
      iter m (.ok (dst0, srcB, 0)) (fun ib st => nttBlockIn (ord.rev ib) (ord.batch ib) (ord.scat ib) o aux dstIsSrc size ncols
          nphase (ncols / nblock) (ncols % nblock) ncols_alloc inverse extend ib st)
        = iter m (.ok (dst0, srcB, 0)) (nttBlock o aux dstIsSrc size ncols nphase (ncols / nblock) (ncols % nblock) ncols_alloc
            inverse extend) := by
  intro m
  induction m with
  | zero => intro _; rfl
  | succ m ih =>
    intro hm
    rw [iter_succ, iter_succ, ih (by omega)]
    cases hS : iter m (.ok (dst0, srcB, 0)) (nttBlock o aux dstIsSrc size ncols nphase (ncols / nblock) (ncols % nblock)
      ncols_alloc inverse extend) with
    | error e => rfl
    | ok r =>
      obtain ⟨hr, _⟩ := nttBlock_loop_ok o aux dstIsSrc size ncols nphase _ _ ncols_alloc inverse extend dst0 srcB hs m r hS
      obtain ⟨dst, src, oc⟩ := r
      have hoc : oc = blkOff (ncols / nblock) (ncols % nblock) m := (Prod.mk.inj (Prod.mk.inj hr).2).2
      have hfit : oc + (ncols / nblock + (if m < ncols % nblock then 1 else 0)) ≤ ncols := by
        have := blkOff_mono (ncols / nblock) (ncols % nblock) (m + 1) nblock hm
        rw [blkOff_succ, blkOff_total ncols nblock (by omega), ← hoc] at this
        exact this
      unfold nttBlockIn nttBlock
      simp only
      rw [C12_model_nttIters_any_order o _ src aux false size oc _ ncols nphase inverse extend hd _ (ord.rev_perm m) _
        (ord.batch_perm m)]
      cases nttIters o (Array.replicate (size * ncols_alloc) 0#64) src aux false size oc
          (ncols / nblock + (if m < ncols % nblock then 1 else 0)) ncols nphase inverse extend with
      | error e => rfl
      | ok r =>
        obtain ⟨d, x⟩ := r
        simp only
        rw [C12_model_scatter_any_order dst d size ncols oc _ hfit _ (ord.scat_perm m)]

theorem C12_model_ntt_any_order {size : Nat} (ord : Orders size) (o : Obj) (mode : DstMode) (dstB srcB : Buf)
    (ncols nphase nblock : Nat) (inverse extend : Bool) (hd : log2 size ≤ 32) :
    nttIn ord o mode dstB srcB ncols nphase nblock inverse extend
      = ntt o mode dstB srcB size ncols nphase nblock inverse extend := by
  unfold nttIn ntt
  by_cases h0 : ncols = 0 ∨ size = 0
  · rw [if_pos h0, if_pos h0]
  · rw [if_neg h0, if_neg h0]
    obtain ⟨b1, b2⟩ := clampBlock_range nblock ncols (by omega)
    generalize clampBlock nblock ncols = nb at b1 b2
    unfold nttBlocksIn nttBlocks
    simp only
    by_cases hnb : nb ≤ 1
    · rw [if_pos hnb, if_pos hnb]
      exact C12_model_nttIters_any_order o dstB srcB _ _ size 0 ncols ncols nphase inverse extend hd _ (ord.rev_perm 0) _
        (ord.batch_perm 0)
    · rw [if_neg hnb, if_neg hnb]
      rw [C12_model_blockLoop_any_order ord o _ _ _ srcB ncols nphase nb _ inverse extend hd b1 (fun h => if_pos h) nb (Nat.le_refl _)]
      rfl

theorem C12_model_intt_any_order {size : Nat} (ord : Orders size) (o : Obj) (mode : DstMode) (dstB srcB : Buf)
    (ncols nphase nblock : Nat) (extend : Bool) (hd : log2 size ≤ 32) :
    inttIn ord o mode dstB srcB ncols nphase nblock extend = intt o mode dstB srcB size ncols nphase nblock extend := by
  unfold inttIn intt
  rw [C12_model_ntt_any_order ord o _ dstB srcB ncols nphase nblock true extend hd]

theorem C12_model_extendPol_any_order {n nExt : Nat} (ordI : Orders n) (ordN : Orders nExt) (o : Obj) (same : Bool)
    (outB inB : Buf) (ncols nphase nblock : Nat) (hn : log2 n ≤ 32) (hne : log2 nExt ≤ 32) :
    extendPolIn ordI ordN o same outB inB ncols nphase nblock = extendPol o same outB inB nExt n ncols nphase nblock := by
  unfold extendPolIn extendPol
  cases mkObj nExt (nExt / n) with
  | none => rfl
  | some oext =>
    simp only
    rw [C12_model_intt_any_order ordI _ _ outB inB ncols nphase nblock true hn]
    cases intt (refreshCache o n) (if same = true then DstMode.same else DstMode.other) outB inB n ncols nphase nblock true with
    | error e => rfl
    | ok r =>
      obtain ⟨out1, x⟩ := r
      simp only
      rw [C12_model_ntt_any_order ordN oext .same #[] out1 ncols nphase nblock false false hne]
      rfl

end Model

/-! ### Merkle builders (Model/Sponge.lean)

  The model is purely functional (`rows.flatMap leaf`, `nextLevel`, `upperLevels`): no indexed writes whose order could
  be permuted.  So: (i) a statement about the model itself; (ii) statements about an imperative rendering of the C loops
  on one tree buffer (`leafStep`, `nodeStep`, `merkleTreeIn` of Lemmas/MerklePar.lean, written by hand from the loops,
  NOT executed against the C++). -/

section Merkle
open GoldilocksVerif.Model

/-- (i) the model: word `j` of the leaf level depends on row `j / 4` only; word `j` of a level on the children words
    `[8·(j/4), 8·(j/4) + 8)` of the previous level only -/
theorem C12_model_merkle_dependency (leaf node : List Wd → List Wd) (hl : ∀ x, (leaf x).length = 4)
    (hn : ∀ x, (node x).length = 4) :
    (∀ (rows : List (List Wd)) (j : Nat), j < 4 * rows.length →
      (rows.flatMap leaf).getD j 0#64 = (leaf (rows.getD (j / 4) [])).getD (j % 4) 0#64) ∧
    (∀ (k : Nat) (lvl : List Wd) (j : Nat), j < 4 * k →
      (nextLevel node k lvl).getD j 0#64 = (node ((lvl.drop (8 * (j / 4))).take 8)).getD (j % 4) 0#64) := by
  refine ⟨fun rows j hj => ?_, fun k lvl j hj => ?_⟩
  · rw [leaves_getD leaf hl, if_pos hj]
  · rw [nextLevel_getD node hn, if_pos hj]

/-- (ii) leaf loop on the tree buffer `t` (`leafStep … i` = `linear_hash(&tree[4i], row i)`), rows in any order: the
    leaf digests of the model, the rest of the buffer untouched -/
theorem C12_model_merkle_leaves_any_order (leaf : List Wd → List Wd) (hl : ∀ x, (leaf x).length = 4)
    (rows : List (List Wd)) (t : List Wd) (ht : 4 * rows.length ≤ t.length)
    (is' : List Nat) (hp : is'.Perm (List.range rows.length)) :
    is'.foldl (fun t i => leafStep leaf rows i t) t = rows.flatMap leaf ++ t.drop (4 * rows.length) := by
  rw [leafStep_any_order leaf hl rows is' hp t, leafLoop_seq_eq leaf hl rows t ht]

/-- (ii) level loop on the tree buffer `t` (`nodeStep … i` = `hash(&tree[off + 4p + 4i], &tree[off + 8i])`: the level of
    `p` nodes starts at `off`, the next one right behind it), `n ≤ p/2` nodes in any order: the model's `nextLevel` -/
theorem C12_model_merkle_level_any_order (node : List Wd → List Wd) (hn : ∀ x, (node x).length = 4)
    (t : List Wd) (off p n : Nat) (hnp : 2 * n ≤ p) (hfit : off + 4 * p + 4 * n ≤ t.length)
    (is' : List Nat) (hp : is'.Perm (List.range n)) :
    is'.foldl (fun t i => nodeStep node off p i t) t
      = t.take (off + 4 * p) ++ nextLevel node n (t.drop off) ++ t.drop (off + 4 * p + 4 * n) := by
  rw [nodeStep_any_order node hn off p n hnp is' hp t, levelLoop_seq_eq node hn t off p n hnp hfit]

/-- (ii) the whole builder on a tree buffer `t0` of the right length: leaf loop in the order `ordLeaf`, the level loop of
    `n` iterations in the order `ords n` — whatever these orders, the buffer ends up as the model's `merkleTree` -/
theorem C12_model_merkle_tree_any_order (leaf node : List Wd → List Wd) (hl : ∀ x, (leaf x).length = 4)
    (hn : ∀ x, (node x).length = 4) (rows : List (List Wd)) (ordLeaf : List Nat) (ords : Nat → List Nat)
    (hpl : ordLeaf.Perm (List.range rows.length)) (hpo : ∀ n, (ords n).Perm (List.range n))
    (t0 : List Wd) (ht0 : t0.length = (merkleTree leaf node rows).length) :
    merkleTreeIn leaf node rows ordLeaf ords t0 = merkleTree leaf node rows := by
  apply merkleTreeIn_eq leaf node hl hn rows ordLeaf ords t0
  · exact leafStep_any_order leaf hl rows ordLeaf hpl t0
  · exact fun off p n t hnp => nodeStep_any_order node hn off p n hnp (ords n) (hpo n) t
  · exact ht0

end Merkle

-- the any-order theorem is not vacuous: an explicit non-sequential order of the 4 batches of a pass on 16 rows, B = 4
example (o : Model.Ntt.Obj) (st : Model.Ntt.Buf × Model.Ntt.Buf) :
    [3, 1, 0, 2].foldl (fun st b => Model.Ntt.passBatch o 16 4 3 1 2 false false b st) st
      = (List.range (16 / 2 ^ 2)).foldl (fun st b => Model.Ntt.passBatch o 16 4 3 1 2 false false b st) st :=
  C12_model_batches_any_order o 16 4 3 1 2 false false st [3, 1, 0, 2] (by decide)

/-! ## Layer 3: the GENERATED loop bodies (Gen/NttGen.lean, Gen/ParZeroGen.lean, Gen/MerkleGen.lean)

  `inOrder body l s = Loop.rangeM 0 n 1 s body` for every permutation `l` of the iteration indices; both sides `none` is
  excluded by the second conjunct (for the batches: by `C12_generated_batches_value`): under the hypotheses the loops
  return. -/

section Generated
open GoldilocksVerif.ParGen GoldilocksVerif.BridgeNtt Gen.NttGen

/-! ### NTT_iters: the butterfly-batch loop (the loop over `b`, body `NTT_NTT_iters_loop9`) -/

/-- the common result of every order of the generated batches: the heap with the two blocks replaced by the model's `passBatch`
    folded over the batches (in particular the generated batch loop returns, in every order).  Parameters as in
    `C12_generated_batches_any_order`. -/
theorem C12_generated_batches_value (hp : Heap) (A A2 : Nat) (hne : A ≠ A2) (hA : A < hp.size) (hA2 : A2 < hp.size)
    (self : NTT_Goldilocks) (o : Model.Ntt.Obj) (hrep : ObjRep hp self o) (hfr : ObjFrame self A) (hfr2 : ObjFrame self A2)
    (N NC K MBP S sInc : Nat) (inverse extend : Bool)
    (hK : K ≤ 30) (hN : N = 2 ^ K) (hS1 : 1 ≤ S) (hSleK : S ≤ K) (hSK : S + sInc ≤ K + 1) (hKs : K ≤ o.s) (hos : o.s ≤ 32)
    (hNNC : N * NC < 2 ^ 64) (hNC8 : NC * 8 < 2 ^ 64) (hMBP : MBP < 2 ^ 63) (hcache : extend = true → o.rcache ≠ none)
    (bs' : List Nat) (hp' : bs'.Perm (List.range (N / 2 ^ sInc))) :
    inOrder (NTT_NTT_iters_loop9 (bv N) (bv NC) inverse extend self ⟨A, 0⟩ ⟨A2, 0⟩ (bv K) (bv MBP) (bv S) (bv sInc)
        (bv (S - 1)) (bv (K - 1)) (bv (2 ^ (S - 1))) (bv (2 ^ (K - S) - 1)) (bv (2 ^ sInc)) (bv (N / 2 ^ sInc))) bs' hp
      = some (Heap.R2 hp A A2 ((List.range (N / 2 ^ sInc)).foldl
          (fun st b => Model.Ntt.passBatch o N K NC S sInc (!(decide (S + MBP ≤ K) || !inverse)) extend b st)
          (hp.block A, hp.block A2))) := by
  have key := inOrder_rep (Heap.R2 hp A A2)
    (Model.Ntt.passBatch o N K NC S sInc (!(decide (S + MBP ≤ K) || !inverse)) extend) _ bs'
    (fun b hb s => passBatch_gen hp A A2 hne hA hA2 self o hrep hfr hfr2 N NC K MBP S sInc (N / 2 ^ sInc) b inverse extend
      hK hN hS1 hSleK hSK hKs hos rfl (List.mem_range.1 ((hp'.mem_iff).1 hb)) hNNC hNC8 hMBP hcache s)
    (hp.block A, hp.block A2)
  rw [Heap.R2_self, C12_model_batches_any_order o N K NC S sInc _ extend _ bs' hp'] at key
  exact key

/-- the generated batch loop, batches in any order.  The parameters of the body are those the generated pass loop
    (`NTT_NTT_iters_loop10`, see `BridgeNtt.pass_step`) passes for the pass starting at stage `S` of width `sInc` on
    `N = 2^K ≤ 2^30` rows of `NC` columns; `a`, `a2` are two distinct blocks that are not the object's tables; `hp` is ANY
    heap representing the object.  Per-iteration bridge `passBatch_gen` + `C12_model_batches_any_order`. -/
theorem C12_generated_batches_any_order (hp : Heap) (A A2 : Nat) (hne : A ≠ A2) (hA : A < hp.size) (hA2 : A2 < hp.size)
    (self : NTT_Goldilocks) (o : Model.Ntt.Obj) (hrep : ObjRep hp self o) (hfr : ObjFrame self A) (hfr2 : ObjFrame self A2)
    (N NC K MBP S sInc : Nat) (inverse extend : Bool)
    (hK : K ≤ 30) (hN : N = 2 ^ K) (hS1 : 1 ≤ S) (hSleK : S ≤ K) (hSK : S + sInc ≤ K + 1) (hKs : K ≤ o.s) (hos : o.s ≤ 32)
    (hNNC : N * NC < 2 ^ 64) (hNC8 : NC * 8 < 2 ^ 64) (hMBP : MBP < 2 ^ 63) (hcache : extend = true → o.rcache ≠ none)
    (bs' : List Nat) (hp' : bs'.Perm (List.range (N / 2 ^ sInc))) :
    inOrder (NTT_NTT_iters_loop9 (bv N) (bv NC) inverse extend self ⟨A, 0⟩ ⟨A2, 0⟩ (bv K) (bv MBP) (bv S) (bv sInc)
        (bv (S - 1)) (bv (K - 1)) (bv (2 ^ (S - 1))) (bv (2 ^ (K - S) - 1)) (bv (2 ^ sInc)) (bv (N / 2 ^ sInc))) bs' hp
      = Loop.rangeM 0 (bv (N / 2 ^ sInc)).toNat 1 hp
          (NTT_NTT_iters_loop9 (bv N) (bv NC) inverse extend self ⟨A, 0⟩ ⟨A2, 0⟩ (bv K) (bv MBP) (bv S) (bv sInc)
            (bv (S - 1)) (bv (K - 1)) (bv (2 ^ (S - 1))) (bv (2 ^ (K - S) - 1)) (bv (2 ^ sInc)) (bv (N / 2 ^ sInc))) := by
  have hN30 : N ≤ 2 ^ 30 := by rw [hN]; exact Nat.pow_le_pow_right (by omega) hK
  have hnb : (bv (N / 2 ^ sInc)).toNat = N / 2 ^ sInc :=
    bv_toNat _ (Nat.lt_of_le_of_lt (Nat.div_le_self _ _) (by omega))
  have v := C12_generated_batches_value hp A A2 hne hA hA2 self o hrep hfr hfr2 N NC K MBP S sInc inverse extend hK hN hS1 hSleK
    hSK hKs hos hNNC hNC8 hMBP hcache
  rw [hnb, rangeM_eq_inOrder, v bs' hp', v _ (List.Perm.refl _)]

/-- one iteration of the generated pass loop `for (s = 1; s <= domainPow; …)` (`NTT_NTT_iters_loop10`: schedule
    arithmetic, batch loop, pointer swap), from ANY heap representing the object: it continues with the heap `hq` that the
    lifted batch body `NTT_NTT_iters_loop9`, with the arguments the pass computes, run over ANY permutation of the batch
    indices returns.  (`pass_step` + `C12_generated_batches_value`.) -/
theorem C12_generated_pass_any_order (hp : Heap) (A A2 : Nat) (hne : A ≠ A2) (hA : A < hp.size) (hA2 : A2 < hp.size)
    (self : NTT_Goldilocks) (o : Model.Ntt.Obj) (hrep : ObjRep hp self o) (hfr : ObjFrame self A) (hfr2 : ObjFrame self A2)
    (N NC K res : Nat) (inverse extend : Bool) (hK : K ≤ 30) (hN : N = 2 ^ K) (hKs : K ≤ o.s) (hos : o.s ≤ 32)
    (hNNC : N * NC < 2 ^ 64) (hNC8 : NC * 8 < 2 ^ 64) (hcache : extend = true → o.rcache ≠ none)
    (mbp s count : Nat) (hs1 : 1 ≤ s) (hsK : s ≤ K) (hm1 : 1 ≤ mbp) (hm : mbp ≤ 64) (hres : res ≤ 64) (hcount : count ≤ 128)
    (tmp : Ptr) (bs' : List Nat)
    (hp' : bs'.Perm (List.range (N / 2 ^ stepInc K s (stepMbp res count mbp)))) :
    ∃ hq, NTT_NTT_iters_loop10 (bv N) (bv NC) inverse extend self (bv K) (bv res)
        (bv mbp, hp, tmp, ⟨A2, 0⟩, ⟨A, 0⟩, bv s, bv count) =
      some (true, (bv (stepMbp res count mbp), hq, ⟨A2, 0⟩, ⟨A, 0⟩, ⟨A2, 0⟩, bv (s + stepMbp res count mbp), bv (count + 1))) ∧
    inOrder (NTT_NTT_iters_loop9 (bv N) (bv NC) inverse extend self ⟨A, 0⟩ ⟨A2, 0⟩ (bv K) (bv (stepMbp res count mbp)) (bv s)
        (bv (stepInc K s (stepMbp res count mbp))) (bv (s - 1)) (bv (K - 1)) (bv (2 ^ (s - 1))) (bv (2 ^ (K - s) - 1))
        (bv (2 ^ stepInc K s (stepMbp res count mbp))) (bv (N / 2 ^ stepInc K s (stepMbp res count mbp)))) bs' hp = some hq := by
  have hmb : 1 ≤ stepMbp res count mbp ∧ stepMbp res count mbp ≤ 64 := by
    unfold stepMbp
    by_cases h : res > 0 ∧ count = res + 1 ∧ mbp > 1
    · rw [if_pos h]; omega
    · rw [if_neg h]; omega
  have hstep := pass_step hp self o hrep N NC K res inverse extend hK hN hKs hos hNNC hNC8 hcache A A2 hne hA hA2 hfr hfr2
    mbp s count hs1 hsK hm1 hm hres hcount tmp (hp.block A, hp.block A2)
  rw [Heap.R2_self] at hstep
  generalize stepMbp res count mbp = mbp' at hstep hp' hmb ⊢
  have hsi : s + stepInc K s mbp' ≤ K + 1 := by
    unfold stepInc
    by_cases h : s + mbp' ≤ K
    · rw [if_pos h]; omega
    · rw [if_neg h]; omega
  have hval := C12_generated_batches_value hp A A2 hne hA hA2 self o hrep hfr hfr2 N NC K mbp' s (stepInc K s mbp') inverse
    extend hK hN hs1 hsK hsi hKs hos hNNC hNC8 (by omega) hcache bs' hp'
  refine ⟨_, hstep, ?_⟩
  rw [hval, iter_eq_foldl]

/-! ### NTT: the block scatter loop (body `NTT_NTT_loop1`) -/

/-- the rows of the generated scatter loop in any order.  `dst` = block `D`, `dst_` = block `T ≠ D` (allocated by `NTT`
    itself when `nblock > 1`); `oc + aux ≤ ncols`: the column block lies inside a row (as in `C12_model_scatter_any_order`);
    the index products do not wrap.  Per-iteration bridge `ParGen.scatter_rep`. -/
theorem C12_generated_scatter_any_order (hp : Heap) (D T : Nat) (hD : D < hp.size) (hne : D ≠ T) (ncols oc aux : BitVec 64)
    (size : Nat) (hfit : oc.toNat + aux.toNat ≤ ncols.toNat) (hb1 : size * ncols.toNat < 2 ^ 64)
    (hb3 : aux.toNat * 8 < 2 ^ 64) (hsz : size < 2 ^ 64) (is' : List Nat) (hp' : is'.Perm (List.range size)) :
    inOrder (NTT_NTT_loop1 ⟨D, 0⟩ ncols oc ⟨T, 0⟩ aux) is' hp
      = Loop.rangeM 0 size 1 hp (NTT_NTT_loop1 ⟨D, 0⟩ ncols oc ⟨T, 0⟩ aux)
    ∧ ∃ hp', Loop.rangeM 0 size 1 hp (NTT_NTT_loop1 ⟨D, 0⟩ ncols oc ⟨T, 0⟩ aux) = some hp' :=
  block_any_order hp D hD (fun ie B => Model.Ntt.scatterBody ncols.toNat oc.toNat aux.toNat ie (hp.block T) B) _ size
    (fun ie hie X _ hfr => by rw [scatter_rep D T ncols oc aux size hfit hb1 hb3 hsz ie hie X, hfr T (fun e => hne e.symm)])
    (fun l hl t => Model.Ntt.scatterBody_any_order (hp.block T) size ncols.toNat oc.toNat aux.toNat hfit l hl t)
    is' hp'

/-! ### reversePermutation: the four loops (bodies `NTT_reversePermutation_loop1 … loop4`) -/

section rev
variable (hp : Heap) (d s : Nat) (oc nc nca : BitVec 64) (ds : BitVec 32) (k size : Nat)
variable (hk : k ≤ 32) (hds : ds.toNat = k) (hsz : size = 2 ^ k) (hd : d < hp.size)
variable (hb1 : size * nca.toNat + oc.toNat < 2 ^ 64) (hb2 : size * nc.toNat < 2 ^ 64) (hb3 : nc.toNat * 8 < 2 ^ 64)

include hk hds hsz hd hb1 hb2 hb3 in
/-- out of place (`dst ≠ src`: blocks `d ≠ s`), `extension ≤ 1` (ntt_goldilocks.cpp:254): rows in any order.
    `size = 2^k` rows, `k ≤ 32`, `ds` = `log2 size` as the function computes it; the index products do not wrap. -/
theorem C12_generated_reversal_out_any_order (hne : d ≠ s) (is' : List Nat) (hp' : is'.Perm (List.range size)) :
    inOrder (NTT_reversePermutation_loop1 ⟨d, 0⟩ ⟨s, 0⟩ oc nc nca ds) is' hp
      = Loop.rangeM 0 size 1 hp (NTT_reversePermutation_loop1 ⟨d, 0⟩ ⟨s, 0⟩ oc nc nca ds)
    ∧ ∃ hp', Loop.rangeM 0 size 1 hp (NTT_reversePermutation_loop1 ⟨d, 0⟩ ⟨s, 0⟩ oc nc nca ds) = some hp' :=
  block_any_order hp d hd (fun i D => Model.Ntt.revOutBody (extObj 1) size oc.toNat nc.toNat nca.toNat i (hp.block s) D) _ size
    (fun i hi X _ hfr => by
      rw [rp_body1 d s oc nc nca ds k size (extObj 1) hk hds hsz hb1 hb2 hb3 (Nat.le_refl 1) i hi X, hfr s (fun e => hne e.symm)])
    (fun l hl t => Model.Ntt.revOutBody_any_order (extObj 1) (hp.block s) size oc.toNat nc.toNat nca.toNat l hl t)
    is' hp'

include hk hds hsz hd hb1 hb2 hb3 in
/-- out of place, `extension = e > 1` (zero-extending, :267); `ext_` as the function computes it: `(size / e) · ncols_all` -/
theorem C12_generated_reversal_out_ext_any_order (hne : d ≠ s) (ext_ : BitVec 64) (e : Nat) (he : ¬ e ≤ 1)
    (hE : ext_.toNat = size / e * nca.toNat) (is' : List Nat) (hp' : is'.Perm (List.range size)) :
    inOrder (NTT_reversePermutation_loop2 ⟨d, 0⟩ ⟨s, 0⟩ oc nc nca ds ext_) is' hp
      = Loop.rangeM 0 size 1 hp (NTT_reversePermutation_loop2 ⟨d, 0⟩ ⟨s, 0⟩ oc nc nca ds ext_)
    ∧ ∃ hp', Loop.rangeM 0 size 1 hp (NTT_reversePermutation_loop2 ⟨d, 0⟩ ⟨s, 0⟩ oc nc nca ds ext_) = some hp' :=
  block_any_order hp d hd (fun i D => Model.Ntt.revOutBody (extObj e) size oc.toNat nc.toNat nca.toNat i (hp.block s) D) _ size
    (fun i hi X _ hfr => by
      rw [rp_body2 d s oc nc nca ds k size (extObj e) hk hds hsz hb1 hb2 hb3 ext_ he hE i hi X, hfr s (fun e => hne e.symm)])
    (fun l hl t => Model.Ntt.revOutBody_any_order (extObj e) (hp.block s) size oc.toNat nc.toNat nca.toNat l hl t)
    is' hp'

include hk hds hsz hd hb2 hb3 in
/-- in place (`dst == src`: one block `d`), `extension ≤ 1` (:289): every iteration allocates its temporary row block,
    swaps rows `i` and `BR(i)` when `BR(i) < i`, frees the block; iterations in any order -/
theorem C12_generated_reversal_inplace_any_order (is' : List Nat) (hp' : is'.Perm (List.range size)) :
    inOrder (NTT_reversePermutation_loop3 ⟨d, 0⟩ ⟨d, 0⟩ nc ds) is' hp
      = Loop.rangeM 0 size 1 hp (NTT_reversePermutation_loop3 ⟨d, 0⟩ ⟨d, 0⟩ nc ds)
    ∧ ∃ hp', Loop.rangeM 0 size 1 hp (NTT_reversePermutation_loop3 ⟨d, 0⟩ ⟨d, 0⟩ nc ds) = some hp' :=
  block_any_order hp d hd (fun i D => Model.Ntt.revInBody (extObj 1) size nc.toNat i D) _ size
    (fun i hi X hs _ => rp_body3 d nc ds k size (extObj 1) hk hds hsz hb2 hb3 (Nat.le_refl 1) i hi X (by omega))
    (fun l hl t => by subst hsz; exact Model.Ntt.revInBody_any_order (extObj 1) k nc.toNat hk l hl t)
    is' hp'

include hk hds hsz hd hb2 hb3 in
/-- in place, `extension = e > 1` (:311); `nIn` = `nrows_in` as the function computes it: `size / e` -/
theorem C12_generated_reversal_inplace_ext_any_order (nIn : BitVec 64) (e : Nat) (he : ¬ e ≤ 1) (hN : nIn.toNat = size / e)
    (is' : List Nat) (hp' : is'.Perm (List.range size)) :
    inOrder (NTT_reversePermutation_loop4 ⟨d, 0⟩ ⟨d, 0⟩ nc ds nIn) is' hp
      = Loop.rangeM 0 size 1 hp (NTT_reversePermutation_loop4 ⟨d, 0⟩ ⟨d, 0⟩ nc ds nIn)
    ∧ ∃ hp', Loop.rangeM 0 size 1 hp (NTT_reversePermutation_loop4 ⟨d, 0⟩ ⟨d, 0⟩ nc ds nIn) = some hp' :=
  block_any_order hp d hd (fun i D => Model.Ntt.revInBody (extObj e) size nc.toNat i D) _ size
    (fun i hi X hs _ => rp_body4 d nc ds k size (extObj e) hk hds hsz hb2 hb3 nIn he hN i hi X (by omega))
    (fun l hl t => by subst hsz; exact Model.Ntt.revInBody_any_order (extObj e) k nc.toNat hk l hl t)
    is' hp'

end rev

/-- the lifted loop body the translated `reversePermutation` runs, with the arguments it computes: which of the four loops is
    selected by `dst == src` and `extension ≤ 1`; `domainSize = log2 size = k`, `ext_ = (size / extension) · ncols_all`,
    `nrows_in = size / extension` -/
def revLoopBody (self : NTT_Goldilocks) (d s : Nat) (size oc nc nca : BitVec 64) (k : Nat) : Nat → Heap → Option Heap :=
  if d = s then
    (if self.extension ≤ 1 then NTT_reversePermutation_loop3 ⟨d, 0⟩ ⟨s, 0⟩ nc (BitVec.ofNat 32 k)
     else NTT_reversePermutation_loop4 ⟨d, 0⟩ ⟨s, 0⟩ nc (BitVec.ofNat 32 k) (size / (I32.toU64 self.extension)))
  else
    (if self.extension ≤ 1 then NTT_reversePermutation_loop1 ⟨d, 0⟩ ⟨s, 0⟩ oc nc nca (BitVec.ofNat 32 k)
     else NTT_reversePermutation_loop2 ⟨d, 0⟩ ⟨s, 0⟩ oc nc nca (BitVec.ofNat 32 k) ((size / (I32.toU64 self.extension)) * nca))

/-- the translated FUNCTION `reversePermutation`: whenever its `assert` holds (in place: one column block), it returns, and
    what it returns is `revLoopBody` run over ANY permutation of the row indices.  size = 2^k, k ≤ 32, index products
    below 2^64, 0 ≤ extension < 2^31 (an `int`). -/
theorem C12_generated_reversePermutation_any_order (fuel : Nat) (hf : log2Fuel ≤ fuel) (hp : Heap) (self : NTT_Goldilocks)
    (e : Nat) (d s : Nat) (size oc nc nca : BitVec 64) (k : Nat) (hk : k ≤ 32) (hsize : size.toNat = 2 ^ k) (hd : d < hp.size)
    (hext : self.extension = (e : Int)) (hext31 : e < 2 ^ 31)
    (hb1 : size.toNat * nca.toNat + oc.toNat < 2 ^ 64) (hb2 : size.toNat * nc.toNat < 2 ^ 64) (hb3 : nc.toNat * 8 < 2 ^ 64)
    (hassert : d = s → oc = 0#64 ∧ nc = nca) (is' : List Nat) (hp' : is'.Perm (List.range size.toNat)) :
    NTT_reversePermutation fuel hp self ⟨d, 0⟩ ⟨s, 0⟩ size oc nc nca = inOrder (revLoopBody self d s size oc nc nca k) is' hp
    ∧ ∃ hq, NTT_reversePermutation fuel hp self ⟨d, 0⟩ ⟨s, 0⟩ size oc nc nca = some hq := by
  obtain ⟨hlog, hlogk, hds, hextu, hextd, hnin, hE⟩ := revPerm_args fuel hf self.extension e size nca k hk hsize hext hext31
    (by omega)
  unfold NTT_reversePermutation revLoopBody
  simp only [hlog, Option.bind_some, ptr_ne, bind_some_id, hextu]
  by_cases hds' : d = s
  · subst hds'
    obtain ⟨rfl, rfl⟩ := hassert rfl
    simp only [decide_true, Bool.not_true, Bool.false_eq_true, if_false, if_true, beq_self_eq_true, Bool.and_self]
    by_cases he : e ≤ 1
    · have he' : self.extension ≤ 1 := hextd.2 he
      simp only [he', decide_true, if_true]
      have key := C12_generated_reversal_inplace_any_order hp d nc (BitVec.ofNat 32 k) k size.toNat hk hds hsize hd hb2 hb3
        is' hp'
      exact ⟨key.1.symm, key.2⟩
    · have he' : ¬ self.extension ≤ 1 := fun h => he (hextd.1 h)
      simp only [he', decide_false, if_false, Bool.false_eq_true]
      have key := C12_generated_reversal_inplace_ext_any_order hp d nc (BitVec.ofNat 32 k) k size.toNat hk hds hsize hd hb2 hb3
        (size / BitVec.ofNat 64 e) e he hnin is' hp'
      exact ⟨key.1.symm, key.2⟩
  · simp only [hds', decide_false, Bool.not_false, if_true, if_false]
    by_cases he : e ≤ 1
    · have he' : self.extension ≤ 1 := hextd.2 he
      simp only [he', decide_true, if_true]
      have key := C12_generated_reversal_out_any_order hp d s oc nc nca (BitVec.ofNat 32 k) k size.toNat hk hds hsize hd hb1 hb2
        hb3 hds' is' hp'
      exact ⟨key.1.symm, key.2⟩
    · have he' : ¬ self.extension ≤ 1 := fun h => he (hextd.1 h)
      simp only [he', decide_false, if_false, Bool.false_eq_true]
      have key := C12_generated_reversal_out_ext_any_order hp d s oc nc nca (BitVec.ofNat 32 k) k size.toNat hk hds hsize hd hb1
        hb2 hb3 hds' _ e he hE is' hp'
      exact ⟨key.1.symm, key.2⟩

/-! ### parcpy: the chunk loop (goldilocks_base_field.cpp:72; body `parcpy_loop1`, a `Loop.whileM` on `(heap, i)`) -/

open GoldilocksVerif.ParCopy in
/-- the generated `parcpy`, chunks in any order.  `chunkBody … i` (Lemmas/ParGenCopy.lean) is the lifted body `parcpy_loop1`
    run for the chunk that starts at `i`; `order` permutes the hand model's chunk starts `ParCopy.starts`, which
    `ParGen.parcpy_seq` shows to be the starts the generated loop visits.  `dst`, `src` = distinct blocks; any `int` thread
    count (zero and negative included); fuel > number of chunks.  `ParGen.chunk_rep` + `ParCopy.chunks_disjoint` (the content of
    `C12_parcpy_chunks`). -/
theorem C12_generated_parcpy_any_order (fuel : Nat) (hp : Heap) (D S : Nat) (hD : D < hp.size) (hne : D ≠ S)
    (size : BitVec 64) (nt : Int) (hnt : nt < 2 ^ 31) (hs8 : size.toNat * 8 < 2 ^ 64)
    (hfuel : (starts size.toNat nt).length < fuel) (order : List Nat) (hperm : order.Perm (starts size.toNat nt)) :
    inOrder (chunkBody ⟨D, 0⟩ ⟨S, 0⟩ size (genChunk size nt)) order hp = parcpy fuel hp ⟨D, 0⟩ ⟨S, 0⟩ size nt
    ∧ ∃ hp', parcpy fuel hp ⟨D, 0⟩ ⟨S, 0⟩ size nt = some hp' := by
  have key := inOrder_rep (hp.setBlock D) (fun i B => cpyChunk size.toNat nt i (hp.block S) B)
    (chunkBody ⟨D, 0⟩ ⟨S, 0⟩ size (genChunk size nt)) order
    (fun i hi B => chunk_rep hp D S hD hne size nt hnt hs8 i ((hperm.mem_iff).1 hi) B) (hp.block D)
  rw [Heap.setBlock_block] at key
  have hord := chunkWriters_any_order size.toNat nt (cpyChunk size.toNat nt) _ (cpyChunk_writer size.toNat nt) order hperm (hp.block S) (hp.block D)
  rw [key, hord, parcpy_seq hp D S hD hne size nt hnt hs8 fuel hfuel]
  exact ⟨rfl, _, rfl⟩

/-! ### parSetZero: the chunk loop (goldilocks_base_field.cpp:93; body `parSetZero_loop1` of Gen/ParZeroGen.lean) -/

open GoldilocksVerif.ParCopy in
/-- the generated `parSetZero`, chunks in any order: as `C12_generated_parcpy_any_order`, with `zChunkBody`
    (Lemmas/ParGenZero.lean), `ParGen.parSetZero_seq`, `ParGen.zchunk_rep`; nothing is read. -/
theorem C12_generated_parSetZero_any_order (fuel : Nat) (hp : Heap) (D : Nat) (hD : D < hp.size)
    (size : BitVec 64) (nt : Int) (hnt : nt < 2 ^ 31) (hs8 : size.toNat * 8 < 2 ^ 64)
    (hfuel : (starts size.toNat nt).length < fuel) (order : List Nat) (hperm : order.Perm (starts size.toNat nt)) :
    inOrder (zChunkBody ⟨D, 0⟩ size (genChunk size nt)) order hp = Gen.ParZeroGen.parSetZero fuel hp ⟨D, 0⟩ size nt
    ∧ ∃ hp', Gen.ParZeroGen.parSetZero fuel hp ⟨D, 0⟩ size nt = some hp' := by
  have key := inOrder_rep (hp.setBlock D) (fun i B => zeroChunk size.toNat nt i #[] B)
    (zChunkBody ⟨D, 0⟩ size (genChunk size nt)) order
    (fun i hi B => zchunk_rep hp D hD size nt hnt hs8 #[] i ((hperm.mem_iff).1 hi) B) (hp.block D)
  rw [Heap.setBlock_block] at key
  have hord := chunkWriters_any_order size.toNat nt (zeroChunk size.toNat nt) _ (zeroChunk_writer size.toNat nt) order hperm #[] (hp.block D)
  rw [key, hord, parSetZero_seq hp D hD size nt hnt hs8 #[] fuel hfuel]
  exact ⟨rfl, _, rfl⟩

/-! ### Merkle builders: leaf loops and level loops of the generated builders

  The generated bodies work on ONE tree buffer (a `Region`).  `mtLeafG LH`, `mtbLeafG LH`, `mt512LeafG LH2 LH1`, `mtNodeG H`
  (Lemmas/BridgeMerkle*.lean) are the generated text with the hash calls as parameters — the lifted bodies
  `Pos_merkletree_*_loopK` are instances BY UNFOLDING (`rfl`), so a change of a loop body breaks its instance theorem below.
  Frame and dependency of the bodies (Lemmas/ParGenMerkle.lean: `fillIter`, `nodeIter`) are derived from that text and from
  what the bridge proves of the hashes (`LeafHash`, `PairHash`, `NodeHash`); their footprints are, up to presentation,
  those of `C12_merkle_leaves` / `C12_merkle_level`.  Unlike `C12_model_merkle_*` (a hand-written imperative rendering),
  these are statements about the translated loop bodies themselves. -/

section GenMerkle
open Gen.MerkleGen

/-- a counted loop that hands iteration `m` the buffer at `4k·m` and lets it write at most `4k` digest words there (the form
    of every leaf loop, `fill_spec`): the iterations in any order give the generated loop's buffer -/
theorem C12_generated_merkle_fill_any_order (k : Nat) (w : Nat → Nat) (f G : Nat → Region → Option Region)
    (D : Nat → List Model.Wd) (N : Nat)
    (hf : ∀ m, m < N → ∀ t, f m t = (G m (Region.shift t (4 * k * m))).bind fun r => some (Region.unshift t (4 * k * m) r))
    (hG : ∀ m, m < N → DigestWriter (w m) (G m) (D m)) (hw : ∀ m, w m ≤ 4 * k) (tree : Region)
    (is' : List Nat) (hp : is'.Perm (List.range N)) :
    inOrder f is' tree = Loop.rangeM 0 N 1 tree f ∧ ∃ t', Loop.rangeM 0 N 1 tree f = some t' := by
  refine inOrder_any_order id (fun m => (fillIter (4 * k) w f G D N hf hG m).run) _ N
    (fun m hm t => (fill_step_spec (4 * k) w f G D N hf hG m hm t).1)
    (fun l hl t => any_order (fillIter (4 * k) w f G D N hf hG) l _ hl ?_ t) is' hp tree
  intro i _ i' _ hne
  have e1 : ∀ i : Nat, i * (4 * k) = 4 * k * i := fun i => Nat.mul_comm _ _
  have e2 : ∀ i : Nat, (i + 1) * (4 * k) = 4 * k * i + 4 * k := fun i => by rw [Nat.add_mul, Nat.one_mul, Nat.mul_comm]
  refine (C12_merkle_leaves 0 1 k 0 i i' (by decide) hne).congr ?_ ?_ ?_ ?_
  · rintro ⟨b, j⟩ ⟨_, h⟩; exact h.elim
  · rintro ⟨b, j⟩ ⟨hb, _, h1, h2⟩
    have := hw i
    exact ⟨hb, by rw [e1]; exact h1, by rw [e2]; omega⟩
  · rintro ⟨b, j⟩ ⟨_, h⟩; exact h.elim
  · rintro ⟨b, j⟩ ⟨hb, _, h1, h2⟩
    have := hw i'
    exact ⟨hb, by rw [e1]; exact h1, by rw [e2]; omega⟩

/-- leaf loop of `merkletree_seq` / `merkletree_avx`, generic in the linear hash: the rows in any order.
    No hypothesis on shapes: the tree words are addressed by `4·i` (no 64-bit arithmetic), the input is another buffer. -/
theorem C12_generated_merkle_leaves_any_order (LH : Nat → Region → Region → BitVec 64 → Option Region)
    (leaf : List Model.Wd → List Model.Wd) (hLH : LeafHash LH leaf) (fuel : Nat) (input tree : Region)
    (num_cols dim : BitVec 64) (hf : (num_cols * dim).toNat < fuel) (R : Nat)
    (is' : List Nat) (hp : is'.Perm (List.range R)) :
    inOrder (mtLeafG LH fuel input num_cols dim) is' tree = Loop.rangeM 0 R 1 tree (mtLeafG LH fuel input num_cols dim)
    ∧ ∃ t', Loop.rangeM 0 R 1 tree (mtLeafG LH fuel input num_cols dim) = some t' :=
  C12_generated_merkle_fill_any_order 1 (fun _ => 4) (mtLeafG LH fuel input num_cols dim) _ _ R
    (fun m _ t => mtLeafG_fill LH fuel input num_cols dim m t)
    (fun m _ => mtLeafG_writer LH leaf hLH fuel input num_cols dim hf m) (fun _ => Nat.le_refl _) tree is' hp

/-- leaf loop of the batched builders, generic in the linear hash (`buff0` is private to the iteration).
    Shape hypotheses as in the bridge (`mtb_leaves`): they make the inner loop over the column batches return. -/
theorem C12_generated_merkle_batch_leaves_any_order (LH : Nat → Region → Region → BitVec 64 → Option Region)
    (leaf : List Model.Wd → List Model.Wd) (hLH : LeafHash LH leaf) (fuel : Nat) (input tree : Region)
    (num_cols batch_size dim nbatches nlastb : BitVec 64) (c b d R : Nat) (hc : num_cols.toNat = c)
    (hbv : batch_size.toNat = b) (hd : dim.toNat = d) (hb : 1 ≤ b) (hprod : R * (c * d) < 2 ^ 64) (hcb : c + b < 2 ^ 62)
    (hnb : nbatches.toNat = nbOf c b) (hnl : nlastb.toNat = nlastOf c b) (hf1 : c * d < fuel) (hf3 : 4 * (c + 1) < fuel)
    (is' : List Nat) (hp : is'.Perm (List.range R)) :
    inOrder (mtbLeafG LH fuel input num_cols batch_size dim nbatches nlastb) is' tree
      = Loop.rangeM 0 R 1 tree (mtbLeafG LH fuel input num_cols batch_size dim nbatches nlastb)
    ∧ ∃ t', Loop.rangeM 0 R 1 tree (mtbLeafG LH fuel input num_cols batch_size dim nbatches nlastb) = some t' :=
  C12_generated_merkle_fill_any_order 1 (fun _ => 4) (mtbLeafG LH fuel input num_cols batch_size dim nbatches nlastb) _ _ R
    (fun i _ t => mtbLeafG_fill LH fuel input num_cols batch_size dim nbatches nlastb i t)
    (fun i hi => mtbLeafG_writer LH leaf hLH fuel input num_cols batch_size dim nbatches nlastb c b d R hc hbv hd hb hprod hcb
      hnb hnl hf1 hf3 i hi) (fun _ => Nat.le_refl _) tree is' hp

/-- leaf loop of `merkletree_avx512` (`for (i = 0; i < num_rows; i += 2)`: iteration `m` handles rows `2m`, `2m+1` through the
    two-state hash, an odd last row through the one-state hash), generic in the two hashes: the pairs in any order.
    No shape hypothesis. -/
theorem C12_generated_merkle_pair_leaves_any_order (LH2 LH1 : Nat → Region → Region → BitVec 64 → Option Region)
    (leaf1 : List Model.Wd → List Model.Wd) (leaf2 : List Model.Wd → Nat → List Model.Wd) (hLH1 : LeafHash LH1 leaf1)
    (hLH2 : PairHash LH2 leaf2) (fuel : Nat) (input tree : Region) (num_cols num_rows dim : BitVec 64)
    (hf : (num_cols * dim).toNat < fuel) (n : Nat) (is' : List Nat) (hp : is'.Perm (List.range ((n + 1) / 2))) :
    inOrder (fun m => mt512LeafG LH2 LH1 fuel input num_cols num_rows dim (2 * m)) is' tree
      = Loop.rangeM 0 n 2 tree (mt512LeafG LH2 LH1 fuel input num_cols num_rows dim)
    ∧ ∃ t', Loop.rangeM 0 n 2 tree (mt512LeafG LH2 LH1 fuel input num_cols num_rows dim) = some t' := by
  rw [rangeM_zero_two, ← rangeM_zero_one]
  exact C12_generated_merkle_fill_any_order 2 (pairW num_rows)
    (fun m => mt512LeafG LH2 LH1 fuel input num_cols num_rows dim (2 * m)) _ _ ((n + 1) / 2)
    (fun m _ t => mt512LeafG_fill LH2 LH1 fuel input num_cols num_rows dim m t)
    (fun m _ => mt512LeafG_writer LH2 LH1 fuel input num_cols num_rows dim leaf1 leaf2 hLH1 hLH2 hf m)
    (pairW_le num_rows) tree is' hp

/-- leaf loop of `merkletree_batch_avx512` for `num_rows = 2^(k+1)` rows (every iteration hashes two rows through the
    two-state hash; both `buff0` halves are private to the iteration), generic in the two hashes: the pairs in any order.
    Shape hypotheses as in the bridge (`mtb512_leaves`). -/
theorem C12_generated_merkle_batch_pair_leaves_any_order (LH2 LH1 : Nat → Region → Region → BitVec 64 → Option Region)
    (leaf2 : List Model.Wd → Nat → List Model.Wd) (hLH2 : PairHash LH2 leaf2) (fuel : Nat) (input tree : Region)
    (num_cols num_rows batch_size dim nbatches nlastb : BitVec 64) (c b d k : Nat) (hR : num_rows.toNat = 2 ^ (k + 1))
    (hc : num_cols.toNat = c) (hbv : batch_size.toNat = b) (hd : dim.toNat = d) (hb : 1 ≤ b)
    (hprod : 2 ^ (k + 1) * (c * d) < 2 ^ 64) (h61 : c * d < 2 ^ 61) (hcb : c + b < 2 ^ 61)
    (hnb : nbatches.toNat = nbOf c b) (hnl : nlastb.toNat = nlastOf c b) (hf1 : c * d < fuel) (hf3 : 4 * (c + 1) < fuel)
    (is' : List Nat) (hp : is'.Perm (List.range (2 ^ k))) :
    inOrder (fun m => mtb512LeafG LH2 LH1 fuel input num_cols num_rows batch_size dim nbatches nlastb (2 * m)) is' tree
      = Loop.rangeM 0 (2 ^ (k + 1)) 2 tree (mtb512LeafG LH2 LH1 fuel input num_cols num_rows batch_size dim nbatches nlastb)
    ∧ ∃ t', Loop.rangeM 0 (2 ^ (k + 1)) 2 tree
        (mtb512LeafG LH2 LH1 fuel input num_cols num_rows batch_size dim nbatches nlastb) = some t' := by
  have hN : (2 ^ (k + 1) + 1) / 2 = 2 ^ k := by
    have h2p : (2 : Nat) ^ (k + 1) = 2 * 2 ^ k := by rw [Nat.pow_succ]; omega
    omega
  rw [rangeM_zero_two, hN, ← rangeM_zero_one]
  exact C12_generated_merkle_fill_any_order 2 (fun _ => 8)
    (fun m => mtb512LeafG LH2 LH1 fuel input num_cols num_rows batch_size dim nbatches nlastb (2 * m)) _ _ (2 ^ k)
    (fun m hm t => mtb512LeafG_fill LH2 LH1 fuel input num_cols num_rows batch_size dim nbatches nlastb k hR m hm t)
    (fun m hm => mtb512LeafG_writer LH2 fuel input num_cols batch_size dim nbatches nlastb leaf2 hLH2 c b d k hc hbv hd hb
      hprod h61 hcb hnb hnl hf1 hf3 m hm)
    (fun _ => Nat.le_refl _) tree is' hp

/-- level loop, generic in the capacity hash: level of `p` nodes stored from word `ni`, `m ≤ p/2` parent nodes, offsets
    below 2^60 (no wrap of the 64-bit index arithmetic): the nodes in any order give the generated loop's tree buffer -/
theorem C12_generated_merkle_level_any_order (H : Region → Region → Region) (nodeF : List Model.Wd → List Model.Wd)
    (hH : NodeHash H nodeF) (pending nextIndex : BitVec 64) (ni p m : Nat) (hni : nextIndex.toNat = ni)
    (hpe : pending.toNat = p) (hm : 2 * m ≤ p) (hsmall : ni + 8 * p < 2 ^ 60) (tree : Region)
    (is' : List Nat) (hp : is'.Perm (List.range m)) :
    inOrder (mtNodeG H pending nextIndex) is' tree = Loop.rangeM 0 m 1 tree (mtNodeG H pending nextIndex)
    ∧ ∃ t', Loop.rangeM 0 m 1 tree (mtNodeG H pending nextIndex) = some t' := by
  refine inOrder_any_order id (fun i => (nodeIter H nodeF hH ni p i).run) _ m
    (fun i hi t => node_some H pending nextIndex ni p m hni hpe hm hsmall i hi t)
    (fun l hl t => any_order (nodeIter H nodeF hH ni p) l _ hl ?_ t) is' hp tree
  intro i hi i' hi' hne
  exact Model.level_indep ni p m i i' hm (List.mem_range.1 ((hl.mem_iff).1 hi)) (List.mem_range.1 ((hl.mem_iff).1 hi')) hne

/-! #### the hypotheses on the hashes, discharged by the bridge -/

theorem C12_linear_hash_seq_leaf : LeafHash Gen.LinearHashGen.Pos_linear_hash_seq (Model.linearHash permSeqList) :=
  leafHash_seq

theorem C12_linear_hash_avx_leaf : LeafHash Gen.LinearHashGen.Pos_linear_hash (Model.linearHash permAvxList) :=
  leafHash_avx permAvxList perm_avx_hP

theorem C12_linear_hash_avx512_pair :
    PairHash Gen.LinearHashGen.Pos_linear_hash_avx512 (Model.linearHash512 perm512List) :=
  pairHash_avx512

/-! #### the six builders (NO hypothesis on the hashes) -/

/-- `merkletree_seq`, leaf loop (poseidon_goldilocks.cpp:87) -/
theorem C12_generated_merkletree_seq_leaves_any_order (fuel : Nat) (input tree : Region) (num_cols dim : BitVec 64)
    (hf : (num_cols * dim).toNat < fuel) (R : Nat) (is' : List Nat) (hp : is'.Perm (List.range R)) :
    inOrder (Pos_merkletree_seq_loop1 fuel input num_cols dim) is' tree
      = Loop.rangeM 0 R 1 tree (Pos_merkletree_seq_loop1 fuel input num_cols dim)
    ∧ ∃ t', Loop.rangeM 0 R 1 tree (Pos_merkletree_seq_loop1 fuel input num_cols dim) = some t' := by
  exact C12_generated_merkle_leaves_any_order Gen.LinearHashGen.Pos_linear_hash_seq _ C12_linear_hash_seq_leaf fuel input tree
    num_cols dim hf R is' hp

/-- `merkletree_avx`, leaf loop -/
theorem C12_generated_merkletree_avx_leaves_any_order (fuel : Nat) (input tree : Region) (num_cols dim : BitVec 64)
    (hf : (num_cols * dim).toNat < fuel) (R : Nat) (is' : List Nat) (hp : is'.Perm (List.range R)) :
    inOrder (Pos_merkletree_avx_loop1 fuel input num_cols dim) is' tree
      = Loop.rangeM 0 R 1 tree (Pos_merkletree_avx_loop1 fuel input num_cols dim)
    ∧ ∃ t', Loop.rangeM 0 R 1 tree (Pos_merkletree_avx_loop1 fuel input num_cols dim) = some t' := by
  exact C12_generated_merkle_leaves_any_order Gen.LinearHashGen.Pos_linear_hash _ C12_linear_hash_avx_leaf fuel input tree
    num_cols dim hf R is' hp

/-- `merkletree_avx512`, leaf loop (step 2: the pairs of rows in any order) -/
theorem C12_generated_merkletree_avx512_leaves_any_order (fuel : Nat) (input tree : Region) (num_cols num_rows dim : BitVec 64)
    (hf : (num_cols * dim).toNat < fuel) (n : Nat) (is' : List Nat) (hp : is'.Perm (List.range ((n + 1) / 2))) :
    inOrder (fun m => Pos_merkletree_avx512_loop1 fuel input num_cols num_rows dim (2 * m)) is' tree
      = Loop.rangeM 0 n 2 tree (Pos_merkletree_avx512_loop1 fuel input num_cols num_rows dim)
    ∧ ∃ t', Loop.rangeM 0 n 2 tree (Pos_merkletree_avx512_loop1 fuel input num_cols num_rows dim) = some t' := by
  exact C12_generated_merkle_pair_leaves_any_order Gen.LinearHashGen.Pos_linear_hash_avx512 Gen.LinearHashGen.Pos_linear_hash _ _
    C12_linear_hash_avx_leaf C12_linear_hash_avx512_pair fuel input tree num_cols num_rows dim hf n is' hp

/-- `merkletree_batch_seq`, leaf loop -/
theorem C12_generated_merkletree_batch_seq_leaves_any_order (fuel : Nat) (input tree : Region)
    (num_cols batch_size dim nbatches nlastb : BitVec 64) (c b d R : Nat) (hc : num_cols.toNat = c)
    (hbv : batch_size.toNat = b) (hd : dim.toNat = d) (hb : 1 ≤ b) (hprod : R * (c * d) < 2 ^ 64) (hcb : c + b < 2 ^ 62)
    (hnb : nbatches.toNat = nbOf c b) (hnl : nlastb.toNat = nlastOf c b) (hf1 : c * d < fuel) (hf3 : 4 * (c + 1) < fuel)
    (is' : List Nat) (hp : is'.Perm (List.range R)) :
    inOrder (Pos_merkletree_batch_seq_loop2 fuel input num_cols batch_size dim nbatches nlastb) is' tree
      = Loop.rangeM 0 R 1 tree (Pos_merkletree_batch_seq_loop2 fuel input num_cols batch_size dim nbatches nlastb)
    ∧ ∃ t', Loop.rangeM 0 R 1 tree (Pos_merkletree_batch_seq_loop2 fuel input num_cols batch_size dim nbatches nlastb) = some t' := by
  exact C12_generated_merkle_batch_leaves_any_order Gen.LinearHashGen.Pos_linear_hash_seq _ C12_linear_hash_seq_leaf fuel input tree
    num_cols batch_size dim nbatches nlastb c b d R hc hbv hd hb hprod hcb hnb hnl hf1 hf3 is' hp

/-- `merkletree_batch_avx`, leaf loop -/
theorem C12_generated_merkletree_batch_avx_leaves_any_order (fuel : Nat) (input tree : Region)
    (num_cols batch_size dim nbatches nlastb : BitVec 64) (c b d R : Nat) (hc : num_cols.toNat = c)
    (hbv : batch_size.toNat = b) (hd : dim.toNat = d) (hb : 1 ≤ b) (hprod : R * (c * d) < 2 ^ 64) (hcb : c + b < 2 ^ 62)
    (hnb : nbatches.toNat = nbOf c b) (hnl : nlastb.toNat = nlastOf c b) (hf1 : c * d < fuel) (hf3 : 4 * (c + 1) < fuel)
    (is' : List Nat) (hp : is'.Perm (List.range R)) :
    inOrder (Pos_merkletree_batch_avx_loop2 fuel input num_cols batch_size dim nbatches nlastb) is' tree
      = Loop.rangeM 0 R 1 tree (Pos_merkletree_batch_avx_loop2 fuel input num_cols batch_size dim nbatches nlastb)
    ∧ ∃ t', Loop.rangeM 0 R 1 tree (Pos_merkletree_batch_avx_loop2 fuel input num_cols batch_size dim nbatches nlastb) = some t' := by
  exact C12_generated_merkle_batch_leaves_any_order Gen.LinearHashGen.Pos_linear_hash _ C12_linear_hash_avx_leaf fuel input tree
    num_cols batch_size dim nbatches nlastb c b d R hc hbv hd hb hprod hcb hnb hnl hf1 hf3 is' hp

/-- `merkletree_batch_avx512`, leaf loop, `num_rows = 2^(k+1)` -/
theorem C12_generated_merkletree_batch_avx512_leaves_any_order (fuel : Nat) (input tree : Region)
    (num_cols num_rows batch_size dim nbatches nlastb : BitVec 64) (c b d k : Nat) (hR : num_rows.toNat = 2 ^ (k + 1))
    (hc : num_cols.toNat = c) (hbv : batch_size.toNat = b) (hd : dim.toNat = d) (hb : 1 ≤ b)
    (hprod : 2 ^ (k + 1) * (c * d) < 2 ^ 64) (h61 : c * d < 2 ^ 61) (hcb : c + b < 2 ^ 61)
    (hnb : nbatches.toNat = nbOf c b) (hnl : nlastb.toNat = nlastOf c b) (hf1 : c * d < fuel) (hf3 : 4 * (c + 1) < fuel)
    (is' : List Nat) (hp : is'.Perm (List.range (2 ^ k))) :
    inOrder (fun m => Pos_merkletree_batch_avx512_loop3 fuel input num_cols num_rows batch_size dim nbatches nlastb (2 * m)) is' tree
      = Loop.rangeM 0 (2 ^ (k + 1)) 2 tree
          (Pos_merkletree_batch_avx512_loop3 fuel input num_cols num_rows batch_size dim nbatches nlastb)
    ∧ ∃ t', Loop.rangeM 0 (2 ^ (k + 1)) 2 tree
        (Pos_merkletree_batch_avx512_loop3 fuel input num_cols num_rows batch_size dim nbatches nlastb) = some t' := by
  exact C12_generated_merkle_batch_pair_leaves_any_order Gen.LinearHashGen.Pos_linear_hash_avx512 Gen.LinearHashGen.Pos_linear_hash _
    C12_linear_hash_avx512_pair fuel input tree num_cols num_rows batch_size dim nbatches nlastb c b d k hR hc hbv hd hb hprod h61
    hcb hnb hnl hf1 hf3 is' hp

/-- the level loops of the six builders: `merkletree_seq`, `merkletree_batch_seq` call the scalar `hash_seq`; `merkletree_avx`,
    `merkletree_avx512`, `merkletree_batch_avx`, `merkletree_batch_avx512` the AVX2 `hash` — six lifted bodies, each an instance
    of `mtNodeG` by unfolding -/
theorem C12_generated_merkletree_level_loops_any_order (pending nextIndex : BitVec 64) (ni p m : Nat)
    (hni : nextIndex.toNat = ni) (hpe : pending.toNat = p) (hm : 2 * m ≤ p) (hsmall : ni + 8 * p < 2 ^ 60) (tree : Region)
    (is' : List Nat) (hp : is'.Perm (List.range m)) :
    ∀ body ∈ [Pos_merkletree_seq_loop2 pending nextIndex, Pos_merkletree_avx_loop2 pending nextIndex,
        Pos_merkletree_avx512_loop2 pending nextIndex, Pos_merkletree_batch_seq_loop3 pending nextIndex,
        Pos_merkletree_batch_avx_loop3 pending nextIndex, Pos_merkletree_batch_avx512_loop4 pending nextIndex],
      inOrder body is' tree = Loop.rangeM 0 m 1 tree body ∧ ∃ t', Loop.rangeM 0 m 1 tree body = some t' := by
  have hs := C12_generated_merkle_level_any_order _ nodeSeqList hash_seq_node pending nextIndex ni p m hni hpe hm hsmall tree is' hp
  have ha := C12_generated_merkle_level_any_order _ nodeAvxList hash_avx_node pending nextIndex ni p m hni hpe hm hsmall tree is' hp
  intro body hb
  simp only [List.mem_cons, List.not_mem_nil, or_false] at hb
  rcases hb with rfl | rfl | rfl | rfl | rfl | rfl
  · exact hs
  · exact ha
  · exact ha
  · exact hs
  · exact ha
  · exact ha

-- not vacuous: an explicit non-sequential order of the four leaf iterations of the translated `merkletree_seq`, from any tree
-- buffer, any input, any shape; and of the two pair iterations of the translated `merkletree_avx512` on four rows
example (fuel : Nat) (input tree : Region) (num_cols dim : BitVec 64) (hf : (num_cols * dim).toNat < fuel) :
    inOrder (Pos_merkletree_seq_loop1 fuel input num_cols dim) [2, 0, 3, 1] tree
      = Loop.rangeM 0 4 1 tree (Pos_merkletree_seq_loop1 fuel input num_cols dim) :=
  (C12_generated_merkletree_seq_leaves_any_order fuel input tree num_cols dim hf 4 [2, 0, 3, 1] (by decide)).1

example (fuel : Nat) (input tree : Region) (num_cols dim : BitVec 64) (hf : (num_cols * dim).toNat < fuel) :
    inOrder (fun m => Pos_merkletree_avx512_loop1 fuel input num_cols 4#64 dim (2 * m)) [1, 0] tree
      = Loop.rangeM 0 4 2 tree (Pos_merkletree_avx512_loop1 fuel input num_cols 4#64 dim) :=
  (C12_generated_merkletree_avx512_leaves_any_order fuel input tree num_cols 4#64 dim hf 4 [1, 0] (by decide)).1

end GenMerkle

end Generated

end GoldilocksVerif.C12
