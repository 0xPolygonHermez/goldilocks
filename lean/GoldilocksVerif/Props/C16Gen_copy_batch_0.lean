-- GENERATED by tools/extspec.py from the C++ SIGNATURES (routine name, parameter types and names) of the current source.
-- Do not edit.  One theorem per batched / AVX2 / AVX512 cubic-extension overload: for element k the written
-- coefficients denote (in ZMod p) the K3 sum / difference / product of the k-th designated operands.
import GoldilocksVerif.Lemmas.ExtWrapL
namespace GoldilocksVerif.C16Gen
open GoldilocksVerif

/-- `copy_batch(Goldilocks::Element * dst, const Goldilocks::Element * src)` -/
theorem G3_copy_batch_spec (dst : Region) (src : Region) :
    ScatterExact 4 (posD 3) (fun k i => src (posD 3 k i)) dst (Gen.ExtWrap.G3_copy_batch dst src) := by
  ext_body Gen.ExtWrap.G3_copy_batch
  ext_words_exact

end GoldilocksVerif.C16Gen
