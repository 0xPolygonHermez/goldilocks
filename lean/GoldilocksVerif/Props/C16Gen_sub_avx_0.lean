-- GENERATED by tools/extspec.py from the C++ SIGNATURES (routine name, parameter types and names) of the current source.
-- Do not edit.  One theorem per batched / AVX2 / AVX512 cubic-extension overload: for element k the written
-- coefficients denote (in ZMod p) the K3 sum / difference / product of the k-th designated operands.
import GoldilocksVerif.Lemmas.ExtWrapL
namespace GoldilocksVerif.C16Gen
open GoldilocksVerif

/-- `sub13c_avx(__m256i & c0_, __m256i & c1_, __m256i & c2_, Goldilocks::Element * a, Goldilocks::Element * b, uint64_t stride_a)` -/
theorem G3_sub13c_avx_spec (a : Region) (b : Region) (stride_a : BitVec 64) :
    Planar4 (fun k => K3.sub ((base1 a (posS stride_a)) k) ((ext3 b posC) k)) (Gen.ExtWrap.G3_sub13c_avx a b stride_a).1 (Gen.ExtWrap.G3_sub13c_avx a b stride_a).2.1 (Gen.ExtWrap.G3_sub13c_avx a b stride_a).2.2 := by
  ext_body Gen.ExtWrap.G3_sub13c_avx
  intro k hk
  ext_lane4 hk

/-- `sub31_avx(Goldilocks::Element * result, Goldilocks::Element * a, Goldilocks::Element * b, uint64_t stride_a, uint32_t stride_b)` -/
theorem G3_sub31_avx_spec (result : Region) (a : Region) (b : Region) (stride_a : BitVec 64) (stride_b : BitVec 32) :
    Scatter3 4 (posD 3) (fun k => K3.sub ((ext3 a (posS stride_a)) k) ((base1 b (posS (BitVec.setWidth 64 stride_b))) k)) result (Gen.ExtWrap.G3_sub31_avx result a b stride_a stride_b) := by
  ext_body Gen.ExtWrap.G3_sub31_avx
  ext_elems4

/-- `sub31c_avx(Goldilocks::Element * result, Goldilocks::Element * a, Goldilocks::Element b, uint64_t stride_a)` -/
theorem G3_sub31c_avx__ppEE_spec (result : Region) (a : Region) (b : BitVec 64) (stride_a : BitVec 64) :
    Scatter3 4 (posD 3) (fun k => K3.sub ((ext3 a (posS stride_a)) k) ((val1 b) k)) result (Gen.ExtWrap.G3_sub31c_avx__ppEE result a b stride_a) := by
  ext_body Gen.ExtWrap.G3_sub31c_avx__ppEE
  ext_elems4

/-- `sub31c_avx(Goldilocks3::Element_avx & c_, Goldilocks::Element * a, Goldilocks::Element b, const uint64_t * stride_a)` -/
theorem G3_sub31c_avx__mpEP_spec (c_ : VRegion4) (a : Region) (b : BitVec 64) (stride_a : Region) :
    PlanarV4 (fun k => K3.sub ((ext3 a (posA stride_a)) k) ((val1 b) k)) c_ (Gen.ExtWrap.G3_sub31c_avx__mpEP c_ a b stride_a) := by
  ext_body Gen.ExtWrap.G3_sub31c_avx__mpEP
  exact PlanarV4.of_sets fun k hk => by ext_lane4 hk

/-- `sub31c_avx(Goldilocks3::Element_avx & c_, Goldilocks::Element * a, Goldilocks::Element b, uint64_t stride_a)` -/
theorem G3_sub31c_avx__mpEE_spec (c_ : VRegion4) (a : Region) (b : BitVec 64) (stride_a : BitVec 64) :
    PlanarV4 (fun k => K3.sub ((ext3 a (posS stride_a)) k) ((val1 b) k)) c_ (Gen.ExtWrap.G3_sub31c_avx__mpEE c_ a b stride_a) := by
  ext_body Gen.ExtWrap.G3_sub31c_avx__mpEE
  exact PlanarV4.of_sets fun k hk => by ext_lane4 hk

/-- `sub33c_avx(Goldilocks::Element * result, Goldilocks::Element * a, Goldilocks::Element * b, uint64_t stride_a)` -/
theorem G3_sub33c_avx__pppE_spec (result : Region) (a : Region) (b : Region) (stride_a : BitVec 64) :
    Scatter3 4 (posD 3) (fun k => K3.sub ((ext3 a (posS stride_a)) k) ((ext3 b posC) k)) result (Gen.ExtWrap.G3_sub33c_avx__pppE result a b stride_a) := by
  ext_body Gen.ExtWrap.G3_sub33c_avx__pppE
  ext_elems4

/-- `sub33c_avx(Goldilocks::Element * result, Goldilocks::Element * a, Goldilocks::Element * b)` -/
theorem G3_sub33c_avx__ppp_spec (result : Region) (a : Region) (b : Region) :
    Scatter3 4 (posD 3) (fun k => K3.sub ((ext3 a (posD 3)) k) ((ext3 b posC) k)) result (Gen.ExtWrap.G3_sub33c_avx__ppp result a b) := by
  ext_body Gen.ExtWrap.G3_sub33c_avx__ppp
  ext_elems4

/-- `sub33c_avx(Goldilocks3::Element_avx & c_, __m256i * a_, Goldilocks::Element * b)` -/
theorem G3_sub33c_avx__mmp_spec (c_ : VRegion4) (a_ : VRegion4) (b : Region) :
    PlanarV4 (fun k => K3.sub ((vreg4 a_) k) ((ext3 b posC) k)) c_ (Gen.ExtWrap.G3_sub33c_avx__mmp c_ a_ b) := by
  ext_body Gen.ExtWrap.G3_sub33c_avx__mmp
  exact PlanarV4.of_sets fun k hk => by ext_lane4 hk

/-- `sub33c_avx(Goldilocks::Element * c, uint64_t stride_c, __m256i * a_, __m256i * b_)`
    name marks b constant but it is a register operand: read per lane -/
theorem G3_sub33c_avx__pEmm_spec (c : Region) (stride_c : BitVec 64) (a_ : VRegion4) (b_ : VRegion4) :
    Scatter3 4 (posS stride_c) (fun k => K3.sub ((vreg4 a_) k) ((vreg4 b_) k)) c (Gen.ExtWrap.G3_sub33c_avx__pEmm c stride_c a_ b_) := by
  ext_body Gen.ExtWrap.G3_sub33c_avx__pEmm
  exact Scatter3.of_planar4 fun k hk => by ext_lane4 hk

/-- `sub33c_avx(Goldilocks3::Element_avx & c_, Goldilocks::Element * a, Goldilocks::Element * b, uint64_t stride_a)` -/
theorem G3_sub33c_avx__mppE_spec (c_ : VRegion4) (a : Region) (b : Region) (stride_a : BitVec 64) :
    PlanarV4 (fun k => K3.sub ((ext3 a (posS stride_a)) k) ((ext3 b posC) k)) c_ (Gen.ExtWrap.G3_sub33c_avx__mppE c_ a b stride_a) := by
  ext_body Gen.ExtWrap.G3_sub33c_avx__mppE
  exact PlanarV4.of_sets fun k hk => by ext_lane4 hk

/-- `sub33c_avx(__m256i & c0_, __m256i & c1_, __m256i & c2_, Goldilocks::Element * a, Goldilocks::Element * b, uint64_t stride_a)` -/
theorem G3_sub33c_avx__vvvppE_spec (a : Region) (b : Region) (stride_a : BitVec 64) :
    Planar4 (fun k => K3.sub ((ext3 a (posS stride_a)) k) ((ext3 b posC) k)) (Gen.ExtWrap.G3_sub33c_avx__vvvppE a b stride_a).1 (Gen.ExtWrap.G3_sub33c_avx__vvvppE a b stride_a).2.1 (Gen.ExtWrap.G3_sub33c_avx__vvvppE a b stride_a).2.2 := by
  ext_body Gen.ExtWrap.G3_sub33c_avx__vvvppE
  intro k hk
  ext_lane4 hk

/-- `sub_avx(Goldilocks::Element * result, Goldilocks::Element * a, Goldilocks::Element * b)` -/
theorem G3_sub_avx__ppp_spec (result : Region) (a : Region) (b : Region) :
    Scatter3 4 (posD 3) (fun k => K3.sub ((ext3 a (posD 3)) k) ((ext3 b (posD 3)) k)) result (Gen.ExtWrap.G3_sub_avx__ppp result a b) := by
  ext_body Gen.ExtWrap.G3_sub_avx__ppp
  ext_elems4

/-- `sub_avx(Goldilocks::Element * result, Goldilocks::Element * a, Goldilocks::Element * b, uint64_t stride_a, uint64_t stride_b)` -/
theorem G3_sub_avx__pppEE_spec (result : Region) (a : Region) (b : Region) (stride_a : BitVec 64) (stride_b : BitVec 64) :
    Scatter3 4 (posD 3) (fun k => K3.sub ((ext3 a (posS stride_a)) k) ((ext3 b (posS stride_b)) k)) result (Gen.ExtWrap.G3_sub_avx__pppEE result a b stride_a stride_b) := by
  ext_body Gen.ExtWrap.G3_sub_avx__pppEE
  ext_elems4

/-- `sub_avx(Goldilocks3::Element_avx & c_, __m256i * a_, __m256i * b_)` -/
theorem G3_sub_avx__mmm_spec (c_ : VRegion4) (a_ : VRegion4) (b_ : VRegion4) :
    PlanarV4 (fun k => K3.sub ((vreg4 a_) k) ((vreg4 b_) k)) c_ (Gen.ExtWrap.G3_sub_avx__mmm c_ a_ b_) := by
  ext_body Gen.ExtWrap.G3_sub_avx__mmm
  exact PlanarV4.of_sets fun k hk => by ext_lane4 hk

/-- `sub_avx(Goldilocks3::Element_avx & c_, __m256i * a_, Goldilocks::Element * b, uint64_t stride_b)` -/
theorem G3_sub_avx__mmpE_spec (c_ : VRegion4) (a_ : VRegion4) (b : Region) (stride_b : BitVec 64) :
    PlanarV4 (fun k => K3.sub ((vreg4 a_) k) ((ext3 b (posS stride_b)) k)) c_ (Gen.ExtWrap.G3_sub_avx__mmpE c_ a_ b stride_b) := by
  ext_body Gen.ExtWrap.G3_sub_avx__mmpE
  exact PlanarV4.of_sets fun k hk => by ext_lane4 hk

end GoldilocksVerif.C16Gen
