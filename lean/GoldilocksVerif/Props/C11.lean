/-
  C11 — AVX512 lane kernels equal the scalar field op in every lane, every input.

  Statements are about `Gen.Avx512.*`, regenerated on every run from
  `/repo/src/goldilocks_base_field_avx512.hpp` (built with -D__AVX512__, which the shipped test build never
  selects) over the intrinsic semantics of `Isa/Avx512.lean`.
-/
import GoldilocksVerif.Lemmas.Avx512Nat
import GoldilocksVerif.Props.C01

namespace GoldilocksVerif.C11
open Gen.Avx512 GoldilocksVerif

theorem C11_toCanonical_avx512 (a : V8) (i : Fin 8) :
    ((toCanonical_avx512 a).get i).toNat = (a.get i).toNat % P := canon512_spec a i

/-- add_avx512: general-purpose -/
theorem C11_add_avx512 (a b : V8) (i : Fin 8) :
    ((add_avx512__wWW a b).get i).toNat % P = ((a.get i).toNat + (b.get i).toNat) % P := add512_spec a b i

/-- add_avx512_b_c: documented requirement = canonical second operand -/
theorem C11_add_avx512_b_c (a b_c : V8) (i : Fin 8) (h : (b_c.get i).toNat < P) :
    ((add_avx512_b_c a b_c).get i).toNat % P = ((a.get i).toNat + (b_c.get i).toNat) % P :=
  add512_b_c_spec a b_c i (by have := (a.get i).isLt; omega)

/-- add_avx512_b_c: what the proof actually needs (a + b < 2^64 + p); fails beyond it, see C14 -/
theorem C11_add_avx512_b_c_weak (a b : V8) (i : Fin 8) (h : (a.get i).toNat + (b.get i).toNat < 2^64 + P) :
    ((add_avx512_b_c a b).get i).toNat % P = ((a.get i).toNat + (b.get i).toNat) % P :=
  add512_b_c_spec a b i h

/-- sub_avx512: general-purpose -/
theorem C11_sub_avx512 (a b : V8) (i : Fin 8) :
    (((sub_avx512__wWW a b).get i).toNat + (b.get i).toNat) % P = (a.get i).toNat % P := sub512_spec a b i

/-- sub_avx512_b_c: canonical second operand -/
theorem C11_sub_avx512_b_c (a b_c : V8) (i : Fin 8) (h : (b_c.get i).toNat < P) :
    (((sub_avx512_b_c a b_c).get i).toNat + (b_c.get i).toNat) % P = (a.get i).toNat % P :=
  sub512_b_c_spec a b_c i h

/-- mult_avx512_128: exact 128-bit product -/
theorem C11_mult_avx512_128 (a b : V8) (i : Fin 8) :
    ((mult_avx512_128 a b).1.get i).toNat * 2^64 + ((mult_avx512_128 a b).2.get i).toNat =
      (a.get i).toNat * (b.get i).toNat := mult512_128_spec a b i

theorem C11_reduce_avx512_128_64 (c_h c_l : V8) (i : Fin 8) :
    ((reduce_avx512_128_64 c_h c_l).get i).toNat % P = ((c_h.get i).toNat * 2^64 + (c_l.get i).toNat) % P :=
  reduce512_128_spec c_h c_l i

/-- mult_avx512: general-purpose product -/
theorem C11_mult_avx512 (a b : V8) (i : Fin 8) :
    ((mult_avx512 a b).get i).toNat % P = ((a.get i).toNat * (b.get i).toNat) % P := mult512_spec a b i

/-- mult_avx512_72: multiplier below 2^32 -/
theorem C11_mult_avx512_72 (a b : V8) (i : Fin 8) (h : (b.get i).toNat < 2^32) :
    ((mult_avx512_72 a b).1.get i).toNat * 2^64 + ((mult_avx512_72 a b).2.get i).toNat =
      (a.get i).toNat * (b.get i).toNat ∧ ((mult_avx512_72 a b).1.get i).toNat < 2^32 := by
  have := mult512_72_spec a b i
  have e : (b.get i).toNat % 4294967296 = (b.get i).toNat := Nat.mod_eq_of_lt h
  rw [e] at this
  exact this

theorem C11_reduce_avx512_96_64 (c_h c_l : V8) (i : Fin 8) (h : (c_h.get i).toNat < 2^32) :
    ((reduce_avx512_96_64 c_h c_l).get i).toNat % P = ((c_h.get i).toNat * 2^64 + (c_l.get i).toNat) % P := by
  have := reduce512_96_spec c_h c_l i
  have e : (c_h.get i).toNat % 4294967296 = (c_h.get i).toNat := Nat.mod_eq_of_lt h
  rw [e] at this
  exact this

/-- mult_avx512_8: documented for multipliers below 2^8 -/
theorem C11_mult_avx512_8 (a b : V8) (i : Fin 8) (h : (b.get i).toNat < 2^8) :
    ((mult_avx512_8 a b).get i).toNat % P = ((a.get i).toNat * (b.get i).toNat) % P :=
  mult512_8_spec a b i (by have : (2:Nat)^8 < 4294967296 := by decide
                           omega)

theorem C11_square_avx512_128 (a : V8) (i : Fin 8) :
    ((square_avx512_128 a).1.get i).toNat * 2^64 + ((square_avx512_128 a).2.get i).toNat =
      (a.get i).toNat * (a.get i).toNat := square512_128_spec a i

theorem C11_square_avx512 (a : V8) (i : Fin 8) :
    ((square_avx512 a).get i).toNat % P = ((a.get i).toNat * (a.get i).toNat) % P := square512_spec a i

/-- the general-purpose kernels yield the field element the scalar op yields on the lane's operands -/
theorem C11_agrees_with_scalar (a b : V8) (i : Fin 8) :
    ((add_avx512__wWW a b).get i).toNat % P = C01.rd (Gen.Scalar.add__eEE (a.get i) (b.get i)) ∧
    ((mult_avx512 a b).get i).toNat % P = C01.rd (Gen.Scalar.mul__eEE (a.get i) (b.get i)) ∧
    ((square_avx512 a).get i).toNat % P = C01.rd (Gen.Scalar.square__rE (a.get i)) ∧
    ((toCanonical_avx512 a).get i) = Gen.Scalar.toU64__rE (a.get i) := by
  refine ⟨?_, ?_, ?_, ?_⟩
  · rw [C11_add_avx512, (C01.C01_add _ _).1]
  · rw [C11_mult_avx512, (C01.C01_mul _ _).1]
  · rw [C11_square_avx512, (C01.C01_square _).1]
  · apply BitVec.eq_of_toNat_eq
    rw [C11_toCanonical_avx512]
    exact (C01.rd_eq _).symm

/-- non-vacuity -/
example : ∃ b : V8, ∀ i, (b.get i).toNat < P ∧ 0 < (b.get i).toNat :=
  ⟨V8.splat 0xFFFFFFFF00000000#64, fun i => by simp [P]⟩

end GoldilocksVerif.C11
