-- GENERATED by tools/extspec.py from the C++ SIGNATURES (routine name, parameter types and names) of the current source.
-- Do not edit.  One theorem per batched / AVX2 / AVX512 cubic-extension overload: for element k the written
-- coefficients denote (in ZMod p) the K3 sum / difference / product of the k-th designated operands.
import GoldilocksVerif.Lemmas.ExtWrapL
namespace GoldilocksVerif.C16Gen
open GoldilocksVerif

/-- `mul13_batch(Goldilocks::Element * result, Goldilocks::Element * a, Goldilocks::Element * b, uint64_t stride_a, uint64_t stride_b)` -/
theorem G3_mul13_batch__pppEE_spec (result : Region) (a : Region) (b : Region) (stride_a : BitVec 64) (stride_b : BitVec 64) :
    Scatter3 4 (posD 3) (fun k => K3.mul ((base1 a (posS stride_a)) k) ((ext3 b (posS stride_b)) k)) result (Gen.ExtWrap.G3_mul13_batch__pppEE result a b stride_a stride_b) := by
  ext_body Gen.ExtWrap.G3_mul13_batch__pppEE
  ext_elems4

/-- `mul13_batch(Goldilocks::Element * result, Goldilocks::Element * a, Goldilocks::Element * b, const uint64_t * stride_a, const uint64_t * stride_b)` -/
theorem G3_mul13_batch__pppPP_spec (result : Region) (a : Region) (b : Region) (stride_a : Region) (stride_b : Region) :
    Scatter3 4 (posD 3) (fun k => K3.mul ((base1 a (posA stride_a)) k) ((ext3 b (posA stride_b)) k)) result (Gen.ExtWrap.G3_mul13_batch__pppPP result a b stride_a stride_b) := by
  ext_body Gen.ExtWrap.G3_mul13_batch__pppPP
  ext_elems4

/-- `mul13c_batch(Goldilocks::Element * result, Goldilocks::Element * a, Goldilocks3::Element & b, uint64_t stride_a)` -/
theorem G3_mul13c_batch__ppa3E_spec (result : Region) (a : Region) (b : Region) (stride_a : BitVec 64) :
    Scatter3 4 (posD 3) (fun k => K3.mul ((base1 a (posS stride_a)) k) ((ext3 b posC) k)) result (Gen.ExtWrap.G3_mul13c_batch__ppa3E result a b stride_a) := by
  ext_body Gen.ExtWrap.G3_mul13c_batch__ppa3E
  ext_elems4

/-- `mul13c_batch(Goldilocks::Element * result, Goldilocks::Element * a, Goldilocks3::Element & b, const uint64_t * stride_a)` -/
theorem G3_mul13c_batch__ppa3P_spec (result : Region) (a : Region) (b : Region) (stride_a : Region) :
    Scatter3 4 (posD 3) (fun k => K3.mul ((base1 a (posA stride_a)) k) ((ext3 b posC) k)) result (Gen.ExtWrap.G3_mul13c_batch__ppa3P result a b stride_a) := by
  ext_body Gen.ExtWrap.G3_mul13c_batch__ppa3P
  ext_elems4

/-- `mul13c_batch(Goldilocks::Element * result, Goldilocks::Element * a, Goldilocks::Element * b)` -/
theorem G3_mul13c_batch__ppp_spec (result : Region) (a : Region) (b : Region) :
    Scatter3 4 (posD 3) (fun k => K3.mul ((base1 a (posD 1)) k) ((ext3 b posC) k)) result (Gen.ExtWrap.G3_mul13c_batch__ppp result a b) := by
  ext_body Gen.ExtWrap.G3_mul13c_batch__ppp
  ext_elems4

/-- `mul1c3c_batch(Goldilocks::Element * result, Goldilocks::Element a, Goldilocks3::Element & b)` -/
theorem G3_mul1c3c_batch_spec (result : Region) (a : BitVec 64) (b : Region) :
    Scatter3 4 (posD 3) (fun k => K3.mul ((val1 a) k) ((ext3 b posC) k)) result (Gen.ExtWrap.G3_mul1c3c_batch result a b) := by
  ext_body Gen.ExtWrap.G3_mul1c3c_batch
  ext_elems4

/-- `mul33c_batch(Goldilocks::Element * result, Goldilocks::Element * a, Goldilocks::Element * b)` -/
theorem G3_mul33c_batch__ppp_spec (result : Region) (a : Region) (b : Region) :
    Scatter3 4 (posD 3) (fun k => K3.mul ((ext3 a (posD 3)) k) ((ext3 b posC) k)) result (Gen.ExtWrap.G3_mul33c_batch__ppp result a b) := by
  ext_body Gen.ExtWrap.G3_mul33c_batch__ppp
  ext_elems4

/-- `mul33c_batch(Goldilocks::Element * result, Goldilocks::Element * a, Goldilocks::Element * b, uint64_t stride_a)` -/
theorem G3_mul33c_batch__pppE_spec (result : Region) (a : Region) (b : Region) (stride_a : BitVec 64) :
    Scatter3 4 (posD 3) (fun k => K3.mul ((ext3 a (posS stride_a)) k) ((ext3 b posC) k)) result (Gen.ExtWrap.G3_mul33c_batch__pppE result a b stride_a) := by
  ext_body Gen.ExtWrap.G3_mul33c_batch__pppE
  ext_elems4

/-- `mul33c_batch(Goldilocks::Element * result, Goldilocks::Element * a, Goldilocks::Element * b, const uint64_t * stride_a)` -/
theorem G3_mul33c_batch__pppP_spec (result : Region) (a : Region) (b : Region) (stride_a : Region) :
    Scatter3 4 (posD 3) (fun k => K3.mul ((ext3 a (posA stride_a)) k) ((ext3 b posC) k)) result (Gen.ExtWrap.G3_mul33c_batch__pppP result a b stride_a) := by
  ext_body Gen.ExtWrap.G3_mul33c_batch__pppP
  ext_elems4

/-- `mul_batch(Goldilocks::Element * result, Goldilocks::Element * a, Goldilocks::Element * b, Goldilocks::Element * b_)`
    challenge product: b is one element, b_ holds (b0+b1, b0+b2, b1+b2) [hypothesis] -/
theorem G3_mul_batch__pppp_spec (result : Region) (a : Region) (b : Region) (b_ : Region)
    (h : ChalSums ((ext3 b posC) 0) (den (b_ 0)) (den (b_ 1)) (den (b_ 2))) :
    Scatter3 4 (posD 3) (fun k => K3.mul ((ext3 a (posD 3)) k) ((ext3 b posC) k)) result (Gen.ExtWrap.G3_mul_batch__pppp result a b b_) := by
  ext_body Gen.ExtWrap.G3_mul_batch__pppp
  obtain ⟨h0, h1, h2⟩ := h
  simp only [ext3, posC] at h0 h1 h2
  ext_elems4

/-- `mul_batch(Goldilocks::Element * result, Goldilocks::Element * a, Goldilocks::Element * b)` -/
theorem G3_mul_batch__ppp_spec (result : Region) (a : Region) (b : Region) :
    Scatter3 4 (posD 3) (fun k => K3.mul ((ext3 a (posD 3)) k) ((ext3 b (posD 3)) k)) result (Gen.ExtWrap.G3_mul_batch__ppp result a b) := by
  ext_body Gen.ExtWrap.G3_mul_batch__ppp
  ext_elems4

/-- `mul_batch(Goldilocks::Element * result, Goldilocks::Element * a, Goldilocks::Element * b, uint64_t stride0, uint64_t stride1)` -/
theorem G3_mul_batch__pppEE_spec (result : Region) (a : Region) (b : Region) (stride0 : BitVec 64) (stride1 : BitVec 64) :
    Scatter3 4 (posD 3) (fun k => K3.mul ((ext3 a (posS stride0)) k) ((ext3 b (posS stride1)) k)) result (Gen.ExtWrap.G3_mul_batch__pppEE result a b stride0 stride1) := by
  ext_body Gen.ExtWrap.G3_mul_batch__pppEE
  ext_elems4

/-- `mul_batch(Goldilocks::Element * result, Goldilocks::Element * a, Goldilocks::Element * b, const uint64_t * stride0, const uint64_t * stride1)` -/
theorem G3_mul_batch__pppPP_spec (result : Region) (a : Region) (b : Region) (stride0 : Region) (stride1 : Region) :
    Scatter3 4 (posD 3) (fun k => K3.mul ((ext3 a (posA stride0)) k) ((ext3 b (posA stride1)) k)) result (Gen.ExtWrap.G3_mul_batch__pppPP result a b stride0 stride1) := by
  ext_body Gen.ExtWrap.G3_mul_batch__pppPP
  ext_elems4

end GoldilocksVerif.C16Gen
