-- GENERATED by tools/extspec.py from the C++ SIGNATURES (routine name, parameter types and names) of the current source.
-- Do not edit.  One theorem per batched / AVX2 / AVX512 cubic-extension overload: for element k the written
-- coefficients denote (in ZMod p) the K3 sum / difference / product of the k-th designated operands.
import GoldilocksVerif.Lemmas.ExtWrapL
namespace GoldilocksVerif.C16Gen
open GoldilocksVerif

/-- `add13_avx512(__m512i * c_, const __m512i & a_, __m512i * b_)` -/
theorem G3_add13_avx512__nWn_spec (c_ : VRegion8) (a_ : V8) (b_ : VRegion8) :
    PlanarV8 (fun k => K3.add ((reg8 a_) k) ((vreg8 b_) k)) c_ (Gen.ExtWrap.G3_add13_avx512__nWn c_ a_ b_) := by
  ext_body Gen.ExtWrap.G3_add13_avx512__nWn
  exact PlanarV8.of_sets fun k hk => by ext_lane8 hk

/-- `add13_avx512(__m512i * c_, const Goldilocks::Element * a, __m512i * b_, uint64_t offset_a)` -/
theorem G3_add13_avx512__nPnE_spec (c_ : VRegion8) (a : Region) (b_ : VRegion8) (offset_a : BitVec 64) :
    PlanarV8 (fun k => K3.add ((base1 a (posS offset_a)) k) ((vreg8 b_) k)) c_ (Gen.ExtWrap.G3_add13_avx512__nPnE c_ a b_ offset_a) := by
  ext_body Gen.ExtWrap.G3_add13_avx512__nPnE
  exact PlanarV8.of_sets fun k hk => by ext_lane8 hk

/-- `add13_avx512(Goldilocks::Element * c, uint64_t stride_c, const __m512i & a_, __m512i * b_)` -/
theorem G3_add13_avx512__pEWn_spec (c : Region) (stride_c : BitVec 64) (a_ : V8) (b_ : VRegion8) :
    Scatter3 8 (posS stride_c) (fun k => K3.add ((reg8 a_) k) ((vreg8 b_) k)) c (Gen.ExtWrap.G3_add13_avx512__pEWn c stride_c a_ b_) := by
  ext_body Gen.ExtWrap.G3_add13_avx512__pEWn
  exact Scatter3.of_planar8 fun k hk => by ext_lane8 hk

/-- `add13_avx512(Goldilocks::Element * c, uint64_t * stride_c, const __m512i & a_, __m512i * b_)` -/
theorem G3_add13_avx512__ppWn_spec (c : Region) (stride_c : Region) (a_ : V8) (b_ : VRegion8) :
    Scatter3 8 (posA stride_c) (fun k => K3.add ((reg8 a_) k) ((vreg8 b_) k)) c (Gen.ExtWrap.G3_add13_avx512__ppWn c stride_c a_ b_) := by
  ext_body Gen.ExtWrap.G3_add13_avx512__ppWn
  exact Scatter3.of_planar8 fun k hk => by ext_lane8 hk

/-- `add13c_avx512(__m512i * c_, const __m512i & a_, const Goldilocks::Element * b)` -/
theorem G3_add13c_avx512__nWP_spec (c_ : VRegion8) (a_ : V8) (b : Region) :
    PlanarV8 (fun k => K3.add ((reg8 a_) k) ((ext3 b posC) k)) c_ (Gen.ExtWrap.G3_add13c_avx512__nWP c_ a_ b) := by
  ext_body Gen.ExtWrap.G3_add13c_avx512__nWP
  exact PlanarV8.of_sets fun k hk => by ext_lane8 hk

/-- `add13c_avx512(__m512i * c_, const Goldilocks::Element * a, const Goldilocks::Element * b, uint64_t offset_a)` -/
theorem G3_add13c_avx512__nPPE_spec (c_ : VRegion8) (a : Region) (b : Region) (offset_a : BitVec 64) :
    PlanarV8 (fun k => K3.add ((base1 a (posS offset_a)) k) ((ext3 b posC) k)) c_ (Gen.ExtWrap.G3_add13c_avx512__nPPE c_ a b offset_a) := by
  ext_body Gen.ExtWrap.G3_add13c_avx512__nPPE
  exact PlanarV8.of_sets fun k hk => by ext_lane8 hk

/-- `add1c3c_avx512(__m512i * c_, const Goldilocks::Element a, const Goldilocks::Element * b)` -/
theorem G3_add1c3c_avx512_spec (c_ : VRegion8) (a : BitVec 64) (b : Region) :
    PlanarV8 (fun k => K3.add ((val1 a) k) ((ext3 b posC) k)) c_ (Gen.ExtWrap.G3_add1c3c_avx512 c_ a b) := by
  ext_body Gen.ExtWrap.G3_add1c3c_avx512
  exact PlanarV8.of_sets fun k hk => by ext_lane8 hk

/-- `add31_avx512(__m512i & c0_, __m512i & c1_, __m512i & c2_, __m512i a0_, const __m512i a1_, const __m512i a2_, const Goldilocks::Element * b, uint64_t stride)` -/
theorem G3_add31_avx512_spec (a0_ : V8) (a1_ : V8) (a2_ : V8) (b : Region) (stride : BitVec 64) :
    Planar8 (fun k => K3.add ((regs8 a0_ a1_ a2_) k) ((base1 b (posS stride)) k)) (Gen.ExtWrap.G3_add31_avx512 a0_ a1_ a2_ b stride).1 (Gen.ExtWrap.G3_add31_avx512 a0_ a1_ a2_ b stride).2.1 (Gen.ExtWrap.G3_add31_avx512 a0_ a1_ a2_ b stride).2.2 := by
  ext_body Gen.ExtWrap.G3_add31_avx512
  intro k hk
  ext_lane8 hk

/-- `add33c_avx512(__m512i * c_, __m512i * a_, const Goldilocks::Element * b)` -/
theorem G3_add33c_avx512__nnP_spec (c_ : VRegion8) (a_ : VRegion8) (b : Region) :
    PlanarV8 (fun k => K3.add ((vreg8 a_) k) ((ext3 b posC) k)) c_ (Gen.ExtWrap.G3_add33c_avx512__nnP c_ a_ b) := by
  ext_body Gen.ExtWrap.G3_add33c_avx512__nnP
  exact PlanarV8.of_sets fun k hk => by ext_lane8 hk

/-- `add33c_avx512(__m512i * c_, Goldilocks::Element * a, Goldilocks::Element * b, uint64_t stride_a)` -/
theorem G3_add33c_avx512__nppE_spec (c_ : VRegion8) (a : Region) (b : Region) (stride_a : BitVec 64) :
    PlanarV8 (fun k => K3.add ((ext3 a (posS stride_a)) k) ((ext3 b posC) k)) c_ (Gen.ExtWrap.G3_add33c_avx512__nppE c_ a b stride_a) := by
  ext_body Gen.ExtWrap.G3_add33c_avx512__nppE
  exact PlanarV8.of_sets fun k hk => by ext_lane8 hk

/-- `add33c_avx512(Goldilocks::Element * c, uint64_t stride_c, __m512i * a_, const Goldilocks::Element * b)` -/
theorem G3_add33c_avx512__pEnP_spec (c : Region) (stride_c : BitVec 64) (a_ : VRegion8) (b : Region) :
    Scatter3 8 (posS stride_c) (fun k => K3.add ((vreg8 a_) k) ((ext3 b posC) k)) c (Gen.ExtWrap.G3_add33c_avx512__pEnP c stride_c a_ b) := by
  ext_body Gen.ExtWrap.G3_add33c_avx512__pEnP
  exact Scatter3.of_planar8 fun k hk => by ext_lane8 hk

/-- `add33c_avx512(Goldilocks::Element * c, uint64_t * stride_c, __m512i * a_, const Goldilocks::Element * b)` -/
theorem G3_add33c_avx512__ppnP_spec (c : Region) (stride_c : Region) (a_ : VRegion8) (b : Region) :
    Scatter3 8 (posA stride_c) (fun k => K3.add ((vreg8 a_) k) ((ext3 b posC) k)) c (Gen.ExtWrap.G3_add33c_avx512__ppnP c stride_c a_ b) := by
  ext_body Gen.ExtWrap.G3_add33c_avx512__ppnP
  exact Scatter3.of_planar8 fun k hk => by ext_lane8 hk

/-- `add_avx512(__m512i * c_, __m512i * a_, __m512i * b_)` -/
theorem G3_add_avx512__nnn_spec (c_ : VRegion8) (a_ : VRegion8) (b_ : VRegion8) :
    PlanarV8 (fun k => K3.add ((vreg8 a_) k) ((vreg8 b_) k)) c_ (Gen.ExtWrap.G3_add_avx512__nnn c_ a_ b_) := by
  ext_body Gen.ExtWrap.G3_add_avx512__nnn
  exact PlanarV8.of_sets fun k hk => by ext_lane8 hk

/-- `add_avx512(__m512i * c_, const Goldilocks::Element * a, __m512i * b_, uint64_t stride_a)` -/
theorem G3_add_avx512__nPnE_spec (c_ : VRegion8) (a : Region) (b_ : VRegion8) (stride_a : BitVec 64) :
    PlanarV8 (fun k => K3.add ((ext3 a (posS stride_a)) k) ((vreg8 b_) k)) c_ (Gen.ExtWrap.G3_add_avx512__nPnE c_ a b_ stride_a) := by
  ext_body Gen.ExtWrap.G3_add_avx512__nPnE
  exact PlanarV8.of_sets fun k hk => by ext_lane8 hk

/-- `add_avx512(Goldilocks::Element * c, uint64_t stride_c, const Goldilocks::Element * a, __m512i * b_, uint64_t stride_a)` -/
theorem G3_add_avx512__pEPnE_spec (c : Region) (stride_c : BitVec 64) (a : Region) (b_ : VRegion8) (stride_a : BitVec 64) :
    Scatter3 8 (posS stride_c) (fun k => K3.add ((ext3 a (posS stride_a)) k) ((vreg8 b_) k)) c (Gen.ExtWrap.G3_add_avx512__pEPnE c stride_c a b_ stride_a) := by
  ext_body Gen.ExtWrap.G3_add_avx512__pEPnE
  exact Scatter3.of_planar8 fun k hk => by ext_lane8 hk

/-- `add_avx512(Goldilocks::Element * c, uint64_t * stride_c, const Goldilocks::Element * a, __m512i * b_, uint64_t stride_a)` -/
theorem G3_add_avx512__ppPnE_spec (c : Region) (stride_c : Region) (a : Region) (b_ : VRegion8) (stride_a : BitVec 64) :
    Scatter3 8 (posA stride_c) (fun k => K3.add ((ext3 a (posS stride_a)) k) ((vreg8 b_) k)) c (Gen.ExtWrap.G3_add_avx512__ppPnE c stride_c a b_ stride_a) := by
  ext_body Gen.ExtWrap.G3_add_avx512__ppPnE
  exact Scatter3.of_planar8 fun k hk => by ext_lane8 hk

/-- `add_avx512(__m512i & c0_, __m512i & c1_, __m512i & c2_, const __m512i a0_, const __m512i a1_, const __m512i a2_, const __m512i b0_, const __m512i b1_, const __m512i b2_)` -/
theorem G3_add_avx512__wwwWWWWWW_spec (a0_ : V8) (a1_ : V8) (a2_ : V8) (b0_ : V8) (b1_ : V8) (b2_ : V8) :
    Planar8 (fun k => K3.add ((regs8 a0_ a1_ a2_) k) ((regs8 b0_ b1_ b2_) k)) (Gen.ExtWrap.G3_add_avx512__wwwWWWWWW a0_ a1_ a2_ b0_ b1_ b2_).1 (Gen.ExtWrap.G3_add_avx512__wwwWWWWWW a0_ a1_ a2_ b0_ b1_ b2_).2.1 (Gen.ExtWrap.G3_add_avx512__wwwWWWWWW a0_ a1_ a2_ b0_ b1_ b2_).2.2 := by
  ext_body Gen.ExtWrap.G3_add_avx512__wwwWWWWWW
  intro k hk
  ext_lane8 hk

/-- `add_avx512(__m512i & c0_, __m512i & c1_, __m512i & c2_, const __m512i a0_, const __m512i a1_, const __m512i a2_, const Goldilocks::Element * b, uint64_t stride)` -/
theorem G3_add_avx512__wwwWWWPE_spec (a0_ : V8) (a1_ : V8) (a2_ : V8) (b : Region) (stride : BitVec 64) :
    Planar8 (fun k => K3.add ((regs8 a0_ a1_ a2_) k) ((ext3 b (posS stride)) k)) (Gen.ExtWrap.G3_add_avx512__wwwWWWPE a0_ a1_ a2_ b stride).1 (Gen.ExtWrap.G3_add_avx512__wwwWWWPE a0_ a1_ a2_ b stride).2.1 (Gen.ExtWrap.G3_add_avx512__wwwWWWPE a0_ a1_ a2_ b stride).2.2 := by
  ext_body Gen.ExtWrap.G3_add_avx512__wwwWWWPE
  intro k hk
  ext_lane8 hk

end GoldilocksVerif.C16Gen
