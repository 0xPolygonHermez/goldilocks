/-
  Arrays of vector registers (core-only): `__m256i *`, `__m256i[3]`, `Goldilocks3::Element_avx`, `Element_avx &`
  (and the `__m512i` counterparts) in the generated models.  `VRegion4` / `VRegion8` are to `V4` / `V8` what `Region`
  is to 64-bit words: the content a pointer designates, indexed in registers, with functional update.
  Structures (not bare function types) for the same reason as `Region` (see Model/Region.lean).
-/
import GoldilocksVerif.Isa.Vec

namespace GoldilocksVerif

structure VRegion4 where
  get : Nat → V4

instance : CoeFun VRegion4 (fun _ => Nat → V4) := ⟨VRegion4.get⟩

namespace VRegion4
@[ext] theorem ext' (a b : VRegion4) (h : ∀ i, a i = b i) : a = b := by
  cases a; cases b; congr; funext i; exact h i
def zero : VRegion4 := ⟨fun _ => V4.zero⟩
/-- `r[i] = v` -/
def set (r : VRegion4) (i : Nat) (v : V4) : VRegion4 := ⟨fun j => if j = i then v else r j⟩
/-- the three registers of a planar cubic-extension operand (`Goldilocks3::Element_avx`) -/
def mk3 (r0 r1 r2 : V4) : VRegion4 := ⟨fun j => if j = 0 then r0 else if j = 1 then r1 else if j = 2 then r2 else V4.zero⟩
def toList3 (r : VRegion4) : List (BitVec 64) := (r 0).toList ++ (r 1).toList ++ (r 2).toList
@[simp] theorem mk_apply (f : Nat → V4) (i : Nat) : (VRegion4.mk f) i = f i := rfl
theorem set_apply (r : VRegion4) (i j : Nat) (v : V4) : (set r i v) j = if j = i then v else r j := rfl
@[simp] theorem set_same (r : VRegion4) (i : Nat) (v : V4) : (set r i v) i = v := by simp [set]
theorem set_other (r : VRegion4) (i j : Nat) (v : V4) (h : j ≠ i) : (set r i v) j = r j := by simp [set, h]
theorem set_set (r : VRegion4) (i : Nat) (v w : V4) : (r.set i v).set i w = r.set i w := by
  apply ext'; intro j
  simp only [set_apply]
  split <;> rfl
end VRegion4

structure VRegion8 where
  get : Nat → V8

instance : CoeFun VRegion8 (fun _ => Nat → V8) := ⟨VRegion8.get⟩

namespace VRegion8
@[ext] theorem ext' (a b : VRegion8) (h : ∀ i, a i = b i) : a = b := by
  cases a; cases b; congr; funext i; exact h i
def zero : VRegion8 := ⟨fun _ => V8.zero⟩
def set (r : VRegion8) (i : Nat) (v : V8) : VRegion8 := ⟨fun j => if j = i then v else r j⟩
/-- the three registers of a planar cubic-extension operand (`Goldilocks3::Element_avx512`) -/
def mk3 (r0 r1 r2 : V8) : VRegion8 := ⟨fun j => if j = 0 then r0 else if j = 1 then r1 else if j = 2 then r2 else V8.zero⟩
def toList3 (r : VRegion8) : List (BitVec 64) := (r 0).toList ++ (r 1).toList ++ (r 2).toList
@[simp] theorem mk_apply (f : Nat → V8) (i : Nat) : (VRegion8.mk f) i = f i := rfl
theorem set_apply (r : VRegion8) (i j : Nat) (v : V8) : (set r i v) j = if j = i then v else r j := rfl
@[simp] theorem set_same (r : VRegion8) (i : Nat) (v : V8) : (set r i v) i = v := by simp [set]
theorem set_other (r : VRegion8) (i j : Nat) (v : V8) (h : j ≠ i) : (set r i v) j = r j := by simp [set, h]
theorem set_set (r : VRegion8) (i : Nat) (v w : V8) : (r.set i v).set i w = r.set i w := by
  apply ext'; intro j
  simp only [set_apply]
  split <;> rfl
end VRegion8

end GoldilocksVerif
