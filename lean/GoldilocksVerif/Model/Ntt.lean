/-
  Hand-written executable model of `NTT_Goldilocks` (ntt_goldilocks.hpp / ntt_goldilocks.cpp), function by function:
  constructor, computeR, BR, reversePermutation (four branches), NTT_iters (phase/batch schedule, twiddle index rotation,
  transposing copy, fused last inverse pass), NTT (column blocks, temporary destination), INTT, extendPol, and the
  object state (roots, powTwoInv, r/r_ cache).  Field operations are the GENERATED scalar operations.
  Core-only.  Tied to the code by the correspondence runs of C03/C04/C05/C19.

  Every C loop is a pure fold (`iter`, `List.foldl`) whose body is a named top-level function, one per loop of the C code:
    bflyStep / bfly (columns of one butterfly) ⊂ stageStep / stage (butterflies of one stage of one batch) ⊂ batchStages
    (stages of one pass on one batch) ⊂ passBatch (+ transposeCopy | inverseCopy/scaleRow) ⊂ pass (batches of one pass,
    pointer swap) ⊂ nttIters (reversePermutation, passes over `schedule`, final copy) ⊂ nttBlock / nttBlocks (column
    blocks, scatterBlock) ⊂ ntt.  This is the shape the proofs in Lemmas/Ntt*.lean follow (DESIGN.NTT.md).

  Buffers are row-major `Array (BitVec 64)`; the three pointer relations of a call (destination = source, destination
  distinct, destination NULL) are explicit; `Except` carries the aborts (`assert`).
  `int` / `u_int64_t` index arithmetic is on `Nat`: exact for log2 size ≤ 30 (DESIGN.md §6).
-/
import GoldilocksVerif.Gen.Scalar

namespace GoldilocksVerif.Model.Ntt
open Gen.Scalar GoldilocksVerif

abbrev W := BitVec 64
abbrev Buf := Array W

/-- `for (i = 0; i < n; i++)` -/
def iter {σ : Type} (n : Nat) (s : σ) (f : Nat → σ → σ) : σ := Loop.range 0 n 1 s f

def log2 (size : Nat) : Nat := Nat.log2 size

/-- `BR(x, domainPow)`: the five swap lines on a 64-bit word, then `>> (32 - domainPow)` -/
def br (x domainPow : Nat) : Nat :=
  let x : W := BitVec.ofNat 64 x
  let x := (x >>> 16) ||| (x <<< 16)
  let x := ((x &&& 0xFF00FF00#64) >>> 8) ||| ((x &&& 0x00FF00FF#64) <<< 8)
  let x := ((x &&& 0xF0F0F0F0#64) >>> 4) ||| ((x &&& 0x0F0F0F0F#64) <<< 4)
  let x := ((x &&& 0xCCCCCCCC#64) >>> 2) ||| ((x &&& 0x33333333#64) <<< 2)
  ((((x &&& 0xAAAAAAAA#64) >>> 1) ||| ((x &&& 0x55555555#64) <<< 1)) >>> (32 - domainPow)).toNat

/-- copy `n` words from `src[so..]` to `dst[d0..]` (memcpy) -/
def copyRow (dst : Buf) (d0 : Nat) (src : Buf) (so n : Nat) : Buf :=
  iter n dst (fun k d => d.setIfInBounds (d0 + k) (src.getD (so + k) 0#64))
def zeroRow (dst : Buf) (d0 n : Nat) : Buf :=
  iter n dst (fun k d => d.setIfInBounds (d0 + k) 0#64)

/-- the transform object -/
structure Obj where
  s : Nat
  roots : Array W
  powTwoInv : Array W
  extension : Nat
  /-- the shift-power cache of extendPol: (N it was built for, r, r_) -/
  rcache : Option (Nat × Array W × Array W)

/-- constructor `NTT_Goldilocks(maxDomainSize, nThreads, extension)`; `none` = "Domain size too big" is thrown -/
def mkObj (maxDomainSize : Nat) (extension : Nat) : Option Obj :=
  if maxDomainSize = 0 then some ⟨0, #[], #[], extension, none⟩ else
  let domainPow := log2 maxDomainSize
  -- s = 1; while (bit 0 of (p-1)/2 >> (s-1) is 0 && s < domainPow) s++   ((p-1)/2 has 31 trailing zero bits)
  let s := if domainPow ≤ 1 then 1 else min domainPow 32
  if s < domainPow then none else
  let nRoots := 2 ^ s
  let r1 := w__rE (BitVec.ofNat 64 domainPow)
  let roots := iter (nRoots - 2) (#[one__r, r1] : Array W) (fun i a => a.push (mul__rEE (a.getD (i + 1) 0#64) r1))
  let half : W := 9223372034707292161#64     -- mpz_invert(2, p) = (p + 1) / 2
  let pti := iter (s - 1) (#[one__r, half] : Array W) (fun i a => a.push (mul__rEE (a.getD (i + 1) 0#64) half))
  some ⟨s, roots, pti, extension, none⟩

/-- `root(domainPow, idx) = roots[idx << (s - domainPow)]` -/
def root (o : Obj) (domainPow idx : Nat) : W := o.roots.getD (idx * 2 ^ (o.s - domainPow)) 0#64

/-- `computeR(N)` : r[i] = shift^i, r_[i] = shift^i / N -/
def computeR (o : Obj) (N : Nat) : Nat × Array W × Array W :=
  let domainPow := log2 N
  let pinv := o.powTwoInv.getD domainPow 0#64
  let init : Array W × Array W := (#[one__r], #[pinv])
  let rr := iter (N - 1) init (fun i st =>
    let ri := mul__eEE (st.1.getD i 0#64) shift__r
    (st.1.push ri, st.2.push (mul__eEE ri pinv)))
  (N, rr.1, rr.2)

/-- `intt_idx(i, N)` -/
def inttIdx (i N : Nat) : Nat := if N - i = N then 0 else N - i

/-- `reversePermutation(dst, src, size, offset_cols, ncols, ncols_all)`.
    `inPlace` = (dst == src); returns the new destination buffer. -/
def reversePermutation (o : Obj) (dst src : Buf) (inPlace : Bool) (size offset_cols ncols ncols_all : Nat) :
    Except String Buf :=
  let domainSize := log2 size
  if !inPlace then
    if o.extension ≤ 1 then
      .ok (iter size dst (fun i d =>
        copyRow d (i * ncols) src (br i domainSize * ncols_all + offset_cols) ncols))
    else
      let ext_ := (size / o.extension) * ncols_all
      .ok (iter size dst (fun i d =>
        let offset_r1 := br i domainSize * ncols_all + offset_cols
        if offset_r1 < ext_ then copyRow d (i * ncols) src offset_r1 ncols else zeroRow d (i * ncols) ncols))
  else
    if !(offset_cols = 0 ∧ ncols = ncols_all) then .error "assert(offset_cols == 0 && ncols == ncols_all)"
    else if o.extension ≤ 1 then
      .ok (iter size src (fun i d =>
        let r := br i domainSize
        if r < i then
          let tmp := copyRow (Array.replicate ncols 0#64) 0 d (r * ncols) ncols
          let d := copyRow d (r * ncols) d (i * ncols) ncols
          copyRow d (i * ncols) tmp 0 ncols
        else d))
    else
      -- zero-extending bit reversal in place (rows ≥ size/extension count as zero)
      let nIn := size / o.extension
      .ok (iter size src (fun i d =>
        let r := br i domainSize
        if r < i then
          let tmp := if r < nIn then copyRow (Array.replicate ncols 0#64) 0 d (r * ncols) ncols else Array.replicate ncols 0#64
          let d := if i < nIn then copyRow d (r * ncols) d (i * ncols) ncols else zeroRow d (r * ncols) ncols
          copyRow d (i * ncols) tmp 0 ncols
        else if r = i ∧ nIn ≤ i then zeroRow d (i * ncols) ncols
        else d))

/-- the two field operations of one butterfly on column `k`:
    `t = w * a[offset1 + k]; u = a[offset2 + k]; a[offset2 + k] = t + u; a[offset1 + k] = u - t` -/
def bflyStep (w : W) (offset1 offset2 : Nat) (k : Nat) (a : Buf) : Buf :=
  let t := mul__rEE w (a.getD (offset1 + k) 0#64)
  let u := a.getD (offset2 + k) 0#64
  let a := a.setIfInBounds (offset2 + k) (add__eEE t u)
  a.setIfInBounds (offset1 + k) (sub__eEE u t)

/-- `for (k = 0; k < ncols; ++k)` of one butterfly (a pair of rows) -/
def bfly (a : Buf) (w : W) (offset1 offset2 ncols : Nat) : Buf :=
  iter ncols a (bflyStep w offset1 offset2)

/-- the twiddle index of butterfly `i` of batch `b`: `j = b*batchSize/2 + i; j = (j & rm)*rb + (j >> (re-rs)); j %= mdiv2`
    (`rm = 2^(re-rs) - 1`, so `j & rm = j % 2^(re-rs)`) -/
def twIdx (s si b batchSize rs re rb : Nat) (i : Nat) : Nat :=
  let j := b * batchSize / 2 + i
  let j := (j % 2 ^ (re - rs)) * rb + j / 2 ^ (re - rs)
  j % (2 ^ (s + si) / 2)

/-- body of `for (i = 0; i < (batchSize >> 1); i++)` -/
def stageStep (o : Obj) (s si b batchSize ncols rs re rb : Nat) (i : Nat) (a : Buf) : Buf :=
  let mdiv2i := 2 ^ si
  let mi := mdiv2i * 2
  let ki := b * batchSize + (i / mdiv2i) * mi
  let ji := i % mdiv2i
  let offset1 := (ki + ji + mdiv2i) * ncols
  let offset2 := (ki + ji) * ncols
  let w := root o (s + si) (twIdx s si b batchSize rs re rb i)
  bfly a w offset1 offset2 ncols

/-- one butterfly stage `si` of batch `b` on buffer `a` -/
def stage (o : Obj) (a : Buf) (s si b batchSize ncols rs re rb rm : Nat) : Buf :=
  let _ := rm
  iter (batchSize / 2) a (stageStep o s si b batchSize ncols rs re rb)

/-- the schedule of passes: list of (s, sInc) — `for (s = 1; s <= domainPow; s += maxBatchPow, ++count)` -/
def schedule (domainPow nphase : Nat) : List (Nat × Nat) :=
  let maxBatchPow0 := domainPow / nphase + (if domainPow % nphase > 0 then 1 else 0)
  let res := domainPow % nphase
  let rec go (fuel s count maxBatchPow : Nat) (acc : List (Nat × Nat)) : List (Nat × Nat) :=
    match fuel with
    | 0 => acc.reverse
    | fuel + 1 =>
      if s > domainPow then acc.reverse else
      let maxBatchPow := if res > 0 ∧ count = res + 1 ∧ maxBatchPow > 1 then maxBatchPow - 1 else maxBatchPow
      let sInc := if s + maxBatchPow ≤ domainPow then maxBatchPow else domainPow - s + 1
      if maxBatchPow = 0 then acc.reverse else       -- (cannot happen for domainPow ≥ 1: the C loop would not advance)
      go fuel (s + maxBatchPow) (count + 1) maxBatchPow ((s, sInc) :: acc)
  go (domainPow + 1) 1 1 maxBatchPow0 []

/-- `for (si = 0; si < sInc; si++)`: all stages of one pass on batch `b` -/
def batchStages (o : Obj) (a : Buf) (s sInc b batchSize ncols rs re rb rm : Nat) : Buf :=
  iter sInc a (fun si a => stage o a s si b batchSize ncols rs re rb rm)

/-- the transposing copy of batch `b`: `memcpy(&a2[(x*nBatches + b)*ncols], &a[(b*batchSize + x)*ncols], ncols)` for all x -/
def transposeCopy (a2 a : Buf) (b batchSize nBatches ncols : Nat) : Buf :=
  iter batchSize a2 (fun x a2 => copyRow a2 ((x * nBatches + b) * ncols) a ((b * batchSize + x) * ncols) ncols)

/-- the scaling factor of the fused last inverse pass: `r_[dsty]` (extend) or `powTwoInv[domainPow]` -/
def scaleFactor (o : Obj) (extend : Bool) (domainPow dsty : Nat) : W :=
  if extend then
    match o.rcache with
    | some (_, _, r_) => r_.getD dsty 0#64
    | none => 0#64
  else o.powTwoInv.getD domainPow 0#64

/-- `for (k = 0; k < ncols; k++) mul(a2[d0 + k], a[s0 + k], f)` -/
def scaleRow (a2 a : Buf) (d0 s0 ncols : Nat) (f : W) : Buf :=
  iter ncols a2 (fun k a2 => a2.setIfInBounds (d0 + k) (mul__eEE (a.getD (s0 + k) 0#64) f))

/-- the reflecting, scaling copy of batch `b` in the last pass of an inverse transform -/
def inverseCopy (o : Obj) (a2 a : Buf) (b batchSize nBatches ncols size domainPow : Nat) (extend : Bool) : Buf :=
  iter batchSize a2 (fun x a2 =>
    let dsty := inttIdx (x * nBatches + b) size
    scaleRow a2 a (dsty * ncols) ((b * batchSize + x) * ncols) ncols (scaleFactor o extend domainPow dsty))

/-- body of `for (b = 0; b < nBatches; b++)`; state = (a, a2) -/
def passBatch (o : Obj) (size domainPow ncols s sInc : Nat) (lastInv extend : Bool) (b : Nat) (st : Buf × Buf) : Buf × Buf :=
  let rs := s - 1
  let re := domainPow - 1
  let rb := 2 ^ rs
  let rm := 2 ^ (re - rs) - 1
  let batchSize := 2 ^ sInc
  let nBatches := size / batchSize
  let a' := batchStages o st.1 s sInc b batchSize ncols rs re rb rm
  let a2' := if lastInv then inverseCopy o st.2 a' b batchSize nBatches ncols size domainPow extend
             else transposeCopy st.2 a' b batchSize nBatches ncols
  (a', a2')

/-- one pass `(s, sInc)` of the `for (s = 1; s <= domainPow; ...)` loop, including the pointer swap at its end.
    state = (a, a2, does `a` designate dst_ ?) -/
def pass (o : Obj) (size domainPow ncols : Nat) (inverse extend : Bool) (st : Buf × Buf × Bool) (p : Nat × Nat) :
    Buf × Buf × Bool :=
  let s := p.1
  let sInc := p.2
  let nBatches := size / 2 ^ sInc
  let lastInv := !(s + sInc ≤ domainPow) && inverse   -- !(s + maxBatchPow <= domainPow || !inverse); sInc = maxBatchPow unless last
  let r := iter nBatches (st.1, st.2.1) (passBatch o size domainPow ncols s sInc lastInv extend)
  (r.2, r.1, !st.2.2)

/-- the clamp of `nphase` -/
def clampPhase (nphase domainPow : Nat) : Nat :=
  if nphase < 1 ∨ domainPow = 0 then 1 else if nphase > domainPow then domainPow else nphase

/-- `NTT_iters`.  Buffers: `dstB` (when the destination is distinct from the source), `srcB`, `auxB`.
    `dstIsSrc` covers both dst == src and dst == NULL.  Returns (destination content, source content). -/
def nttIters (o : Obj) (dstB srcB auxB : Buf) (dstIsSrc : Bool) (size offset_cols ncols ncols_all nphase : Nat)
    (inverse extend : Bool) : Except String (Buf × Buf) :=
  let domainPow := log2 size
  if 2 ^ domainPow ≠ size then .error "assert((1 << domainPow) == size)" else
  let nphase := clampPhase nphase domainPow
  let isOdd : Bool := nphase % 2 = 1
  -- a = dst_, a2 = aux; the bit reversal writes a2 when nphase is odd and a otherwise
  let a0 := if dstIsSrc then srcB else dstB
  -- after the (conditional) swap: (a, a2, does `a` designate dst_ ?)
  let st0 : Except String (Buf × Buf × Bool) :=
    if isOdd then
      match reversePermutation o auxB srcB false size offset_cols ncols ncols_all with
      | .error e => .error e
      | .ok t => .ok (t, a0, false)          -- a = aux (holding the permuted data), a2 = dst_
    else
      match reversePermutation o a0 srcB dstIsSrc size offset_cols ncols ncols_all with
      | .error e => .error e
      | .ok t => .ok (t, auxB, true)
  match st0 with
  | .error e => .error e
  | .ok st0 =>
    let st := (schedule domainPow nphase).foldl (pass o size domainPow ncols inverse extend) st0
    let a := st.1
    let a2 := st.2.1
    let aIsDst := st.2.2
    if !aIsDst then
      if size > 1 then .error "assert(0) // should never need this copy" else
      -- parcpy(dst_, a, size * ncols)
      let d := copyRow a2 0 a 0 (size * ncols)
      if dstIsSrc then .ok (d, d) else .ok (d, srcB)
    else
      if dstIsSrc then .ok (a, a) else .ok (a, srcB)

/-- where the destination of a call is -/
inductive DstMode where
  | same      -- dst == src
  | other     -- dst is a different buffer
  | null      -- dst == NULL
  deriving DecidableEq, Repr

/-- `memcpy(&dst[ie * ncols + offset_cols], &dst_[ie * aux_ncols], aux_ncols)` for all rows -/
def scatterBlock (dst d : Buf) (size ncols offset_cols aux_ncols : Nat) : Buf :=
  iter size dst (fun ie dst => copyRow dst (ie * ncols + offset_cols) d (ie * aux_ncols) aux_ncols)

/-- body of `for (ib = 0; ib < nblock; ++ib)` when `nblock > 1`; state = (dst, src, offset_cols) or the abort -/
def nttBlock (o : Obj) (aux : Buf) (dstIsSrc : Bool) (size ncols nphase ncols_block ncols_res ncols_alloc : Nat)
    (inverse extend : Bool) (ib : Nat) (st : Except String (Buf × Buf × Nat)) : Except String (Buf × Buf × Nat) :=
  match st with
  | .error e => .error e
  | .ok (dst, src, offset_cols) =>
    let aux_ncols := ncols_block + (if ib < ncols_res then 1 else 0)
    let tmpDst : Buf := Array.replicate (size * ncols_alloc) 0#64
    match nttIters o tmpDst src aux false size offset_cols aux_ncols ncols nphase inverse extend with
    | .error e => .error e
    | .ok (d, _) =>
      let dst := scatterBlock dst d size ncols offset_cols aux_ncols
      .ok (dst, if dstIsSrc then dst else src, offset_cols + aux_ncols)

/-- the clamp of `nblock` -/
def clampBlock (nblock ncols : Nat) : Nat :=
  if nblock < 1 then 1 else if nblock > ncols then ncols else nblock

/-- `NTT` after the early return, the clamp of `nblock` and `if (dst == NULL) dst = src;` -/
def nttBlocks (o : Obj) (dstIsSrc : Bool) (dstB srcB : Buf) (size ncols nphase nblock : Nat) (inverse extend : Bool) :
    Except String (Buf × Buf) :=
  let ncols_block := ncols / nblock
  let ncols_res := ncols % nblock
  let ncols_alloc := ncols_block + (if ncols_res > 0 then 1 else 0)
  let aux : Buf := Array.replicate (size * ncols_alloc) 0#64
  if nblock ≤ 1 then
    nttIters o dstB srcB aux dstIsSrc size 0 ncols ncols nphase inverse extend
  else
    -- temporary destination dst_, results scattered column block by column block into dst
    let dst0 := if dstIsSrc then srcB else dstB
    match iter nblock (.ok (dst0, srcB, 0))
        (nttBlock o aux dstIsSrc size ncols nphase ncols_block ncols_res ncols_alloc inverse extend) with
    | .error e => .error e
    | .ok (dst, src, _) => .ok (dst, src)

/-- `NTT(dst, src, size, ncols, buffer, nphase, nblock, inverse, extend)`; returns (dst content, src content).
    `dstB` is the initial content of the destination buffer when it is distinct from the source. -/
def ntt (o : Obj) (mode : DstMode) (dstB srcB : Buf) (size ncols nphase nblock : Nat) (inverse extend : Bool) :
    Except String (Buf × Buf) :=
  if ncols = 0 ∨ size = 0 then
    .ok (if mode = .other then dstB else srcB, srcB)
  else
    -- dstIsSrc: after `if (dst == NULL) dst = src;`
    nttBlocks o (mode ≠ .other) dstB srcB size ncols nphase (clampBlock nblock ncols) inverse extend

/-- `INTT(dst, src, size, ncols, buffer, nphase, nblock, extend)` -/
def intt (o : Obj) (mode : DstMode) (dstB srcB : Buf) (size ncols nphase nblock : Nat) (extend : Bool) :
    Except String (Buf × Buf) :=
  if ncols = 0 ∨ size = 0 then .ok (if mode = .other then dstB else srcB, srcB)
  else ntt o (if mode = .null then .same else mode) dstB srcB size ncols nphase nblock true extend

/-- `if (r == NULL || r_N != N) { ...; computeR(N); }` -/
def refreshCache (o : Obj) (n : Nat) : Obj :=
  match o.rcache with
  | some (n0, _, _) => if n0 = n then o else { o with rcache := some (computeR o n) }
  | none => { o with rcache := some (computeR o n) }

/-- `extendPol(output, input, N_Extended, N, ncols, buffer, nphase, nblock)`; the object's r cache is updated.
    `outB`: initial content of `output` (N_Extended rows) when distinct from `input`; when `same`, `inB` has N_Extended rows. -/
def extendPol (o : Obj) (same : Bool) (outB inB : Buf) (nExt n ncols nphase nblock : Nat) :
    Except String (Obj × Buf) :=
  match mkObj nExt (nExt / n) with
  | none => .error "range_error"
  | some oext =>
    let o := refreshCache o n
    match intt o (if same then .same else .other) outB inB n ncols nphase nblock true with
    | .error e => .error e
    | .ok (out1, _) =>
      match ntt oext .same #[] out1 nExt ncols nphase nblock false false with
      | .error e => .error e
      | .ok (out2, _) => .ok (o, out2)

end GoldilocksVerif.Model.Ntt
