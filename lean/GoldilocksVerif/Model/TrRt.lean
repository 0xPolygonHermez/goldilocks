/-
  Run-time support of the EXTENDED translator (tools/tr_cxx.py, "ext" mode): loops whose trip count is not known before
  the loop, functions that can end the process, doubles that hold integers.  Core-only.

  A generated function is *partial* when it (transitively) contains a fuel-bounded loop or a call that ends the process
  (`exit`, `throw`).  A partial function takes `(fuel : Nat)` as its first parameter and returns `Option τ`:
    `none`   = the process was ended by the code (exit(-1) / throw)  OR  some loop ran out of fuel;
    `some r` = normal return with results r.
  `fuel` bounds the number of iterations of EVERY fuel-bounded loop separately (it is not a shared budget): each
  `while` / `for(;;)` / non-affine `for` runs at most `fuel - 1` iterations (one unit is used by the final evaluation of
  the loop condition).  The bridge theorems (Lemmas/Bridge*.lean) state from which fuel on `none` can only mean "ended
  by the code".
-/
import GoldilocksVerif.Model.Region

namespace GoldilocksVerif

namespace Loop

/-- `while (c) body` / `for (;;) body` with `break` / `continue`: `step s` evaluates the condition and one iteration:
    `some (false, s')` = the loop is left with state s' (condition false, or `break`),
    `some (true, s')`  = next iteration from s' (end of body, or `continue`),
    `none`             = the body ended the process (or an inner loop ran out of fuel). -/
def whileM {σ : Type} (step : σ → Option (Bool × σ)) : Nat → σ → Option σ
  | 0, _ => none
  | fuel + 1, s =>
    match step s with
    | none => none
    | some (false, s') => some s'
    | some (true, s') => whileM step fuel s'

theorem whileM_zero {σ : Type} (step : σ → Option (Bool × σ)) (s : σ) : whileM step 0 s = none := rfl

theorem whileM_succ {σ : Type} (step : σ → Option (Bool × σ)) (fuel : Nat) (s : σ) :
    whileM step (fuel + 1) s =
      match step s with
      | none => none
      | some (false, s') => some s'
      | some (true, s') => whileM step fuel s' := rfl

theorem whileM_stop {σ : Type} (step : σ → Option (Bool × σ)) (fuel : Nat) (s s' : σ) (h : step s = some (false, s')) :
    whileM step (fuel + 1) s = some s' := by rw [whileM_succ, h]

theorem whileM_next {σ : Type} (step : σ → Option (Bool × σ)) (fuel : Nat) (s s' : σ) (h : step s = some (true, s')) :
    whileM step (fuel + 1) s = whileM step fuel s' := by rw [whileM_succ, h]

theorem whileM_abort {σ : Type} (step : σ → Option (Bool × σ)) (fuel : Nat) (s : σ) (h : step s = none) :
    whileM step (fuel + 1) s = none := by rw [whileM_succ, h]

theorem whileM_mono {σ : Type} (step : σ → Option (Bool × σ)) (f : Nat) :
    ∀ (s r : σ) (g : Nat), whileM step f s = some r → f ≤ g → whileM step g s = some r := by
  induction f with
  | zero => intro s r g h; simp [whileM] at h
  | succ f ih =>
    intro s r g h hg
    obtain ⟨g', rfl⟩ : ∃ g', g = g' + 1 := ⟨g - 1, by omega⟩
    rw [whileM_succ] at h ⊢
    cases hs : step s with
    | none => rw [hs] at h; cases h
    | some p =>
      obtain ⟨b, s'⟩ := p
      rw [hs] at h
      cases b with
      | false => exact h
      | true => exact ih s' r g' h (by omega)

/-- `for (i = lo; i < hi; i += step)` whose body may end the process / contains `continue` (fuel = iteration count,
    known before the loop as for `Loop.range`). -/
def rangeMAux {σ : Type} (step : Nat) (f : Nat → σ → Option σ) : Nat → Nat → σ → Option σ
  | 0, _, s => some s
  | n + 1, i, s =>
    match f i s with
    | none => none
    | some s' => rangeMAux step f n (i + step) s'

def rangeM {σ : Type} (lo hi step : Nat) (s : σ) (f : Nat → σ → Option σ) : Option σ :=
  rangeMAux step f ((hi - lo + step - 1) / step) lo s

theorem rangeMAux_zero {σ : Type} (step : Nat) (f : Nat → σ → Option σ) (i : Nat) (s : σ) :
    rangeMAux step f 0 i s = some s := rfl

theorem rangeMAux_succ {σ : Type} (step : Nat) (f : Nat → σ → Option σ) (n i : Nat) (s : σ) :
    rangeMAux step f (n + 1) i s = (f i s).bind (fun s' => rangeMAux step f n (i + step) s') := by
  show (match f i s with | none => none | some s' => rangeMAux step f n (i + step) s') = _
  cases f i s <;> rfl

theorem rangeM_step_one {σ : Type} (lo hi : Nat) (s : σ) (f : Nat → σ → Option σ) :
    rangeM lo hi 1 s f = rangeMAux 1 f (hi - lo) lo s := by
  unfold rangeM; rw [Nat.add_sub_cancel, Nat.div_one]

theorem rangeMAux_succ_right {σ : Type} (f : Nat → σ → Option σ) :
    ∀ (n i : Nat) (s : σ), rangeMAux 1 f (n + 1) i s = (rangeMAux 1 f n i s).bind (f (i + n)) := by
  intro n
  induction n with
  | zero =>
    intro i s
    rw [rangeMAux_succ, rangeMAux_zero]
    simp only [Option.bind_some, Nat.add_zero]
    cases f i s <;> rfl
  | succ n ih =>
    intro i s
    rw [rangeMAux_succ, rangeMAux_succ]
    cases f i s with
    | none => rfl
    | some s1 =>
      simp only [Option.bind_some]
      rw [ih (i + 1) s1]
      have : i + 1 + n = i + (n + 1) := by omega
      rw [this]

theorem rangeM_succ_right {σ : Type} (f : Nat → σ → Option σ) (lo i : Nat) (s : σ) (h : lo ≤ i) :
    rangeM lo (i + 1) 1 s f = (rangeM lo i 1 s f).bind (f i) := by
  rw [rangeM_step_one, rangeM_step_one, show i + 1 - lo = (i - lo) + 1 by omega, rangeMAux_succ_right,
    show lo + (i - lo) = i by omega]

/-- total-correctness rule: the loop returns for every fuel above the measure `μ` of its first state -/
theorem whileM_inv {σ : Type} (step : σ → Option (Bool × σ)) (Inv Post : σ → Prop) (μ : σ → Nat)
    (hstep : ∀ s, Inv s → (∃ s', step s = some (false, s') ∧ Post s') ∨
      (∃ s', step s = some (true, s') ∧ Inv s' ∧ μ s' < μ s)) :
    ∀ (fuel : Nat) (s : σ), Inv s → μ s < fuel → ∃ s', whileM step fuel s = some s' ∧ Post s' := by
  intro fuel
  induction fuel with
  | zero => intro s _ h; omega
  | succ f ih =>
    intro s hi hm
    rcases hstep s hi with ⟨s', hs, hp⟩ | ⟨s', hs, hi', hlt⟩
    · exact ⟨s', whileM_stop _ _ _ _ hs, hp⟩
    · obtain ⟨s'', hw, hp⟩ := ih s' hi' (by omega)
      exact ⟨s'', by rw [whileM_next _ _ _ _ hs, hw], hp⟩

theorem rangeMAux_inv {σ : Type} (f : Nat → σ → Option σ) (Inv : Nat → σ → Prop) (hi : Nat)
    (hstep : ∀ i s, i < hi → Inv i s → ∃ s', f i s = some s' ∧ Inv (i + 1) s') :
    ∀ (n i : Nat) (s : σ), i + n = hi → Inv i s → ∃ s', rangeMAux 1 f n i s = some s' ∧ Inv hi s' := by
  intro n
  induction n with
  | zero => intro i s h hinv; exact ⟨s, rfl, by rw [← h]; exact hinv⟩
  | succ n ih =>
    intro i s h hinv
    obtain ⟨s1, hf, h1⟩ := hstep i s (by omega) hinv
    obtain ⟨s2, hr, h2⟩ := ih (i + 1) s1 (by omega) h1
    exact ⟨s2, by rw [rangeMAux_succ, hf]; exact hr, h2⟩

theorem rangeM_inv {σ : Type} (f : Nat → σ → Option σ) (Inv : Nat → σ → Prop) (lo hi : Nat) (hle : lo ≤ hi)
    (hstep : ∀ i s, lo ≤ i → i < hi → Inv i s → ∃ s', f i s = some s' ∧ Inv (i + 1) s') (s : σ) (h0 : Inv lo s) :
    ∃ s', rangeM lo hi 1 s f = some s' ∧ Inv hi s' := by
  rw [rangeM_step_one]
  have := rangeMAux_inv f (fun i s => lo ≤ i ∧ Inv i s) hi
    (fun i s hlt ⟨hl, hinv⟩ => by
      obtain ⟨s', hf, h'⟩ := hstep i s hl hlt hinv
      exact ⟨s', hf, by omega, h'⟩) (hi - lo) lo s (by omega) ⟨Nat.le_refl _, h0⟩
  obtain ⟨s', hr, _, h'⟩ := this
  exact ⟨s', hr, h'⟩

end Loop

/-- the sequential model has no OpenMP team: `omp_get_max_threads()` is only ever used in `num_threads(..)` clauses,
    which the translator drops together with the directive (the loop is translated sequentially; C12 is about the rest) -/
def Omp.maxThreads : Int := 1

/-! ### doubles holding unsigned integers
  `floor((pending - 1) / 2) + 1` in the Merkle builders: an unsigned 64-bit integer is converted to `double`, floored,
  one is added in `double`, the sum is converted back.  Every double that is the image of an unsigned 64-bit integer is
  an integer; it is modelled by that integer (a `Nat`).  Conversion and addition round to nearest, ties to even, to a
  53-bit significand (IEEE-754 binary64, the default rounding mode).  Below 2^53 everything is exact. -/
namespace F64

/-- round a natural number to the nearest one with at most 53 significant bits (ties to even) -/
def round (n : Nat) : Nat :=
  if n < 9007199254740992 then n
  else
    let e := Nat.log2 n - 52
    let q := n >>> e
    let rem := n % (2 ^ e)
    let half := 2 ^ (e - 1)
    let q' := if rem > half || (rem == half && q % 2 == 1) then q + 1 else q
    q' <<< e

theorem round_small (n : Nat) (h : n < 9007199254740992) : round n = n := by
  unfold round; rw [if_pos h]

/-- `(double) x` for an unsigned 64-bit x -/
def ofU64 (x : BitVec 64) : Nat := round x.toNat
/-- `(double) k` for a non-negative int literal -/
def ofNat (k : Nat) : Nat := round k
/-- `floor(d)`: the doubles modelled here are integers -/
def floor (d : Nat) : Nat := d
/-- `a + b` in double -/
def add (a b : Nat) : Nat := round (a + b)
/-- `(uint64_t) d`; out of range (d ≥ 2^64) is undefined behaviour in C++, modelled as truncation -/
def toU64 (d : Nat) : BitVec 64 := BitVec.ofNat 64 d

end F64
end GoldilocksVerif
