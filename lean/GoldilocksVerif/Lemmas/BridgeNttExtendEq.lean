/-
  Bridge theorem: the TRANSLATED `NTT_Goldilocks::extendPol` (Gen/NttGen.lean) EQUALS the hand model's `extendPol`
  (Model/Ntt.lean) — bit for bit, for every `nblock`, every 1 ≤ N = 2^dn ≤ N_ext = 2^de ≤ 2^30, output = input block or another
  block — and what the call leaves behind: the returned object state with the final heap still REPRESENTS the model's object
  (tables unchanged, cache = the model's refreshed cache), the caller's other blocks are unchanged and stay other blocks than the
  object's.  This is what makes whole call histories provable (Lemmas/BridgeNttHist.lean, BridgeNttHistBuf.lean).

  The generated code shares ONE scratch block (N_ext·ncols words, dirty after the inverse transform) between the two transforms;
  the hand model takes a fresh zero-filled one of the right size per transform: `NTT_gen_opt` / `INTT_gen_opt`
  (Lemmas/BridgeNttBufEq.lean, through `Model.Ntt.nttIters_aux_irrelevant`).

  `extendPol_mid` is the function between the choice of the scratch block and its release, on ANY heap that holds both objects
  and the scratch block; `extendPol_gen_opt` puts it on its heap for an OPTIONAL caller buffer (`buffer == NULL`: the scratch block
  is allocated behind the local object's tables and freed; else the caller's block: no `malloc` / `free` of `tmp`, the destructor
  of the local object then releases the two tables only).  `extendPol_gen_eq` (here) and `extendPol_gen_buf_eq`
  (Lemmas/BridgeNttExtendBuf.lean) are its two cases.
  `extendPol_gen`: with the hand model's `extendPol_spec` (Lemmas/NttTop.lean) the output block holds the low-degree extension.
-/
import GoldilocksVerif.Lemmas.BridgeNttBufEq
import GoldilocksVerif.Lemmas.BridgeNttExtend

namespace GoldilocksVerif.BridgeNtt
open GoldilocksVerif Gen.NttGen

theorem computeR_self (fuel : Nat) (X : Heap) (self : NTT_Goldilocks) (N : Int) (X' : Heap) (self' : NTT_Goldilocks)
    (h : NTT_computeR fuel X self N = some (X', self')) :
    self' = { self with r := ⟨X.size, 0⟩, r_ := ⟨X.size + 1, 0⟩, r_N := I32.toU64 N } := by
  unfold NTT_computeR at h
  -- whatever the loop and its body look like: the function returns the object state it has built before the loop
  simp only [Option.bind_eq_some_iff, Option.some.injEq, Prod.mk.injEq] at h
  obtain ⟨_, _, _, _, _, h⟩ := h
  rw [← h]
  simp only [Heap.alloc_snd, Heap.size_alloc]

theorem ntt_same_irrel (o : Model.Ntt.Obj) (d1 d2 srcB : Model.Ntt.Buf) (size ncols nphase nblock : Nat) (inverse extend : Bool) :
    Model.Ntt.ntt o .same d1 srcB size ncols nphase nblock inverse extend =
      Model.Ntt.ntt o .same d2 srcB size ncols nphase nblock inverse extend := by
  unfold Model.Ntt.ntt Model.Ntt.nttBlocks Model.Ntt.nttIters
  simp

section extend
open GoldilocksVerif.Model.Ntt

theorem extendPol_unfold (o oext : Obj) (same : Bool) (outB inB : Buf) (dn de nc nphase nblock : Nat) (hde : dn ≤ de)
    (hoext : mkObj (2 ^ de) (2 ^ (de - dn)) = some oext) :
    extendPol o same outB inB (2 ^ de) (2 ^ dn) nc nphase nblock =
      match intt (refreshCache o (2 ^ dn)) (if same = true then .same else .other) outB inB (2 ^ dn) nc nphase nblock true with
      | .error e => .error e
      | .ok (out1, _) =>
        match ntt oext .same out1 out1 (2 ^ de) nc nphase nblock false false with
        | .error e => .error e
        | .ok (out2, _) => .ok (refreshCache o (2 ^ dn), out2) := by
  unfold extendPol
  rw [Nat.pow_div hde (by omega), hoext]
  dsimp only
  cases intt (refreshCache o (2 ^ dn)) (if same = true then DstMode.same else DstMode.other) outB inB (2 ^ dn) nc nphase nblock
      true with
  | error e => rfl
  | ok v =>
    obtain ⟨out1, s1⟩ := v
    dsimp only
    rw [ntt_same_irrel oext #[] out1 out1]
    cases ntt oext DstMode.same out1 out1 (2 ^ de) nc nphase nblock false false <;> rfl

/-- `ctor_local` with the constructor arguments of `extendPol`; the model's `mkObj` succeeds for these sizes -/
theorem extendPol_local (fuel : Nat) (hf : 64 ≤ fuel) (hp : Heap) (hpos : 0 < hp.size) (thr : BitVec 32) (dn de : Nat)
    (hde : dn ≤ de) (hde30 : de ≤ 30) :
    ∃ oext selfE, mkObj (2 ^ de) (2 ^ (de - dn)) = some oext ∧ oext.rcache = none ∧ de ≤ oext.s ∧ oext.s ≤ 32 ∧
      oext.extension < 2 ^ 31 ∧
      NTT_ctor fuel hp NTT_Goldilocks.init (bv (2 ^ de)) thr (I32.ofU64 (bv (2 ^ de) / bv (2 ^ dn))) =
        some ((hp.push oext.roots).push oext.powTwoInv, selfE) ∧
      selfE.roots.blk = hp.size ∧ selfE.powTwoInv.blk = hp.size + 1 ∧
      (∀ X : Heap, hp.size + 2 ≤ X.size → X.block hp.size = oext.roots → X.block (hp.size + 1) = oext.powTwoInv →
        ObjRep X selfE oext ∧ ObjIn X selfE) ∧
      (∀ c, c ≠ 0 → c ≠ hp.size → c ≠ hp.size + 1 → ObjFrame selfE c) ∧
      (∀ (X : Heap) (c : Nat), c ≠ hp.size → c ≠ hp.size + 1 →
        (NTT_dtor X selfE).block c = X.block c ∧ (c < X.size → c < (NTT_dtor X selfE).size)) := by
  have h2de : 2 ^ de ≤ 2 ^ 30 := Nat.pow_le_pow_right (by omega) hde30
  have h2dn : 2 ^ dn ≤ 2 ^ de := Nat.pow_le_pow_right (by omega) hde
  have hE31 : 2 ^ (de - dn) < 2 ^ 31 := Nat.pow_lt_pow_right (by omega) (by omega)
  have hlogE : log2 (2 ^ de) = de := Nat.log2_two_pow
  have hpos2 := Nat.two_pow_pos de
  obtain ⟨oext, hoext⟩ := mkObj_some (2 ^ de) (2 ^ (de - dn)) (by rw [hlogE]; omega)
  obtain ⟨hs1E, hs2E, hs3E⟩ := Model.Ntt.mkObj_s_val (2 ^ de) (2 ^ (de - dn)) oext (Nat.ne_of_gt hpos2) hoext
  rw [hlogE] at hs1E
  have hbvE : (bv (2 ^ de)).toNat = 2 ^ de := bv_toNat _ (by omega)
  have hbvEne : bv (2 ^ de) ≠ 0#64 := by
    intro e; have h2 := congrArg BitVec.toNat e; rw [hbvE] at h2
    have h3 : (0#64 : BitVec 64).toNat = 0 := rfl
    omega
  have hdivE : I32.ofU64 (bv (2 ^ de) / bv (2 ^ dn)) = ((2 ^ (de - dn) : Nat) : Int) := by
    rw [bv_div _ _ (by omega) (by omega), Nat.pow_div hde (by omega), ofU64_bv _ hE31]
  rw [hdivE]
  obtain ⟨selfE, h⟩ := ctor_local fuel hf hp hpos (bv (2 ^ de)) thr (2 ^ (de - dn)) hbvEne oext (by rw [hbvE]; exact hoext)
  exact ⟨oext, selfE, hoext, mkObj_fresh _ _ _ hoext, hs1E, hs2E, by rw [hs3E]; exact hE31, h⟩

/-- `X`: any heap that holds the object, the local transform object `selfE` (without cache, its two tables not the object's) and
    the scratch block `T` (N_ext·ncols words, any content).  The cache refresh is stated on the canonical text of `refresh_gen`
    (`refresh_rw` brings the generated text to it). -/
theorem extendPol_mid (fuel : Nat) (hf : 64 ≤ fuel) (X : Heap) (self selfE : NTT_Goldilocks) (o oext : Obj)
    (hrep : ObjRep X self o) (hin : ObjIn X self) (hdisj : ObjDisj self)
    (hlast : o.rcache ≠ none → self.r.blk + 1 < X.size ∧ self.r_.blk + 1 < X.size)
    (hos : o.s ≤ 32) (hext31 : o.extension < 2 ^ 31)
    (hrepE : ObjRep X selfE oext) (hinE : ObjIn X selfE) (hcE0 : oext.rcache = none)
    (hfrEr : ObjFrame self selfE.roots.blk) (hfrEp : ObjFrame self selfE.powTwoInv.blk)
    (Out In T : Nat) (hOut : Out < X.size) (hIn : In < X.size) (hT : T < X.size) (hOut0 : Out ≠ 0) (hT0 : T ≠ 0)
    (hOT : Out ≠ T) (hIT : In ≠ T) (hfrOut : ObjFrame self Out) (hfrIn : ObjFrame self In) (hfrT : ObjFrame self T)
    (hfrEOut : ObjFrame selfE Out) (hfrET : ObjFrame selfE T)
    (dn de nc : Nat) (hde : dn ≤ de) (hde30 : de ≤ 30) (hdns : dn ≤ o.s) (hdeE : de ≤ oext.s) (hsE : oext.s ≤ 32)
    (hextE : oext.extension < 2 ^ 31) (hnc : 1 ≤ nc) (hbound : 2 ^ de * nc * 8 < 2 ^ 64) (nphase nblock : BitVec 64)
    (hout : 2 ^ de * nc ≤ (X.block Out).size) (hscr : 2 ^ de * nc ≤ (X.block T).size) (hf1 : dn = 0 → nc < fuel) :
    ∃ X3 self',
      (if (self.r == Ptr.null || self.r_N != bv (2 ^ dn)) = true then
          (NTT_computeR fuel (if (self.r != Ptr.null) = true then (X.free self.r).free self.r_ else X) self
            (I32.ofU64 (bv (2 ^ dn)))).bind fun rt_3 => some (rt_3.1, rt_3.2)
        else some (X, self)) = some (X3, self') ∧
      X.size ≤ X3.size ∧ ObjIn X3 self' ∧ ObjDisj self' ∧ (∀ c, c < X.size → ObjFrame self c → ObjFrame self' c) ∧
      match intt (refreshCache o (2 ^ dn)) (if decide (Out = In) = true then .same else .other) (X.block Out) (X.block In)
          (2 ^ dn) nc nphase.toNat nblock.toNat true with
      | .error _ => NTT_INTT fuel X3 self' ⟨Out, 0⟩ ⟨In, 0⟩ (bv (2 ^ dn)) (bv nc) ⟨T, 0⟩ nphase nblock true = none
      | .ok (out1, _) => ∃ X4, NTT_INTT fuel X3 self' ⟨Out, 0⟩ ⟨In, 0⟩ (bv (2 ^ dn)) (bv nc) ⟨T, 0⟩ nphase nblock true = some X4 ∧
        match ntt oext .same out1 out1 (2 ^ de) nc nphase.toNat nblock.toNat false false with
        | .error _ => NTT_NTT fuel X4 selfE ⟨Out, 0⟩ ⟨Out, 0⟩ (bv (2 ^ de)) (bv nc) ⟨T, 0⟩ nphase nblock false false = none
        | .ok (out2, _) => ∃ X5,
            NTT_NTT fuel X4 selfE ⟨Out, 0⟩ ⟨Out, 0⟩ (bv (2 ^ de)) (bv nc) ⟨T, 0⟩ nphase nblock false false = some X5 ∧
            X5.size = X3.size ∧ X5.block Out = out2 ∧ ObjRep X5 self' (refreshCache o (2 ^ dn)) ∧
            (X5.block T).size = (X.block T).size ∧
            (∀ c, c < X.size → c ≠ Out → c ≠ T → ObjFrame self c → X5.block c = X.block c) := by
  have h2de : 2 ^ de ≤ 2 ^ 30 := Nat.pow_le_pow_right (by omega) hde30
  have h2dn : 2 ^ dn ≤ 2 ^ de := Nat.pow_le_pow_right (by omega) hde
  have hle : 2 ^ dn * nc ≤ 2 ^ de * nc := Nat.mul_le_mul_right _ h2dn
  have hle8 : 2 ^ dn * nc * 8 ≤ 2 ^ de * nc * 8 := Nat.mul_le_mul_right _ hle
  obtain ⟨X3, self', href, hrep3, hin3, hdisj3, hsz3, hfr3, hfrm3, hcache3⟩ := refresh_gen fuel hf X self o hrep hin hdisj hlast
    (2 ^ dn) (Nat.two_pow_pos dn) (by omega)
  obtain ⟨rf1, rf2, _, _⟩ := refreshCache_fields o (2 ^ dn)
  generalize refreshCache o (2 ^ dn) = o' at hrep3 hcache3 rf1 rf2 ⊢
  refine ⟨X3, self', href, hsz3, hin3, hdisj3, hfrm3, ?_⟩
  clear href hrep hdisj hlast
  have bOld : ∀ c, c < X.size → ObjFrame self c → X3.block c = X.block c := fun c hc h => hfr3 c hc h.2.2.1 h.2.2.2
  have hfr'Out : ObjFrame self' Out := hfrm3 Out hOut hfrOut
  have hfr'T : ObjFrame self' T := hfrm3 T hT hfrT
  have hI := INTT_gen_opt fuel X3 self' o' hrep3 hin3 Out In (some T) (Nat.lt_of_lt_of_le hOut hsz3)
    (Nat.lt_of_lt_of_le hIn hsz3) hOut0 hfr'Out (if decide (Out = In) = true then .same else .other)
    (by by_cases h : Out = In <;> simp [h]) ⟨Out, 0⟩ (by rw [ptr_beq_null Out hOut0]; rfl) dn (2 ^ dn) nc nphase nblock true
    (by omega) rfl (by rw [rf1]; exact hdns) (by rw [rf1]; exact hos) hnc (by omega) (by rw [rf2]; exact hext31)
    (fun _ => hcache3) (itersFuel_le self' dn nc fuel hf hf1) (by rw [bOld Out hOut hfrOut]; omega)
    (ScratchOk.some (Nat.lt_of_lt_of_le hT hsz3) hT0 hOT hIT hfr'T (by rw [bOld T hT hfrT]; omega))
  rw [bOld Out hOut hfrOut, bOld In hIn hfrIn] at hI
  cases hr1 : intt o' (if decide (Out = In) = true then DstMode.same else DstMode.other) (X.block Out) (X.block In) (2 ^ dn) nc
      nphase.toNat nblock.toNat true with
  | error e => rw [hr1] at hI; exact hI
  | ok v1 =>
    obtain ⟨out1, s1⟩ := v1
    rw [hr1] at hI
    obtain ⟨X4, hI1, u4⟩ := hI
    refine ⟨X4, hI1, ?_⟩
    have hs1sz : out1.size = (X.block Out).size := by
      rw [intt_size o' _ (X.block Out) (X.block In) dn nc nphase.toNat nblock.toNat true out1 s1 hr1]
      by_cases h : Out = In <;> simp [h]
    -- the forward transform with the local object; its scratch is what the inverse transform left
    have hrepE4 : ObjRep X4 selfE oext := by
      apply hrepE.frame_fresh hcE0
      · rw [u4.other_some _ (Ne.symm hfrEOut.1) (Ne.symm hfrET.1), bOld _ hinE.1 hfrEr]
      · rw [u4.other_some _ (Ne.symm hfrEOut.2.1) (Ne.symm hfrET.2.1), bOld _ hinE.2.1 hfrEp]
    have hs4 : X.size ≤ X4.size := by rw [u4.size]; exact hsz3
    have hNt := NTT_gen_opt fuel X4 selfE oext hrepE4 (hinE.mono hs4) Out Out (some T) (Nat.lt_of_lt_of_le hOut hs4)
      (Nat.lt_of_lt_of_le hOut hs4) hOut0 hfrEOut .same (by simp) ⟨Out, 0⟩ (by split <;> rfl) de (2 ^ de) nc nphase nblock false
      false hde30 rfl hdeE hsE hnc hbound hextE (by intro h; cases h)
      (itersFuel_le selfE de nc fuel hf (fun h => hf1 (by omega))) (by rw [u4.dst, hs1sz]; exact hout)
      (ScratchOk.some (Nat.lt_of_lt_of_le hT hs4) hT0 hOT hOT hfrET
        (by rw [u4.bufsz T rfl, bOld T hT hfrT]; exact hscr))
    rw [u4.dst] at hNt
    cases hr2 : ntt oext DstMode.same out1 out1 (2 ^ de) nc nphase.toNat nblock.toNat false false with
    | error e => rw [hr2] at hNt; exact hNt
    | ok v2 =>
      obtain ⟨out2, s2⟩ := v2
      rw [hr2] at hNt
      obtain ⟨X5, hN1, u5⟩ := hNt
      refine ⟨X5, hN1, u5.size.trans u4.size, u5.dst, ?_, ?_, ?_⟩
      · apply hrep3.frame
        intro c hc
        rw [u5.other_some c (hfr'Out.ne_own hc) (hfr'T.ne_own hc), u4.other_some c (hfr'Out.ne_own hc) (hfr'T.ne_own hc)]
      · rw [u5.bufsz T rfl, u4.bufsz T rfl, bOld T hT hfrT]
      · intro c hc hcO hcT hfr
        rw [u5.other_some c hcO hcT, u4.other_some c hcO hcT, bOld c hc hfr]

/-- **extendPol, generated = hand model, bit for bit**, with or without a caller scratch buffer (`buf`; a buffer keeps its size;
    every `nblock`; 1 ≤ 2^dn ≤ 2^de ≤ 2^30; output block = input block or another block; any cache state), and the state it
    leaves: the returned object state with the final heap represents the model's object after the call; the object still owns
    existing, pairwise distinct blocks; the heap has not shrunk below its original size; the caller's blocks other than the output
    and the buffer are unchanged and are still not the object's.
    `Xc`: the heap after the constructor of the local object; `T`, `X`: the scratch block — the caller's or a new one behind the
    local object's tables — and the heap that holds it; `cb`: whether the function has allocated it and frees it -/
theorem extendPol_gen_opt (fuel : Nat) (hf : 64 ≤ fuel) (hp : Heap) (self : NTT_Goldilocks) (o : Obj)
    (hrep : ObjRep hp self o) (hin : ObjIn hp self) (hdisj : ObjDisj self) (hos : o.s ≤ 32) (hext31 : o.extension < 2 ^ 31)
    (Out In : Nat) (buf : Option Nat) (hOut : Out < hp.size) (hIn : In < hp.size) (hOut0 : Out ≠ 0)
    (hfrOut : ObjFrame self Out) (hfrIn : ObjFrame self In)
    (dn de nc : Nat) (hde : dn ≤ de) (hde30 : de ≤ 30) (hdns : dn ≤ o.s) (hnc : 1 ≤ nc)
    (hbound : 2 ^ de * nc * 8 < 2 ^ 64) (nphase nblock : BitVec 64)
    (hout : 2 ^ de * nc ≤ (hp.block Out).size) (hf1 : dn = 0 → nc < fuel) (hbuf : ScratchOk hp self buf Out In (2 ^ de * nc)) :
    match extendPol o (decide (Out = In)) (hp.block Out) (hp.block In) (2 ^ de) (2 ^ dn) nc nphase.toNat nblock.toNat with
    | .ok (o', out) => ∃ hp' self',
        NTT_extendPol fuel hp self ⟨Out, 0⟩ ⟨In, 0⟩ (bv (2 ^ de)) (bv (2 ^ dn)) (bv nc) (optPtr buf) nphase nblock =
          some (hp', self') ∧
        hp'.block Out = out ∧ ObjRep hp' self' o' ∧ ObjIn hp' self' ∧ ObjDisj self' ∧ hp.size ≤ hp'.size ∧
        (∀ B, buf = some B → (hp'.block B).size = (hp.block B).size) ∧
        (∀ c, c < hp.size → c ≠ Out → buf ≠ some c → ObjFrame self c → hp'.block c = hp.block c) ∧
        (∀ c, c < hp.size → ObjFrame self c → ObjFrame self' c)
    | .error _ =>
        NTT_extendPol fuel hp self ⟨Out, 0⟩ ⟨In, 0⟩ (bv (2 ^ de)) (bv (2 ^ dn)) (bv nc) (optPtr buf) nphase nblock = none := by
  obtain ⟨oext, selfE, hoext, hcE0, hs1E, hs2E, hs3E, hcE, fE1, fE2, hobjE, hfrE, hdtE⟩ :=
    extendPol_local fuel hf hp (by omega) self.nThreads dn de hde hde30
  have hcnt : (bv (2 ^ de) * bv nc * 8#64).toNat / 8 = 2 ^ de * nc := by
    rw [bv_mul]; exact words_bv _ hbound
  rw [extendPol_unfold o oext _ _ _ dn de nc _ _ hde hoext]
  clear hoext
  have hnew : ∀ c, hp.size ≤ c → ObjFrame self c := fun c hc => ObjIn.frame_ge hin c hc
  unfold NTT_extendPol
  dsimp only
  rw [hcE]
  simp only [Option.bind_some, hcnt, Heap.alloc_fst, Heap.alloc_snd]
  -- `Xc`: the heap after the constructor; `T`, `X`: the scratch block (the caller's, or a new one) and the heap that holds it
  generalize hXc : (hp.push oext.roots).push oext.powTwoInv = Xc
  have hXcs : Xc.size = hp.size + 2 := by rw [← hXc]; simp
  have hXclo : ∀ c, c < hp.size → Xc.block c = hp.block c := by
    intro c hc
    rw [← hXc, Heap.block_push_lt _ _ _ (by simp; omega), Heap.block_push_lt _ _ _ hc]
  have hXcr : Xc.block hp.size = oext.roots := by
    rw [← hXc, Heap.block_push_lt _ _ _ (by simp), Heap.block_push_last _ _ _ rfl]
  have hXcp : Xc.block (hp.size + 1) = oext.powTwoInv := by
    rw [← hXc, Heap.block_push_last _ _ _ (by simp)]
  generalize hcond : (optPtr buf == Ptr.null) = cb
  obtain ⟨X, T, hsel, hXs, hXlo, hT, hT0, hOT, hIT, hfrT, hTE, hscr, hcT, hcF, hcB⟩ : ∃ (X : Heap) (T : Nat),
      (if cb = true then ((⟨Xc.size, 0⟩ : Ptr), Xc.push (Array.replicate (2 ^ de * nc) 0#64)) else (optPtr buf, Xc)) = (⟨T, 0⟩, X) ∧
      hp.size + 2 ≤ X.size ∧ (∀ c, c < hp.size + 2 → X.block c = Xc.block c) ∧ T < X.size ∧ T ≠ 0 ∧ Out ≠ T ∧ In ≠ T ∧
      ObjFrame self T ∧ (T ≠ hp.size ∧ T ≠ hp.size + 1) ∧ 2 ^ de * nc ≤ (X.block T).size ∧
      (cb = true → T = hp.size + 2 ∧ X.size = hp.size + 3) ∧ (cb = false → buf = some T) ∧ (∀ B, buf = some B → cb = false ∧ T = B ∧ B < hp.size) := by
    subst hcond
    cases buf with
    | none =>
      have hnull : (optPtr none == Ptr.null) = true := by decide
      refine ⟨Xc.push (Array.replicate (2 ^ de * nc) 0#64), hp.size + 2, by rw [if_pos hnull, hXcs], by simp; omega,
        fun c hc => Heap.block_push_lt _ _ _ (by omega), by simp; omega, by omega, by omega, by omega, hnew _ (by omega),
        ⟨by omega, by omega⟩, ?_, fun _ => ⟨rfl, by simp; omega⟩, (fun h => by rw [hnull] at h; cases h), fun B hB => by cases hB⟩
      rw [Heap.block_push_last _ _ _ (by omega), Array.size_replicate]
    | some B =>
      obtain ⟨hB, hB0, hDB, hSB, hfrB, hbsz⟩ := hbuf B rfl
      have hn : (optPtr (some B) == Ptr.null) = false := ptr_beq_null B hB0
      refine ⟨Xc, B, (by rw [hn]; rfl), by omega, fun c _ => rfl, by omega, hB0, hDB, hSB, hfrB, ⟨by omega, by omega⟩,
        (by rw [hXclo B hB]; exact hbsz), (fun h => by rw [hn] at h; cases h), (fun _ => rfl), fun B' hB' => ?_⟩
      injection hB' with hB'
      subst hB'
      exact ⟨hn, rfl, hB⟩
  simp only [hsel]
  obtain ⟨hrepEX, hinEX⟩ := hobjE X hXs (by rw [hXlo _ (by omega), hXcr]) (by rw [hXlo _ (by omega), hXcp])
  have hXlo' : ∀ c, c < hp.size → X.block c = hp.block c := fun c hc => by rw [hXlo c (by omega), hXclo c hc]
  obtain ⟨X3, self', href, hsz3, hin3, hdisj', hfrm3, hmid⟩ := extendPol_mid fuel hf X self selfE o oext
    (hrep.frame fun c hc => hXlo' c (hin.lt hc)) (hin.mono (by omega)) hdisj
    (fun _ => ⟨by have := hin.2.2.1; omega, by have := hin.2.2.2; omega⟩) hos hext31 hrepEX hinEX
    hcE0 (by rw [fE1]; exact hnew _ (Nat.le_refl _)) (by rw [fE2]; exact hnew _ (by omega))
    Out In T (by omega) (by omega) hT hOut0 hT0 hOT hIT hfrOut hfrIn hfrT
    (hfrE Out hOut0 (by omega) (by omega)) (hfrE T hT0 hTE.1 hTE.2) dn de nc hde hde30 hdns hs1E hs2E
    hs3E hnc hbound nphase nblock (by rw [hXlo' Out hOut]; exact hout) hscr hf1
  rw [hXlo' Out hOut, hXlo' In hIn] at hmid
  refresh_rw href (X3, self') : self, bv (2 ^ dn)
  simp only [Option.bind_some]
  cases hr1 : intt (refreshCache o (2 ^ dn)) (if decide (Out = In) = true then DstMode.same else DstMode.other) (hp.block Out)
      (hp.block In) (2 ^ dn) nc nphase.toNat nblock.toNat true with
  | error e =>
    rw [hr1] at hmid
    rw [show NTT_INTT fuel X3 self' ⟨Out, 0⟩ ⟨In, 0⟩ (bv (2 ^ dn)) (bv nc) ⟨T, 0⟩ nphase nblock true = none from hmid]
    rfl
  | ok v1 =>
    obtain ⟨out1, s1⟩ := v1
    rw [hr1] at hmid
    obtain ⟨X4, hI1, hmid⟩ := hmid
    rw [hI1]
    simp only [Option.bind_some]
    cases hr2 : ntt oext DstMode.same out1 out1 (2 ^ de) nc nphase.toNat nblock.toNat false false with
    | error e =>
      rw [hr2] at hmid
      rw [show NTT_NTT fuel X4 selfE ⟨Out, 0⟩ ⟨Out, 0⟩ (bv (2 ^ de)) (bv nc) ⟨T, 0⟩ nphase nblock false false = none from hmid]
      rfl
    | ok v2 =>
      obtain ⟨out2, s2⟩ := v2
      rw [hr2] at hmid
      obtain ⟨X5, hN1, hs5, b5Out, hrep5, hBsz, hother⟩ := hmid
      rw [hN1]
      simp only [Option.bind_some]
      -- from here on only the block structure matters
      clear hN1 hI1 hr1 hr2 hcE hs1E hs2E hs3E hbound hout hbuf hf1 hdns hde hde30 hnc hos hext31 hXcr hXcp hrepEX
        hinEX hcE0 hfrE fE1 fE2 hobjE href hf hsel hcnt
      have hkeep : ∀ c, c ≠ hp.size → c ≠ hp.size + 1 → (cb = true → c ≠ hp.size + 2) →
          (NTT_dtor (if cb = true then X5.free ⟨T, 0⟩ else X5) selfE).block c = X5.block c := by
        intro c h1 h2 h3
        rw [(hdtE _ c h1 h2).1, Heap.block_free_if _ _ _ _ (fun hc => Or.inl (by rw [(hcT hc).1]; exact h3 hc))]
      have hkeepsz : ∀ c, c < X3.size → c ≠ hp.size → c ≠ hp.size + 1 → (cb = true → c ≠ hp.size + 2) →
          c < (NTT_dtor (if cb = true then X5.free ⟨T, 0⟩ else X5) selfE).size := by
        intro c hc h1 h2 h3
        apply (hdtE _ c h1 h2).2
        split
        · next hcb => exact Heap.lt_size_free _ _ _ (by rw [hs5]; exact hc) (Or.inl (by rw [(hcT hcb).1]; exact h3 hcb))
        · rw [hs5]; exact hc
      have f0 : ObjFrame self' hp.size := hfrm3 _ (by omega) (hnew _ (Nat.le_refl _))
      have f1 : ObjFrame self' (hp.size + 1) := hfrm3 _ (by omega) (hnew _ (by omega))
      have f2 : cb = true → ObjFrame self' (hp.size + 2) := fun hc =>
        hfrm3 _ (by rw [(hcT hc).2]; omega) (hnew _ (by omega))
      refine ⟨_, self', rfl, ?_, ?_, ?_, hdisj', ?_, ?_, ?_, ?_⟩
      · rw [hkeep Out (by omega) (by omega) (fun _ => by omega), b5Out]
      · exact hrep5.frame fun c hc => hkeep c (f0.ne_own hc) (f1.ne_own hc) (fun h => (f2 h).ne_own hc)
      · have hlt : ∀ c, c = self'.roots.blk ∨ c = self'.powTwoInv.blk ∨ c = self'.r.blk ∨ c = self'.r_.blk →
            c < (NTT_dtor (if cb = true then X5.free ⟨T, 0⟩ else X5) selfE).size :=
          fun c hc => hkeepsz c (hin3.lt hc) (f0.ne_own hc) (f1.ne_own hc) (fun h => (f2 h).ne_own hc)
        exact ⟨hlt _ (Or.inl rfl), hlt _ (Or.inr (Or.inl rfl)), hlt _ (Or.inr (Or.inr (Or.inl rfl))),
          hlt _ (Or.inr (Or.inr (Or.inr rfl)))⟩
      · have := hkeepsz (hp.size - 1) (by omega) (by omega) (by omega) (fun _ => by omega)
        omega
      · intro B hB
        obtain ⟨_, hTB, hBlt⟩ := hcB B hB
        rw [hkeep B (by omega) (by omega) (fun _ => by omega), ← hTB, hBsz, hTB, hXlo' B hBlt]
      · intro c hc hcO hcB' hfr
        have hcT' : c ≠ T := by
          intro e
          cases hb : cb with
          | true => have := (hcT hb).1; omega
          | false => exact hcB' (by rw [e]; exact hcF hb)
        rw [hkeep c (by omega) (by omega) (fun _ => by omega), hother c (by omega) hcO hcT' hfr, hXlo' c hc]
      · intro c hc hfr
        exact hfrm3 c (by omega) hfr

/-- **extendPol, generated = hand model, bit for bit** (no caller buffer: `extendPol_gen_opt` without one; every `nblock`; 1 ≤ 2^dn ≤ 2^de ≤ 2^30; output block =
    input block or another block; any cache state), and the state it leaves: the returned object state with the final heap
    represents the model's object after the call; the object still owns existing, pairwise distinct blocks; the heap has not
    shrunk below its original size; the caller's blocks other than the output are unchanged and are still not the object's -/
theorem extendPol_gen_eq (fuel : Nat) (hf : 64 ≤ fuel) (hp : Heap) (self : NTT_Goldilocks) (o : Obj)
    (hrep : ObjRep hp self o) (hin : ObjIn hp self) (hdisj : ObjDisj self) (hos : o.s ≤ 32) (hext31 : o.extension < 2 ^ 31)
    (Out In : Nat) (hOut : Out < hp.size) (hIn : In < hp.size) (hOut0 : Out ≠ 0)
    (hfrOut : ObjFrame self Out) (hfrIn : ObjFrame self In)
    (dn de nc : Nat) (hde : dn ≤ de) (hde30 : de ≤ 30) (hdns : dn ≤ o.s) (hnc : 1 ≤ nc)
    (hbound : 2 ^ de * nc * 8 < 2 ^ 64) (nphase nblock : BitVec 64)
    (hout : 2 ^ de * nc ≤ (hp.block Out).size) (hf1 : dn = 0 → nc < fuel) :
    match extendPol o (decide (Out = In)) (hp.block Out) (hp.block In) (2 ^ de) (2 ^ dn) nc nphase.toNat nblock.toNat with
    | .ok (o', out) => ∃ hp' self',
        NTT_extendPol fuel hp self ⟨Out, 0⟩ ⟨In, 0⟩ (bv (2 ^ de)) (bv (2 ^ dn)) (bv nc) Ptr.null nphase nblock =
          some (hp', self') ∧
        hp'.block Out = out ∧ ObjRep hp' self' o' ∧ ObjIn hp' self' ∧ ObjDisj self' ∧ hp.size ≤ hp'.size ∧
        (∀ c, c < hp.size → c ≠ Out → ObjFrame self c → hp'.block c = hp.block c) ∧
        (∀ c, c < hp.size → ObjFrame self c → ObjFrame self' c)
    | .error _ =>
        NTT_extendPol fuel hp self ⟨Out, 0⟩ ⟨In, 0⟩ (bv (2 ^ de)) (bv (2 ^ dn)) (bv nc) Ptr.null nphase nblock = none := by
  have h := extendPol_gen_opt fuel hf hp self o hrep hin hdisj hos hext31 Out In none hOut hIn hOut0 hfrOut hfrIn dn de nc hde
    hde30 hdns hnc hbound nphase nblock hout hf1 (fun B hB => by cases hB)
  cases hr : extendPol o (decide (Out = In)) (hp.block Out) (hp.block In) (2 ^ de) (2 ^ dn) nc nphase.toNat nblock.toNat with
  | error e => rw [hr] at h; exact h
  | ok v =>
    obtain ⟨o', out⟩ := v
    rw [hr] at h
    obtain ⟨hp', self', a1, a2, a3, a4, a5, a6, _, a8, a9⟩ := h
    exact ⟨hp', self', a1, a2, a3, a4, a5, a6, fun c h1 h2 h3 => a8 c h1 h2 nofun h3, a9⟩

open GoldilocksVerif.NttSpec in
/-- **extendPol** on the generated function (no caller buffer, 1 ≤ dn ≤ de ≤ 30): it returns; the output block
    holds, for every column, the evaluations on the coset 7·ω_de^k of the interpolant of the input column; the returned
    object state represents the model's object with the refreshed cache -/
theorem extendPol_gen (fuel : Nat) (hf : 64 ≤ fuel) (hp : Heap) (self : NTT_Goldilocks) (o : Obj) (Dm : Nat)
    (hrep : ObjRep hp self o) (hin : ObjIn hp self) (hdisj : ObjDisj self) (hO : ObjOk o Dm) (hos : o.s ≤ 32)
    (Out In : Nat) (hOut : Out < hp.size) (hIn : In < hp.size) (hOut0 : Out ≠ 0)
    (hfrOut : ObjFrame self Out) (hfrIn : ObjFrame self In)
    (dn de nc : Nat) (hdn1 : 1 ≤ dn) (hde : dn ≤ de) (hde30 : de ≤ 30) (hdnD : dn ≤ Dm) (hdns : dn ≤ o.s) (hnc : 1 ≤ nc)
    (hbound : 2 ^ de * nc * 8 < 2 ^ 64) (nphase nblock : BitVec 64)
    (hout : 2 ^ de * nc ≤ (hp.block Out).size) :
    ∃ hp' self' out, NTT_extendPol fuel hp self ⟨Out, 0⟩ ⟨In, 0⟩ (bv (2 ^ de)) (bv (2 ^ dn)) (bv nc) Ptr.null nphase nblock =
        some (hp', self') ∧ hp'.block Out = out ∧ out.size = (hp.block Out).size ∧
      (∃ X', ObjRep X' self' (refreshCache o (2 ^ dn))) ∧
      ∀ k c, k < 2 ^ de → c < nc →
        cell out nc k c = lde 7 (omega dn) (omega de) (2 ^ dn) (fun j => cell (hp.block In) nc j c) k := by
  have hsel := sel_same hp.block Out In
  -- the model returns the low-degree extension (Lemmas/NttTop.lean); the generated function is the model
  obtain ⟨o', out, eo, hosz, _, _, hlde⟩ := extendPol_spec o Dm hO (decide (Out = In)) (hp.block Out) (hp.block In) dn de nc
    nphase.toNat nblock.toNat hdnD hde (by omega) hnc (by rw [hsel]; exact hout)
  have ho' : o' = refreshCache o (2 ^ dn) := by
    have hlogE : log2 (2 ^ de) = de := Nat.log2_two_pow
    obtain ⟨oext, hoext⟩ := mkObj_some (2 ^ de) (2 ^ (de - dn)) (by rw [hlogE]; omega)
    rw [extendPol_unfold o oext _ _ _ dn de nc _ _ hde hoext] at eo
    split at eo
    · cases eo
    · split at eo
      · cases eo
      · injection eo with eo
        injection eo with eo _
        exact eo.symm
  have h := extendPol_gen_eq fuel hf hp self o hrep hin hdisj hos (by have := hO.ext; omega) Out In hOut hIn hOut0 hfrOut hfrIn
    dn de nc hde hde30 hdns hnc hbound nphase nblock hout (by omega)
  rw [eo] at h
  obtain ⟨hp', self', hrun, hblk, hrep', _⟩ := h
  exact ⟨hp', self', out, hrun, hblk, by rw [hosz, hsel], ⟨hp', ho' ▸ hrep'⟩, hlde⟩

end extend

end GoldilocksVerif.BridgeNtt
