/-
  For C20: pure-`Nat` facts about the mirrors of `Lemmas/PtxNat.lean` (small `omega`/`grind` contexts, one carry case per
  goal, congruences by explicit certificates `mod_cert` (Lemmas/ScalarNat.lean), `mod_cert_two`), and the resulting
  statements about the generated definitions.  Core only, no Mathlib.
-/
import GoldilocksVerif.Lemmas.PtxNat

namespace GoldilocksVerif.PtxN
open Gen.Ptx Ptx

local notation "M32" => 4294967296
local notation "M64" => 18446744073709551616
local notation "W32" => 4294967295

theorem addN_spec (a b : Nat) (ha : a < P) (hb : b < P) : addN a b = (a + b) % P := by
  unfold P at *
  unfold addN
  simp only []
  generalize hs : a + b = s
  have hs2 : s < 36893488138829168641 := by omega
  clear hs ha hb
  rcases Nat.lt_or_ge s 18446744069414584321 with h1 | h1
  · have e1 : s / 18446744073709551616 = 0 := Nat.div_eq_of_lt (by omega)
    have e2 : s % 18446744073709551616 = s := Nat.mod_eq_of_lt (by omega)
    have e3 : (18446744069414584321 + (18446744073709551615 - s)) / 18446744073709551616 = 1 := by omega
    simp only [e1, e2, e3, Nat.reduceMod, Nat.reduceAdd, Nat.reduceSub, Nat.reduceEqDiff, ↓reduceIte]
    exact (Nat.mod_eq_of_lt h1).symm
  · rcases Nat.lt_or_ge s 18446744073709551616 with h2 | h2
    · have e1 : s / 18446744073709551616 = 0 := Nat.div_eq_of_lt h2
      have e2 : s % 18446744073709551616 = s := Nat.mod_eq_of_lt h2
      have e3 : (18446744069414584321 + (18446744073709551615 - s)) / 18446744073709551616 = 0 := by omega
      simp only [e1, e2, e3, Nat.reduceMod, Nat.reduceAdd, Nat.reduceSub, ↓reduceIte]
      omega
    · have e1 : s / 18446744073709551616 = 1 := by omega
      have e2 : s % 18446744073709551616 = s - 18446744073709551616 := by omega
      simp only [e1, e2]
      have e3 : (18446744069414584321 + (18446744073709551615 - (s - 18446744073709551616))) / 18446744073709551616 = 1 := by
        omega
      simp only [e3, Nat.reduceMod, Nat.reduceAdd, Nat.reduceSub, ↓reduceIte]
      omega

theorem subN_spec (a b : Nat) (ha : a < P) (hb : b < P) : subN a b = (a + (P - b)) % P := by
  unfold P at *
  unfold subN
  simp only []
  rcases Nat.lt_or_ge a b with h | h
  · have e1 : (b + (18446744073709551615 - a)) / 18446744073709551616 = 1 := by omega
    simp only [e1, Nat.reduceMod, Nat.reduceAdd, Nat.reduceSub, ne_eq, Nat.reduceEqDiff, not_false_eq_true, ↓reduceIte]
    omega
  · have e1 : (b + (18446744073709551615 - a)) / 18446744073709551616 = 0 := by omega
    simp only [e1, Nat.reduceMod, Nat.reduceAdd, Nat.reduceSub, ne_eq, not_true_eq_false, ↓reduceIte]
    omega

theorem finalN_spec (a : Nat) (ha : a < 2 ^ 64) : finalN a = a % P := by
  unfold P
  unfold finalN
  simp only []
  rcases Nat.lt_or_ge a 18446744069414584321 with h | h
  · have e1 : (a + 4294967295) / 18446744073709551616 = 0 := by omega
    simp only [e1, Nat.reduceMod, ne_eq, not_true_eq_false, ↓reduceIte]
    exact (Nat.mod_eq_of_lt h).symm
  · have e1 : (a + 4294967295) / 18446744073709551616 = 1 := by omega
    simp only [e1, Nat.reduceMod, ne_eq, Nat.reduceEqDiff, not_false_eq_true, ↓reduceIte]
    omega

theorem cnegN_spec (a : Nat) (flag : Bool) (ha : a < P) :
    cnegN a flag = if flag = true then (P - a) % P else a := by
  unfold P at *
  unfold cnegN
  cases flag
  · simp
  · by_cases h0 : a = 0
    · subst h0; simp
    · simp only [Bool.toNat_true, ne_eq, Nat.succ_ne_zero, not_false_eq_true, h0, decide_false,
        Bool.toNat_false, and_self, if_true]
      rw [Nat.mod_eq_of_lt (by omega : 18446744069414584321 - a < 18446744069414584321)]
      omega

local notation "M96" => 79228162514264337593543950336
local notation "PP" => 18446744069414584321
local notation "SQ" => 18446744065119617025   -- (2^32-1)^2

/-- sub.cc / subc.cc on two words -/
theorem sub2_spec (t0 t1 s0 s1 : Nat) (h0 : t0 < M32) (h1 : t1 < M32) (h2 : s0 < M32) (h3 : s1 < M32) :
    let u0 := (t0 + (M32 - s0)) % M32
    let bw1 := (s0 + (W32 - t0)) / M32
    let u1 := (t1 + (M32 - s1) + (M32 - bw1)) % M32
    let bw2 := (s1 + bw1 + (W32 - t1)) / M32
    u0 < M32 ∧ u1 < M32 ∧ bw2 ≤ 1 ∧ u0 + u1 * M32 + (s0 + s1 * M32) = t0 + t1 * M32 + bw2 * M64 := by
  intro u0 bw1 u1 bw2
  have hb1 : bw1 ≤ 1 := by omega
  have e0 : u0 + s0 = t0 + bw1 * M32 := by omega
  have hu0 : u0 < M32 := Nat.mod_lt _ (by decide)
  clear_value u0 bw1
  omega

/-- mad.lo.cc / madc.hi.cc : two words += p -/
theorem madchain_spec (p x0 x1 : Nat) (hp : p ≤ SQ) (h0 : x0 < M32) (h1 : x1 < M32) :
    let y0 := (p % M32 + x0) % M32
    let c := (p % M32 + x0) / M32
    let y1 := (p / M32 + x1 + c) % M32
    let c' := (p / M32 + x1 + c) / M32
    y0 < M32 ∧ y1 < M32 ∧ c' ≤ 1 ∧ y0 + y1 * M32 + c' * M64 = x0 + x1 * M32 + p := by
  intro y0 c y1 c'
  have hc : c ≤ 1 := by omega
  have e0 : y0 + c * M32 = p % M32 + x0 := Nat.mod_add_div' _ _
  have hy0 : y0 < M32 := Nat.mod_lt _ (by decide)
  clear_value y0 c
  omega

/-- subc 0,0 after a borrow chain: the all-ones word when the chain borrowed -/
theorem allones_spec (bw : Nat) (h : bw ≤ 1) :
    (M32 + (M32 - bw)) % M32 = bw * W32 ∧ (M32 - bw * W32) % M32 = bw := by
  omega

theorem foldN_sm70_spec (v0 v1 e : Nat) (h0 : v0 < M32) (h1 : v1 < M32) (he : e ≤ 1)
    (hb : v0 + v1 * M32 + e * W32 < M64) : foldN_sm70 v0 v1 e = v0 + v1 * M32 + e * W32 := by
  unfold foldN_sm70
  have hp : e * W32 ≤ SQ := by omega
  have h := madchain_spec (e * W32) v0 v1 hp h0 h1
  extract_lets y0 c y1 c' at h
  extract_lets
  clear_value y0 c y1 c'
  omega

theorem foldN_pre70_spec (v0 v1 e : Nat) (h0 : v0 < M32) (h1 : v1 < M32) (he : e ≤ 1)
    (hb : v0 + v1 * M32 + e * W32 < M64) : foldN_pre70 v0 v1 e = v0 + v1 * M32 + e * W32 := by
  unfold foldN_pre70
  rcases (by omega : e = 0 ∨ e = 1) with rfl | rfl
  · have hn : (M32 - 0) % M32 = 0 := by decide
    simp only [hn]
    omega
  · have hn : (M32 - 1) % M32 = W32 := by decide
    simp only [hn]
    omega

/-- blocks 1-2 of the sm70 reduce: the 96-bit value `(u0, v1, cr2)` is exact -/
theorem red_sm70_A (t0 t1 t2 t3 u0 u1 bw2 v1 c1 cr2 : Nat)
    (h0 : t0 < M32) (h1 : t1 < M32) (h2 : t2 < M32) (h3 : t3 < M32)
    (hu0 : u0 < M32) (hbw : bw2 ≤ 1)
    (hsum : u0 + u1 * M32 + (t2 + t3 * M32) = t0 + t1 * M32 + bw2 * M64)
    (hv : v1 + c1 * M32 = u1 + t2) (hv1 : v1 < M32)
    (hcr2 : cr2 = (bw2 * W32 + t3 + c1) % M32) :
    u0 + v1 * M32 + cr2 * M64 = t0 + t1 * M32 + t2 * W32 + t3 * 18446744069414584320 := by
  rcases (by omega : bw2 = 0 ∨ bw2 = 1) with rfl | rfl
  · have e : cr2 = t3 + c1 := by omega
    clear hcr2
    grind
  · have e : cr2 + 1 = t3 + c1 := by omega
    clear hcr2
    grind

theorem reduce4N_sm70_spec (t0 t1 t2 t3 : Nat) (h0 : t0 < M32) (h1 : t1 < M32) (h2 : t2 < M32) (h3 : t3 < M32) :
    reduce4N_sm70 t0 t1 t2 t3 % P = (t0 + t1 * M32 + t2 * M64 + t3 * M96) % P := by
  unfold reduce4N_sm70
  extract_lets u0 bw1 u1 bw2 cr v1 c1 cr2 w0 c2 w1 c3 e
  obtain ⟨hu0, hu1, hbw, hsum⟩ :
      u0 < M32 ∧ u1 < M32 ∧ bw2 ≤ 1 ∧ u0 + u1 * M32 + (t2 + t3 * M32) = t0 + t1 * M32 + bw2 * M64 :=
    sub2_spec t0 t1 t2 t3 h0 h1 h2 h3
  clear_value u0 bw1 u1 bw2
  have hcr : cr = bw2 * W32 := (allones_spec bw2 hbw).1
  have hv : v1 + c1 * M32 = u1 + t2 ∧ v1 < M32 := ⟨Nat.mod_add_div' _ _, Nat.mod_lt _ (by decide)⟩
  have hcr2 : cr2 = (cr + t3 + c1) % M32 := rfl
  have hcr2lt : cr2 < M32 := Nat.mod_lt _ (by decide)
  clear_value cr v1 c1 cr2
  subst hcr
  have hV := red_sm70_A t0 t1 t2 t3 u0 u1 bw2 v1 c1 cr2 h0 h1 h2 h3 hu0 hbw hsum hv.1 hv.2 hcr2
  obtain ⟨hw0, hw1, hc3, hsumB⟩ :
      w0 < M32 ∧ w1 < M32 ∧ c3 ≤ 1 ∧ w0 + w1 * M32 + c3 * M64 = u0 + v1 * M32 + cr2 * W32 :=
    madchain_spec (cr2 * W32) u0 v1 (mul32_le cr2 W32 hcr2lt (by decide)) hu0 hv.2
  have he : e = c3 := Nat.mod_eq_of_lt (by omega)
  clear_value w0 c2 w1 c3 e
  subst he
  have hv1 := hv.2
  clear hsum hcr2 hbw hu1 hv
  have hbound : w0 + w1 * M32 + e * W32 < M64 := by omega
  rw [foldN_sm70_spec w0 w1 e hw0 hw1 hc3 hbound]
  apply mod_cert _ _ (cr2 + e + t2 + t3 * M32) 0
  unfold P
  omega

/-- add.cc / addc 0,0 : sum word and carry word -/
theorem addcarry_spec (x y : Nat) (hx : x < M32) (hy : y < M32) :
    let w := (x + y) % M32
    let e := (x + y) / M32 % M32
    w + e * M32 = x + y ∧ w < M32 ∧ e ≤ 1 := by
  intro w e
  omega

/-- blocks 1-3 of the pre-sm70 reduce: `(v0, v1)` is `lo64 - (t2 + t3)`, plus `P` when that is negative -/
theorem red_pre70_A (t0 t1 t2 t3 u0 u1 bw2 v0 c1 v1 b0 b1 : Nat)
    (h0 : t0 < M32) (h1 : t1 < M32) (h2 : t2 < M32) (h3 : t3 < M32)
    (hb : b0 + b1 * M32 = t2 + t3)
    (hu0 : u0 < M32) (hu1 : u1 < M32) (hbw : bw2 ≤ 1)
    (hsum : u0 + u1 * M32 + (b0 + b1 * M32) = t0 + t1 * M32 + bw2 * M64)
    (hv0 : v0 + c1 * M32 = u0 + bw2) (hv0lt : v0 < M32)
    (hv1 : v1 = (u1 + bw2 * W32 + c1) % M32) :
    v0 + v1 * M32 + (t2 + t3) = t0 + t1 * M32 + bw2 * PP := by
  rcases (by omega : bw2 = 0 ∨ bw2 = 1) with rfl | rfl
  · have e : v1 = u1 ∧ c1 = 0 := by omega
    clear hv1
    omega
  · have e : v1 + 1 = u1 + c1 := by omega
    clear hv1
    first | omega | grind

theorem reduce4N_pre70_spec (t0 t1 t2 t3 : Nat) (h0 : t0 < M32) (h1 : t1 < M32) (h2 : t2 < M32) (h3 : t3 < M32) :
    reduce4N_pre70 t0 t1 t2 t3 % P = (t0 + t1 * M32 + t2 * M64 + t3 * M96) % P := by
  unfold reduce4N_pre70
  extract_lets b0 b1 u0 bw1 u1 bw2 cr v0 c1 v1 w1 e
  have hb : b0 + b1 * M32 = t2 + t3 ∧ b0 < M32 ∧ b1 ≤ 1 := addcarry_spec t2 t3 h2 h3
  obtain ⟨hu0, hu1, hbw, hsum⟩ :
      u0 < M32 ∧ u1 < M32 ∧ bw2 ≤ 1 ∧ u0 + u1 * M32 + (b0 + b1 * M32) = t0 + t1 * M32 + bw2 * M64 :=
    sub2_spec t0 t1 b0 b1 h0 h1 hb.2.1 (Nat.lt_of_le_of_lt hb.2.2 (by decide))
  clear_value b0 b1 u0 bw1 u1 bw2
  have hcr : cr = bw2 * W32 := (allones_spec bw2 hbw).1
  have hv0 : v0 + c1 * M32 = u0 + (M32 - cr) % M32 ∧ v0 < M32 := ⟨Nat.mod_add_div' _ _, Nat.mod_lt _ (by decide)⟩
  rw [hcr, (allones_spec bw2 hbw).2] at hv0
  have hv1 : v1 = (u1 + cr + c1) % M32 := rfl
  have hv1lt : v1 < M32 := Nat.mod_lt _ (by decide)
  clear_value cr v0 c1 v1
  subst hcr
  have hV := red_pre70_A t0 t1 t2 t3 u0 u1 bw2 v0 c1 v1 b0 b1 h0 h1 h2 h3 hb.1 hu0 hu1 hbw hsum hv0.1 hv0.2 hv1
  have hw : w1 + e * M32 = v1 + t2 ∧ w1 < M32 ∧ e ≤ 1 := addcarry_spec v1 t2 hv1lt h2
  clear_value w1 e
  have hv0lt := hv0.2
  clear hsum hv1 hv0 hu0 hu1 hb
  have hbound : v0 + w1 * M32 + e * W32 < M64 := by omega
  rw [foldN_pre70_spec v0 w1 e hv0lt hw.2.1 hw.2.2 hbound]
  apply mod_cert _ _ (e + t2 + t3 * 4294967297) bw2
  unfold P
  first | omega | grind

theorem divmod32 (p : Nat) (hp : p ≤ SQ) : p % M32 + p / M32 * M32 = p ∧ p % M32 < M32 ∧ p / M32 < M32 := by
  omega

theorem split64 (a : Nat) (ha : a < M64) : a % M32 + a / M32 % M32 * M32 = a := by
  omega

/-- the two cross-term chains of `mul` on the words of `q00` and `q11`: the three low words, the high word of `q11`
    and the two carries into the top word add up to the sum of the four partial products -/
theorem mulchains_spec (q00 q01 q10 q11 : Nat) (h00 : q00 ≤ SQ) (h01 : q01 ≤ SQ) (h10 : q10 ≤ SQ) :
    let t0 := q00 % M32
    let t1 := q00 / M32
    let t2 := q11 % M32
    let t3 := q11 / M32
    let u1 := (q01 % M32 + t1) % M32
    let c1 := (q01 % M32 + t1) / M32
    let u2 := (q01 / M32 + t2 + c1) % M32
    let c2 := (q01 / M32 + t2 + c1) / M32
    let v1 := (q10 % M32 + u1) % M32
    let c3 := (q10 % M32 + u1) / M32
    let v2 := (q10 / M32 + u2 + c3) % M32
    let c4 := (q10 / M32 + u2 + c3) / M32
    t0 < M32 ∧ v1 < M32 ∧ v2 < M32 ∧ c2 ≤ 1 ∧ c4 ≤ 1 ∧
      t0 + v1 * M32 + v2 * M64 + (t3 + c2 + c4) * M96 = q00 + (q01 + q10) * M32 + q11 * M64 := by
  intro t0 t1 t2 t3 u1 c1 u2 c2 v1 c3 v2 c4
  have f0 : t0 + t1 * M32 = q00 ∧ t0 < M32 ∧ t1 < M32 := divmod32 q00 h00
  have f1 : t2 + t3 * M32 = q11 ∧ t2 < M32 := ⟨Nat.mod_add_div' _ _, Nat.mod_lt _ (by decide)⟩
  obtain ⟨f2a, f2b, f2c, f2d⟩ : u1 < M32 ∧ u2 < M32 ∧ c2 ≤ 1 ∧ u1 + u2 * M32 + c2 * M64 = t1 + t2 * M32 + q01 :=
    madchain_spec q01 t1 t2 h01 f0.2.2 f1.2
  obtain ⟨f3a, f3b, f3c, f3d⟩ : v1 < M32 ∧ v2 < M32 ∧ c4 ≤ 1 ∧ v1 + v2 * M32 + c4 * M64 = u1 + u2 * M32 + q10 :=
    madchain_spec q10 u1 u2 h10 f2a f2b
  clear_value t0 t1 t2 t3 u1 c1 u2 c2 v1 c3 v2 c4
  refine ⟨f0.2.1, f3a, f3b, f2c, f3c, ?_⟩
  grind

/-- the mad chains of `mul` produce the exact 128-bit product: its three low words, and a top word split into the
    high word of `a1 * b1` and the two chain carries -/
theorem mulWordsN_spec (a b : Nat) (ha : a < M64) (hb : b < M64) (k : Nat → Nat → Nat → Nat → Nat → Nat → Nat) :
    ∃ t0 t1 t2 t3 c c', t0 < M32 ∧ t1 < M32 ∧ t2 < M32 ∧ c ≤ 1 ∧ c' ≤ 1 ∧ t3 + c + c' < M32 ∧
      t0 + t1 * M32 + t2 * M64 + (t3 + c + c') * M96 = a * b ∧ mulWordsN a b k = k t0 t1 t2 t3 c c' := by
  unfold mulWordsN
  extract_lets a0 b0 a1 b1 t0 t1 t2 t3 u1 c1 u2 c2 v1 c3 v2 c4
  have ha0 : a0 < M32 := Nat.mod_lt _ (by decide)
  have hb0 : b0 < M32 := Nat.mod_lt _ (by decide)
  have ha1 : a1 < M32 := Nat.mod_lt _ (by decide)
  have hb1 : b1 < M32 := Nat.mod_lt _ (by decide)
  have hab : a * b = a0 * b0 + (a0 * b1 + a1 * b0) * M32 + a1 * b1 * M64 := by
    rw [← split_mul, split64 a ha, split64 b hb]
  have hlt : a * b < M64 * M64 := Nat.mul_lt_mul'' ha hb
  obtain ⟨h0, h1, h2, hc, hc', hsum⟩ :
      t0 < M32 ∧ v1 < M32 ∧ v2 < M32 ∧ c2 ≤ 1 ∧ c4 ≤ 1 ∧
        t0 + v1 * M32 + v2 * M64 + (t3 + c2 + c4) * M96 = a0 * b0 + (a0 * b1 + a1 * b0) * M32 + a1 * b1 * M64 :=
    mulchains_spec (a0 * b0) (a0 * b1) (a1 * b0) (a1 * b1)
      (mul32_le a0 b0 ha0 hb0) (mul32_le a0 b1 ha0 hb1) (mul32_le a1 b0 ha1 hb0)
  rw [← hab] at hsum
  refine ⟨t0, v1, v2, t3, c2, c4, h0, h1, h2, hc, hc', ?_, hsum, rfl⟩
  clear_value t0 v1 v2 t3 c2 c4
  omega

/-- `mulTN`, `mulTN2`: whatever expression `top` forms the top word, as long as it is `t3 + c + c'` when that sum fits
    a word, `k` receives the four words of the exact product -/
theorem mulWordsN_top_spec (a b : Nat) (ha : a < M64) (hb : b < M64) (top : Nat → Nat → Nat → Nat)
    (htop : ∀ t3 c c', c ≤ 1 → c' ≤ 1 → t3 + c + c' < M32 → top t3 c c' = t3 + c + c')
    (k : Nat → Nat → Nat → Nat → Nat) :
    ∃ t0 t1 t2 t3, t0 < M32 ∧ t1 < M32 ∧ t2 < M32 ∧ t3 < M32 ∧
      t0 + t1 * M32 + t2 * M64 + t3 * M96 = a * b ∧
      mulWordsN a b (fun t0 v1 v2 t3 c2 c4 => k t0 v1 v2 (top t3 c2 c4)) = k t0 t1 t2 t3 := by
  obtain ⟨t0, t1, t2, t3, c, c', h0, h1, h2, hc, hc', hlt, hsum, hk⟩ := mulWordsN_spec a b ha hb
    fun t0 v1 v2 t3 c2 c4 => k t0 v1 v2 (top t3 c2 c4)
  exact ⟨t0, t1, t2, t3 + c + c', h0, h1, h2, hlt, hsum, by rw [hk, htop t3 c c' hc hc' hlt]⟩

/-- mad.lo.cc / madc.hi with addend 0 : two words, no carry out -/
theorem madchain0_spec (p x0 : Nat) (hp : p ≤ SQ) (h0 : x0 < M32) :
    let y0 := (p % M32 + x0) % M32
    let c := (p % M32 + x0) / M32
    let y1 := (p / M32 + 0 + c) % M32
    y0 < M32 ∧ y1 < M32 ∧ y0 + y1 * M32 = x0 + p := by
  intro y0 c y1
  have hc : c ≤ 1 := by omega
  have e0 : y0 + c * M32 = p % M32 + x0 := Nat.mod_add_div' _ _
  have hy0 : y0 < M32 := Nat.mod_lt _ (by decide)
  clear_value y0 c
  omega

/-- sub.cc 0,x / subc x,0 : the two words of `x * (2^32 - 1)` -/
theorem negmul_spec (x : Nat) (hx : x < M32) :
    let n0 := (M32 - x) % M32
    let bw := (x + W32) / M32
    let n1 := (x + M32 + (M32 - bw)) % M32
    n0 < M32 ∧ n1 < M32 ∧ n0 + n1 * M32 = x * W32 := by
  intro n0 bw n1
  rcases (by omega : x = 0 ∨ 1 ≤ x) with rfl | h
  · omega
  · have hb : bw = 1 := by omega
    have e0 : n0 = M32 - x := by omega
    have e1 : n1 = x - 1 := by omega
    clear_value n0 bw n1
    omega

/-- add.cc / addc.cc / addc 0,0 : two-word addition with carry word -/
theorem add2_spec (x0 x1 y0 y1 : Nat) (h0 : x0 < M32) (h1 : x1 < M32) (h2 : y0 < M32) (h3 : y1 < M32) :
    let v0 := (x0 + y0) % M32
    let c2 := (x0 + y0) / M32
    let v1 := (x1 + y1 + c2) % M32
    let c3 := (x1 + y1 + c2) / M32
    let e := c3 % M32
    v0 < M32 ∧ v1 < M32 ∧ e ≤ 1 ∧ v0 + v1 * M32 + e * M64 = x0 + x1 * M32 + (y0 + y1 * M32) := by
  intro v0 c2 v1 c3 e
  have hc : c2 ≤ 1 := by omega
  have e0 : v0 + c2 * M32 = x0 + y0 := Nat.mod_add_div' _ _
  have hv0 : v0 < M32 := Nat.mod_lt _ (by decide)
  clear_value v0 c2
  omega

theorem mulU32TN_spec (a b : Nat) (ha : a < M64) (hb : b < M32) (k : Nat → Nat → Nat → Nat) :
    ∃ v0 v1 e, v0 < M32 ∧ v1 < M32 ∧ e ≤ 1 ∧ v0 + v1 * M32 + e * W32 < M64 ∧
      (∃ k1, v0 + v1 * M32 + e * M64 + PP * k1 = a * b) ∧ mulU32TN a b k = k v0 v1 e := by
  unfold mulU32TN
  extract_lets a0 a1 t0 t1 u1 c1 u2 n0 bw n1 v0 c2 v1 c3 e
  have ha0 : a0 < M32 := Nat.mod_lt _ (by decide)
  have ha1 : a1 < M32 := Nat.mod_lt _ (by decide)
  have ea : a = a0 + a1 * M32 := (split64 a ha).symm
  have hab : a * b = a0 * b + a1 * b * M32 := by
    rw [ea, Nat.add_mul, Nat.mul_right_comm]
  clear_value a0 a1
  clear ea ha
  obtain ⟨f0a, f0b, f0c⟩ : t0 + t1 * M32 = a0 * b ∧ t0 < M32 ∧ t1 < M32 := divmod32 (a0 * b) (mul32_le a0 b ha0 hb)
  obtain ⟨f1a, f1b, f1c⟩ : u1 < M32 ∧ u2 < M32 ∧ u1 + u2 * M32 = t1 + a1 * b :=
    madchain0_spec (a1 * b) t1 (mul32_le a1 b ha1 hb) f0c
  obtain ⟨f2a, f2b, f2c⟩ : n0 < M32 ∧ n1 < M32 ∧ n0 + n1 * M32 = u2 * W32 := negmul_spec u2 f1b
  obtain ⟨f3a, f3b, f3c, f3d⟩ : v0 < M32 ∧ v1 < M32 ∧ e ≤ 1 ∧ v0 + v1 * M32 + e * M64 = t0 + u1 * M32 + (n0 + n1 * M32) :=
    add2_spec t0 u1 n0 n1 f0b f1a f2a f2b
  clear_value t0 t1 u1 c1 u2 n0 bw n1 v0 c2 v1 c3 e
  generalize a * b = ab at *
  generalize a0 * b = q0 at *
  generalize a1 * b = q1 at *
  clear ha0 ha1 hb
  refine ⟨v0, v1, e, f3a, f3b, f3c, ?_, ⟨u2, ?_⟩, rfl⟩
  · clear hab f0a f1c
    omega
  · first | omega | grind

theorem mod_cert_two (a b k1 k2 : Nat) (h : a + P * k1 + P * k2 = b) : a % P = b % P := by
  apply mod_cert a b (k1 + k2) 0
  rw [Nat.mul_add, Nat.mul_zero, Nat.add_zero, ← Nat.add_assoc]
  exact h

theorem reduce4_sm70_mod (v : BitVec 64) (t0 t1 t2 t3 : BitVec 32) :
    (reduce4_sm70 v t0 t1 t2 t3).toNat % P =
      (t0.toNat + t1.toNat * M32 + t2.toNat * M64 + t3.toNat * M96) % P := by
  rw [reduce4_sm70_toNat]
  exact reduce4N_sm70_spec _ _ _ _ t0.isLt t1.isLt t2.isLt t3.isLt

theorem reduce4_pre70_mod (v : BitVec 64) (t0 t1 t2 t3 : BitVec 32) :
    (reduce4_pre70 v t0 t1 t2 t3).toNat % P =
      (t0.toNat + t1.toNat * M32 + t2.toNat * M64 + t3.toNat * M96) % P := by
  rw [reduce4_pre70_toNat]
  exact reduce4N_pre70_spec _ _ _ _ t0.isLt t1.isLt t2.isLt t3.isLt

/-- whichever mirror of the mad chains was matched, it hands the four words of `x * y` to `k`; so a `k` that
    reduces any four words modulo `P` yields the product modulo `P` -/
theorem MulMirror.mod_eq {r x y : Nat} {k : Nat → Nat → Nat → Nat → Nat} (h : MulMirror r x y k)
    (hx : x < M64) (hy : y < M64)
    (hk : ∀ t0 t1 t2 t3, t0 < M32 → t1 < M32 → t2 < M32 → t3 < M32 →
      k t0 t1 t2 t3 % P = (t0 + t1 * M32 + t2 * M64 + t3 * M96) % P) :
    r % P = (x * y) % P := by
  have hw : ∃ t0 t1 t2 t3, t0 < M32 ∧ t1 < M32 ∧ t2 < M32 ∧ t3 < M32 ∧
      t0 + t1 * M32 + t2 * M64 + t3 * M96 = x * y ∧ r = k t0 t1 t2 t3 := by
    -- `top` is read off `mulTN` / `mulTN2` by unification
    rcases h with rfl | rfl | rfl | rfl
    · exact mulWordsN_top_spec x y hx hy _ (by intros; omega) k
    · rw [Nat.mul_comm x y]; exact mulWordsN_top_spec y x hy hx _ (by intros; omega) k
    · exact mulWordsN_top_spec x y hx hy _ (by intros; omega) k
    · rw [Nat.mul_comm x y]; exact mulWordsN_top_spec y x hy hx _ (by intros; omega) k
  obtain ⟨t0, t1, t2, t3, h0, h1, h2, h3, hs, rfl⟩ := hw
  rw [← hs]
  exact hk t0 t1 t2 t3 h0 h1 h2 h3

theorem mul_raw_sm70_mod (a b : BitVec 64) : (mul_raw_sm70 a b).toNat % P = (a.toNat * b.toNat) % P :=
  (mul_raw_sm70_toNat a b).mod_eq a.isLt b.isLt reduce4N_sm70_spec

theorem mul_raw_pre70_mod (a b : BitVec 64) : (mul_raw_pre70 a b).toNat % P = (a.toNat * b.toNat) % P :=
  (mul_raw_pre70_toNat a b).mod_eq a.isLt b.isLt reduce4N_pre70_spec

/-- `mul(uint32_t)` with any last fold that adds `e * W` exactly -/
theorem mulU32TN_mod (a b : Nat) (ha : a < M64) (hb : b < M32) (fold : Nat → Nat → Nat → Nat)
    (hfold : ∀ v0 v1 e, v0 < M32 → v1 < M32 → e ≤ 1 → v0 + v1 * M32 + e * W32 < M64 →
      fold v0 v1 e = v0 + v1 * M32 + e * W32) :
    mulU32TN a b fold % P = (a * b) % P := by
  obtain ⟨v0, v1, e, h0, h1, he, hbd, ⟨k1, hk1⟩, hk⟩ := mulU32TN_spec a b ha hb fold
  rw [hk, hfold v0 v1 e h0 h1 he hbd]
  apply mod_cert_two _ _ k1 e
  generalize a * b = ab at *
  unfold P
  clear hk ha hb hbd
  omega

theorem mul_u32_raw_sm70_mod (a : BitVec 64) (b : BitVec 32) :
    (mul_u32_raw_sm70 a b).toNat % P = (a.toNat * b.toNat) % P := by
  rw [mul_u32_raw_sm70_toNat]
  exact mulU32TN_mod _ _ a.isLt b.isLt _ foldN_sm70_spec

theorem mul_u32_raw_pre70_mod (a : BitVec 64) (b : BitVec 32) :
    (mul_u32_raw_pre70 a b).toNat % P = (a.toNat * b.toNat) % P := by
  rw [mul_u32_raw_pre70_toNat]
  exact mulU32TN_mod _ _ a.isLt b.isLt _ foldN_pre70_spec

/-! The 64-bit functions (`+=`, `-=`, `cneg`, `reduce()`) have two routes: through the Nat mirror (`ptx_nat`, equality up to
  AC) and its `*_spec` lemma; should the asm not match the mirror, semantically on the symbolically executed asm
  (`ptx_simp`, case split on the position of the mathematical result relative to `P` / `2^64`, `omega`: no reference to
  the shape of the instruction sequence). -/

/-- close an arithmetic goal that may contain one `if` -/
macro "ptx_close" : tactic =>
  `(tactic| first | omega | (split <;> omega) | (simp only [] <;> omega) | (simp <;> omega))

theorem add_assign_spec (a b : BitVec 64) (ha : a.toNat < P) (hb : b.toNat < P) :
    (add_assign a b).toNat = (a.toNat + b.toNat) % P := by
  first
  | (have e : (add_assign a b).toNat = addN a.toNat b.toNat := by
       unfold add_assign addN
       ptx_nat
     rw [e]; exact addN_spec _ _ ha hb)
  | (unfold add_assign
     unfold P at *
     ptx_simp
     generalize a.toNat = x at *
     generalize b.toNat = y at *
     rcases Nat.lt_or_ge (x + y) 18446744069414584321 with h | h
     · ptx_close
     · rcases Nat.lt_or_ge (x + y) 18446744073709551616 with h' | h'
       · ptx_close
       · ptx_close)

theorem sub_assign_spec (a b : BitVec 64) (ha : a.toNat < P) (hb : b.toNat < P) :
    (sub_assign a b).toNat = (a.toNat + (P - b.toNat)) % P := by
  first
  | (have e : (sub_assign a b).toNat = subN a.toNat b.toNat := by
       unfold sub_assign subN
       ptx_nat
     rw [e]; exact subN_spec _ _ ha hb)
  | (unfold sub_assign
     unfold P at *
     ptx_simp
     generalize a.toNat = x at *
     generalize b.toNat = y at *
     rcases Nat.lt_or_ge x y with h | h
     · ptx_close
     · ptx_close)

theorem cneg_spec (a : BitVec 64) (flag : Bool) (ha : a.toNat < P) :
    (cneg a flag).toNat = if flag = true then (P - a.toNat) % P else a.toNat := by
  first
  | (have e : (cneg a flag).toNat = cnegN a.toNat flag := by
       unfold cneg cnegN
       ptx_nat
     rw [e]; exact cnegN_spec _ _ ha)
  | (unfold cneg
     unfold P at *
     ptx_simp
     generalize a.toNat = x at *
     cases flag <;> rcases Nat.eq_zero_or_pos x with h | h
     · subst h; simp
     · have h2 : x ≠ 0 := by omega
       first | (simp [h2]; done) | (simp [h2]; omega)
     · subst h; simp
     · have h2 : x ≠ 0 := by omega
       first | (simp [h2]; done) | (simp [h2]; omega))

theorem final_reduce_spec (a : BitVec 64) : (final_reduce a).toNat = a.toNat % P := by
  first
  | (have e : (final_reduce a).toNat = finalN a.toNat := by
       unfold final_reduce finalN
       ptx_nat
     rw [e]; exact finalN_spec _ a.isLt)
  | (unfold final_reduce
     unfold P at *
     ptx_simp
     have ha := a.isLt
     generalize a.toNat = x at *
     rcases Nat.lt_or_ge x 18446744069414584321 with h | h
     · ptx_close
     · ptx_close)

theorem to_toNat (a : BitVec 64) : (to_ a).toNat = a.toNat % P := by
  unfold to_
  simp only []
  exact final_reduce_spec a

end GoldilocksVerif.PtxN
