/- Poseidon (C06): the scalar backend (Gen/PosScalar.lean) in the field view. -/
import GoldilocksVerif.Gen.PosScalar
import GoldilocksVerif.Lemmas.PosSpecL
set_option linter.unusedSimpArgs false
set_option linter.unnecessarySeqFocus false
namespace GoldilocksVerif
open PoseidonSpec Gen.PosScalar Gen.PosConsts

theorem ne12 (i : Nat) (h : 12 ≤ i) : i ≠ 0 ∧ i ≠ 1 ∧ i ≠ 2 ∧ i ≠ 3 ∧ i ≠ 4 ∧ i ≠ 5 ∧ i ≠ 6 ∧ i ≠ 7 ∧ i ≠ 8 ∧ i ≠ 9 ∧
    i ≠ 10 ∧ i ≠ 11 := by omega

theorem den_pow7 (x : BitVec 64) : den (Pos_pow7 x) = den x ^ 7 := by
  simp only [Pos_pow7, den_mul_r]; ring

/-! The translated helpers are chains of `Region.set`.  Each definition is unfolded once, before the split into the twelve
  lanes (unfolding inside the normalising `simp` call is several times dearer), and `↓Region.set_apply` resolves a read
  before `simp` visits the written value, so values written to other words are dropped without being normalised. -/

theorem sadd_den (x c : Region) : ∀ i, i < 12 → den ((Pos_add_ x c) i) = den (x i) + den (c i) := by
  simp only [Pos_add_]
  refine forall_lt_12 _ ?_ ?_ ?_ ?_ ?_ ?_ ?_ ?_ ?_ ?_ ?_ ?_ <;>
    simp only [↓Region.set_apply, ↓reduceIte, Nat.reduceEqDiff, den_add_r]

theorem sadd_frame (x c : Region) (i : Nat) (h : 12 ≤ i) : (Pos_add_ x c) i = x i := by
  obtain ⟨h0, h1, h2, h3, h4, h5, h6, h7, h8, h9, h10, h11⟩ := ne12 i h
  simp only [Pos_add_]
  simp only [↓Region.set_apply, h0, h1, h2, h3, h4, h5, h6, h7, h8, h9, h10, h11, ↓reduceIte]

theorem spow7_den (x : Region) : ∀ i, i < 12 → den ((Pos_pow7_ x) i) = den (x i) ^ 7 := by
  simp only [Pos_pow7_]
  refine forall_lt_12 _ ?_ ?_ ?_ ?_ ?_ ?_ ?_ ?_ ?_ ?_ ?_ ?_ <;>
    (simp only [↓Region.set_apply, ↓reduceIte, Nat.reduceEqDiff, den_mul_r, den_pow7] <;> ring)

theorem spow7_frame (x : Region) (i : Nat) (h : 12 ≤ i) : (Pos_pow7_ x) i = x i := by
  obtain ⟨h0, h1, h2, h3, h4, h5, h6, h7, h8, h9, h10, h11⟩ := ne12 i h
  simp only [Pos_pow7_]
  simp only [↓Region.set_apply, h0, h1, h2, h3, h4, h5, h6, h7, h8, h9, h10, h11, ↓reduceIte]

theorem spow7add_den (x c : Region) : ∀ i, i < 12 → den ((Pos_pow7add_ x c) i) = den (x i) ^ 7 + den (c i) := by
  simp only [Pos_pow7add_]
  refine forall_lt_12 _ ?_ ?_ ?_ ?_ ?_ ?_ ?_ ?_ ?_ ?_ ?_ ?_ <;>
    (simp only [↓Region.set_apply, ↓reduceIte, Nat.reduceEqDiff, den_mul_r, den_add_r, den_pow7] <;> ring)

theorem spow7add_frame (x c : Region) (i : Nat) (h : 12 ≤ i) : (Pos_pow7add_ x c) i = x i := by
  obtain ⟨h0, h1, h2, h3, h4, h5, h6, h7, h8, h9, h10, h11⟩ := ne12 i h
  simp only [Pos_pow7add_]
  simp only [↓Region.set_apply, h0, h1, h2, h3, h4, h5, h6, h7, h8, h9, h10, h11, ↓reduceIte]

theorem smvp_den (s mat : Region) : ∀ i, i < 12 → den ((Pos_mvp_ s mat) i) =
    den (mat i) * den (s 0) + den (mat (12 + i)) * den (s 1) + den (mat (24 + i)) * den (s 2) +
    den (mat (36 + i)) * den (s 3) + den (mat (48 + i)) * den (s 4) + den (mat (60 + i)) * den (s 5) +
    den (mat (72 + i)) * den (s 6) + den (mat (84 + i)) * den (s 7) + den (mat (96 + i)) * den (s 8) +
    den (mat (108 + i)) * den (s 9) + den (mat (120 + i)) * den (s 10) + den (mat (132 + i)) * den (s 11) := by
  simp only [Pos_mvp_]
  refine forall_lt_12 _ ?_ ?_ ?_ ?_ ?_ ?_ ?_ ?_ ?_ ?_ ?_ ?_ <;>
    simp only [↓Region.set_apply, ↓Region.copyN_apply, ↓reduceIte, Nat.reduceEqDiff, Nat.reduceLT, Nat.reduceAdd,
      den_add_r, den_mul_r]

theorem smvp_frame (s mat : Region) (i : Nat) (h : 12 ≤ i) : (Pos_mvp_ s mat) i = s i := by
  obtain ⟨h0, h1, h2, h3, h4, h5, h6, h7, h8, h9, h10, h11⟩ := ne12 i h
  simp only [Pos_mvp_]
  simp only [↓Region.set_apply, h0, h1, h2, h3, h4, h5, h6, h7, h8, h9, h10, h11, ↓reduceIte]

theorem sloop_den0 (r : Nat) (st : Region) :
    den ((Pos_hash_full_result_seq_loop1 r st) 0) =
      (den (st 0) ^ 7 + den (c_Pos_C (r + 60))) * den (c_Pos_S (23 * r)) + den (st 1) * den (c_Pos_S (23 * r + 1)) +
      den (st 2) * den (c_Pos_S (23 * r + 2)) + den (st 3) * den (c_Pos_S (23 * r + 3)) +
      den (st 4) * den (c_Pos_S (23 * r + 4)) + den (st 5) * den (c_Pos_S (23 * r + 5)) +
      den (st 6) * den (c_Pos_S (23 * r + 6)) + den (st 7) * den (c_Pos_S (23 * r + 7)) +
      den (st 8) * den (c_Pos_S (23 * r + 8)) + den (st 9) * den (c_Pos_S (23 * r + 9)) +
      den (st 10) * den (c_Pos_S (23 * r + 10)) + den (st 11) * den (c_Pos_S (23 * r + 11)) := by
  simp only [Pos_hash_full_result_seq_loop1, Pos_dot_, Pos_prod_, Pos_add_]
  simp only [↓Region.set_apply, Region.shift_apply, ↓reduceIte, Nat.reduceEqDiff, den_add_r, den_mul_r, den_pow7,
    Nat.add_zero]

theorem sloop_den (r : Nat) (st : Region) : ∀ i, i < 12 → i ≠ 0 →
    den ((Pos_hash_full_result_seq_loop1 r st) i) =
      den (st i) + (den (st 0) ^ 7 + den (c_Pos_C (r + 60))) * den (c_Pos_S (23 * r + 11 + i)) := by
  simp only [Pos_hash_full_result_seq_loop1, Pos_dot_, Pos_prod_, Pos_add_]
  refine forall_lt_12 _ (fun h => absurd rfl h) ?_ ?_ ?_ ?_ ?_ ?_ ?_ ?_ ?_ ?_ ?_ <;> intro _ <;>
    simp only [↓Region.set_apply, Region.shift_apply, ↓reduceIte, Nat.reduceEqDiff, den_add_r, den_mul_r, den_pow7]

theorem sloop_frame (r : Nat) (st : Region) (i : Nat) (h : 12 ≤ i) : (Pos_hash_full_result_seq_loop1 r st) i = st i := by
  obtain ⟨h0, h1, h2, h3, h4, h5, h6, h7, h8, h9, h10, h11⟩ := ne12 i h
  simp only [Pos_hash_full_result_seq_loop1, Pos_add_]
  simp only [↓Region.set_apply, h0, h1, h2, h3, h4, h5, h6, h7, h8, h9, h10, h11, ↓reduceIte]

theorem stF_copyN (state input : Region) : stF (Region.copyN state input 12) = stF input := by
  funext i
  have := i.isLt
  simp only [stF_apply, Region.copyN_apply, this, ↓reduceIte]

theorem stF_sadd0 (s : Region) : stF (Pos_add_ s c_Pos_C) = addC 0 (stF s) := by
  funext i
  simp only [stF_apply, addC, C, sadd_den s _ i.val i.isLt, Nat.zero_add]

theorem stF_spow7add (s : Region) (off : Nat) :
    stF (Pos_pow7add_ s (Region.shift c_Pos_C off)) = addC off (sbox (stF s)) := by
  funext i
  simp only [stF_apply, addC, sbox, C, spow7add_den s _ i.val i.isLt, Region.shift_apply]

theorem stF_spow7 (s : Region) : stF (Pos_pow7_ s) = sbox (stF s) := by
  funext i
  simp only [stF_apply, sbox, spow7_den s i.val i.isLt]

theorem stF_smvp (s mat : Region) :
    stF (Pos_mvp_ s mat) = mulMat (fun j i => den (mat (12 * j.val + i.val))) (stF s) := by
  obtain ⟨⟨v0, v1, v2, v3⟩, ⟨v4, v5, v6, v7⟩, ⟨v8, v9, v10, v11⟩⟩ := fin12_val
  funext i
  rw [mulMat_apply]
  simp only [stF_apply, smvp_den s mat i.val i.isLt, v0, v1, v2, v3, v4, v5, v6, v7, v8, v9, v10, v11, Nat.reduceMul,
    Nat.zero_add]

theorem stF_sloop (r : Nat) (st : Region) : stF (Pos_hash_full_result_seq_loop1 r st) = partialRound r (stF st) := by
  obtain ⟨⟨v0, v1, v2, v3⟩, ⟨v4, v5, v6, v7⟩, ⟨v8, v9, v10, v11⟩⟩ := fin12_val
  funext i
  by_cases hi : i = 0
  · subst hi
    rw [partialRound_zero]
    simp only [stF_apply, C, S, v0, v1, v2, v3, v4, v5, v6, v7, v8, v9, v10, v11, sloop_den0, Nat.add_comm 60 r]
  · rw [partialRound_succ _ _ _ hi]
    have hv : i.val ≠ 0 := fun h => hi (Fin.ext h)
    simp only [stF_apply, C, S, v0, sloop_den r st i.val i.isLt hv, Nat.add_comm 60 r]

theorem stF_sloops (s : Region) (n : Nat) :
    stF (Loop.range 0 n 1 s Pos_hash_full_result_seq_loop1) = partialRounds n (stF s) ∧
    ∀ i, 12 ≤ i → (Loop.range 0 n 1 s Pos_hash_full_result_seq_loop1) i = s i := by
  refine Loop.range_inv (fun k t => stF t = partialRounds k (stF s) ∧ ∀ i, 12 ≤ i → t i = s i) _ n s ⟨rfl, fun _ _ => rfl⟩ ?_
  intro r t _ ⟨h1, h2⟩
  refine ⟨?_, fun i hi => ?_⟩
  · rw [stF_sloop, h1]; rfl
  · rw [sloop_frame r t i hi, h2 i hi]


theorem stF_smvp_M (s : Region) : stF (Pos_mvp_ s c_Pos_M) = mulMat M (stF s) := stF_smvp s c_Pos_M
theorem stF_smvp_P (s : Region) : stF (Pos_mvp_ s c_Pos_P) = mulMat Pm (stF s) := stF_smvp s c_Pos_P

theorem seq_spec (state input : Region) :
    stF (Pos_hash_full_result_seq state input) = permutation (stF input) ∧
    ∀ i, 12 ≤ i → (Pos_hash_full_result_seq state input) i = state i := by
  refine ⟨?_, fun i hi => ?_⟩
  · simp only [Pos_hash_full_result_seq, stF_smvp_M, stF_smvp_P, stF_spow7add, stF_spow7, stF_sadd0, (stF_sloops _ _).1,
      stF_copyN, permutation, fullRound]
  · have hlt : ¬ i < 12 := by omega
    simp only [Pos_hash_full_result_seq, smvp_frame _ _ i hi, spow7add_frame _ _ i hi, spow7_frame _ i hi,
      sadd_frame _ _ i hi, (stF_sloops _ _).2 i hi, Region.copyN_apply, hlt, ↓reduceIte]

end GoldilocksVerif
