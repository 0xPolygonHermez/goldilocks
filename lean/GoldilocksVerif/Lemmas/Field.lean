/-
  The field view: a 64-bit representation denotes an element of `ZMod P`.  Transfers from the core-only `Nat`-level
  lemmas to ring identities; Mathlib enters here.
-/
import Mathlib.Data.ZMod.Basic
import Mathlib.Tactic.Ring
import GoldilocksVerif.Lemmas.ScalarNat

namespace GoldilocksVerif

abbrev F := ZMod P

/-- the field element a representation denotes -/
def den (x : BitVec 64) : F := (x.toNat : F)

theorem den_of_mod (x : BitVec 64) (n : Nat) (h : x.toNat % P = n % P) : den x = (n : F) := by
  unfold den
  exact (ZMod.natCast_eq_natCast_iff' _ _ _).mpr h

theorem den_eq_iff (x y : BitVec 64) : den x = den y ↔ x.toNat % P = y.toNat % P := by
  unfold den
  exact ZMod.natCast_eq_natCast_iff' _ _ _

theorem natCast_eq_of_mod (a b : Nat) (h : a % P = b % P) : (a : F) = (b : F) :=
  (ZMod.natCast_eq_natCast_iff' _ _ _).mpr h

theorem den_add_of (r a b : BitVec 64) (h : r.toNat % P = (a.toNat + b.toNat) % P) : den r = den a + den b := by
  rw [den_of_mod r _ h]; unfold den; push_cast; rfl

theorem den_mul_of (r a b : BitVec 64) (h : r.toNat % P = (a.toNat * b.toNat) % P) : den r = den a * den b := by
  rw [den_of_mod r _ h]; unfold den; push_cast; rfl

theorem den_sub_of (r a b : BitVec 64) (h : (r.toNat + b.toNat) % P = a.toNat % P) : den r = den a - den b := by
  have := natCast_eq_of_mod _ _ h
  push_cast at this
  unfold den
  rw [← this]; ring

theorem den_canon (x : BitVec 64) : ((x.toNat % P : Nat) : F) = den x := by
  unfold den
  exact natCast_eq_of_mod _ _ (Nat.mod_mod _ _)

theorem den_zero64 : den 0#64 = 0 := by
  have : den 0#64 = ((0 : Nat) : F) := den_of_mod _ 0 (by decide)
  simpa using this

theorem den_add (a b : BitVec 64) : den (Gen.Scalar.add__eEE a b) = den a + den b := den_add_of _ _ _ (add_mod a b)
theorem den_add_r (a b : BitVec 64) : den (Gen.Scalar.add__rEE a b) = den a + den b := den_add a b
theorem den_sub (a b : BitVec 64) : den (Gen.Scalar.sub__eEE a b) = den a - den b := den_sub_of _ _ _ (sub_mod a b)
theorem den_sub_r (a b : BitVec 64) : den (Gen.Scalar.sub__rEE a b) = den a - den b := den_sub a b
theorem den_mul (a b : BitVec 64) : den (Gen.Scalar.mul__eEE a b) = den a * den b := den_mul_of _ _ _ (mul_mod a b)
theorem den_mul_r (a b : BitVec 64) : den (Gen.Scalar.mul__rEE a b) = den a * den b := den_mul a b

end GoldilocksVerif
