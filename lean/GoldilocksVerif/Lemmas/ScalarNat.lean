/-
  The scalar field operations of `goldilocks_base_field_scalar.hpp` (as translated into
  `Gen/Scalar.lean` from the current source) computed on `Nat`.  Core-only, no Mathlib.
-/
import GoldilocksVerif.Gen.Scalar
import GoldilocksVerif.Lemmas.X86Nat

namespace GoldilocksVerif
open Gen.Scalar X86

def P : Nat := 18446744069414584321

theorem P_eq : P = 2^64 - 2^32 + 1 := by decide

theorem P_pos : 0 < P := by decide

def canon (x : BitVec 64) : Nat := x.toNat % P

theorem canon_lt (x : BitVec 64) : canon x < P := Nat.mod_lt _ P_pos

theorem mod_cert (a b k1 k2 : Nat) (h : a + P * k1 = b + P * k2) : a % P = b % P := by
  have h1 : (a + P * k1) % P = a % P := Nat.add_mul_mod_self_left a P k1
  have h2 : (b + P * k2) % P = b % P := Nat.add_mul_mod_self_left b P k2
  rw [← h1, ← h2, h]

theorem mod_eq_cert (a b : Nat) (h : a % P = b % P) : a + P * (b / P) = b + P * (a / P) := by
  have h1 := Nat.div_add_mod a P
  have h2 := Nat.div_add_mod b P
  omega

/-- a number and the same number plus `0`, `P` or `2 P` lie in one class: the form in which the add / subtract
  kernels are handed to `omega` (no `% P` is left in the goal) -/
theorem mod_of_cases (a b : Nat) (h : a = b ∨ a + P = b ∨ a + P + P = b) : a % P = b % P := by
  rcases h with h | h | h
  · rw [h]
  · rw [← h, Nat.add_mod_right]
  · rw [← h, Nat.add_mod_right, Nat.add_mod_right]

/-- a difference is determined modulo `P` by `r + b ≡ a`: the form in which every subtraction is specified -/
theorem sub_unique {r₁ r₂ a b : Nat} (h₁ : (r₁ + b) % P = a % P) (h₂ : (r₂ + b) % P = a % P) : r₁ % P = r₂ % P := by
  have c := mod_eq_cert _ _ (h₁.trans h₂.symm)
  apply mod_cert r₁ r₂ ((r₂ + b) / P) ((r₁ + b) / P)
  omega

theorem mul32_le (a b : Nat) (ha : a < 4294967296) (hb : b < 4294967296) : a * b ≤ 18446744065119617025 := by
  have : a * b ≤ 4294967295 * 4294967295 := Nat.mul_le_mul (by omega) (by omega)
  omega

/-- schoolbook product of two 64-bit numbers given by their 32-bit halves -/
theorem split_mul (a0 a1 b0 b1 : Nat) :
    (a0 + a1 * 4294967296) * (b0 + b1 * 4294967296) =
      a0 * b0 + (a0 * b1 + a1 * b0) * 4294967296 + a1 * b1 * 18446744073709551616 := by
  simp only [Nat.add_mul, Nat.mul_add]
  have e1 : a1 * 4294967296 * (b1 * 4294967296) = a1 * b1 * 18446744073709551616 := by
    rw [Nat.mul_mul_mul_comm]
  have e2 : a1 * 4294967296 * b0 = a1 * b0 * 4294967296 := Nat.mul_right_comm _ _ _
  have e3 : a0 * (b1 * 4294967296) = a0 * b1 * 4294967296 := (Nat.mul_assoc _ _ _).symm
  rw [e1, e2, e3]
  omega

theorem add_mod (a b : BitVec 64) : (add__eEE a b).toNat % P = (a.toNat + b.toNat) % P := by
  unfold add__eEE
  simp only [toNat_ite, add64_snd, add64_fst, cmovc_toNat, c_CQ, BitVec.toNat_ofNat, Nat.reducePow,
    Nat.reduceMod, Bool.not_eq_true', decide_eq_false_iff_not, decide_eq_true_eq, Nat.not_le]
  have ha := a.isLt
  have hb := b.isLt
  apply mod_of_cases
  unfold P
  split <;> split <;> omega

theorem sub_mod (a b : BitVec 64) : ((sub__eEE a b).toNat + b.toNat) % P = a.toNat % P := by
  unfold sub__eEE
  simp only [toNat_ite, sub64_snd, sub64_fst, cmovc_toNat, c_CQ, BitVec.toNat_ofNat, Nat.reducePow,
    Nat.reduceMod, Bool.not_eq_true', decide_eq_false_iff_not, decide_eq_true_eq, Nat.not_lt]
  have ha := a.isLt
  have hb := b.isLt
  unfold P
  split <;> split <;> omega

/-- the `mul` asm block as arithmetic on the halves `(hi, lo)` of the 128-bit product -/
def mulN (hi lo : Nat) : Nat :=
  let hl := hi % 4294967296
  let rbx := (18446744073709551616 - 4294967296 + hl) % 18446744073709551616
  let rdx0 := hl * 4294967296 + hi / 4294967296
  let rcx := rdx0 % 4294967296
  let rdx1 := (18446744073709551616 - rcx + rdx0) % 18446744073709551616
  let rcx1 := (rcx + 4294967296) % 18446744073709551616
  let rdx2 := (18446744073709551616 - rbx + rdx1) % 18446744073709551616
  let rax1 := (lo + rdx2) % 18446744073709551616
  let rbx1 := if 18446744073709551616 ≤ lo + rdx2 then 4294967295 else 0
  let rax2 := (rax1 + rbx1) % 18446744073709551616
  let rax3 := (18446744073709551616 - rcx1 + rax2) % 18446744073709551616
  if rcx1 ≤ rax2 then rax3 else (18446744073709551616 - 4294967295 + rax3) % 18446744073709551616

/-- tie between the generated definition and `mulN` (breaks when the asm block changes meaning) -/
theorem mul_toNat (a b : BitVec 64) :
    (mul__eEE a b).toNat = mulN (a.toNat * b.toNat / 2^64) (a.toNat * b.toNat % 2^64) := by
  unfold mul__eEE mulN
  simp only [toNat_ite, add64_snd, add64_fst, sub64_fst, sub64_snd, cmovc_toNat, c_CQ, c_TWO32, mul64_hi,
    mul64_lo, rol64_32_fst, mov32_toNat, BitVec.toNat_ofNat, Nat.reducePow, Nat.reduceMod,
    Bool.not_eq_true', decide_eq_false_iff_not, decide_eq_true_eq, Nat.not_lt]

theorem mul_core (hh hl lo rax2 rax3 r : Nat) (hhh : hh < 4294967296) (hhl : hl < 4294967296)
    (hlo : lo < 18446744073709551616)
    (h2 : rax2 = ((lo + (hl * 4294967295 + 4294967296)) % 18446744073709551616 +
            (if 18446744073709551616 ≤ lo + (hl * 4294967295 + 4294967296) then 4294967295 else 0)) % 18446744073709551616)
    (h3 : rax3 = (18446744073709551616 - (hh + 4294967296) + rax2) % 18446744073709551616)
    (hr : r = if hh + 4294967296 ≤ rax2 then rax3 else (18446744073709551616 - 4294967295 + rax3) % 18446744073709551616) :
    ∃ e1 e2, r + hh + 18446744069414584321 * e1 = lo + hl * 4294967295 + 18446744069414584321 * e2 := by
  by_cases c1 : 18446744073709551616 ≤ lo + (hl * 4294967295 + 4294967296)
  · rw [if_pos c1] at h2
    have h2' : rax2 + 18446744069414584321 = lo + (hl * 4294967295 + 4294967296) := by omega
    clear h2
    by_cases c2 : hh + 4294967296 ≤ rax2
    · rw [if_pos c2] at hr
      exact ⟨1, 0, by omega⟩
    · rw [if_neg c2] at hr
      exact ⟨1, 1, by omega⟩
  · rw [if_neg c1] at h2
    have h2' : rax2 = lo + (hl * 4294967295 + 4294967296) := by omega
    clear h2
    by_cases c2 : hh + 4294967296 ≤ rax2
    · rw [if_pos c2] at hr
      exact ⟨0, 0, by omega⟩
    · rw [if_neg c2] at hr
      exact ⟨0, 1, by omega⟩

theorem mulN_mod (hi lo : Nat) (hhi : hi < 2^64) (hlo : lo < 2^64) :
    mulN hi lo % P = (hi * 2^64 + lo) % P := by
  have e_hl : hi % 4294967296 < 4294967296 := Nat.mod_lt _ (by decide)
  have e_hh : hi / 4294967296 < 4294967296 := by omega
  have e_hi : hi = (hi / 4294967296) * 4294967296 + hi % 4294967296 := by omega
  obtain ⟨e1, e2, h⟩ := mul_core (hi / 4294967296) (hi % 4294967296) lo _ _ (mulN hi lo) e_hh e_hl hlo rfl rfl (by
    unfold mulN
    extract_lets hl rbx rdx0 rcx rdx1 rcx1 rdx2 rax1 rbx1 rax2 rax3
    have e_rbx : rbx = 18446744073709551616 - 4294967296 + hl := by omega
    have e_rcx : rcx = hi / 4294967296 := by omega
    have e_rdx1 : rdx1 = hl * 4294967296 := by omega
    have e_rcx1 : rcx1 = hi / 4294967296 + 4294967296 := by omega
    have e_rdx2 : rdx2 = hl * 4294967295 + 4294967296 := by omega
    simp only [rax3, rax2, rax1, rbx1, e_rcx1, e_rdx2, hl])
  generalize mulN hi lo = r at h
  generalize hi / 4294967296 = hh at *
  generalize hi % 4294967296 = hl at *
  subst e_hi
  apply mod_cert r _ (e1 + (hh * 4294967297 + hl)) e2
  unfold P
  omega

theorem mul_mod (a b : BitVec 64) : (mul__eEE a b).toNat % P = (a.toNat * b.toNat) % P := by
  rw [mul_toNat]
  have hp : a.toNat * b.toNat < 2^64 * 2^64 := Nat.mul_lt_mul'' a.isLt b.isLt
  have hhi : a.toNat * b.toNat / 2^64 < 2^64 := Nat.div_lt_of_lt_mul hp
  have hlo : a.toNat * b.toNat % 2^64 < 2^64 := Nat.mod_lt _ (by decide)
  rw [mulN_mod _ _ hhi hlo]
  congr 1
  have := Nat.div_add_mod (a.toNat * b.toNat) (2^64)
  rw [Nat.mul_comm] at this
  exact this

theorem toU64_toNat (a : BitVec 64) : (toU64__eE a).toNat = a.toNat % P := by
  unfold toU64__eE
  simp only [toNat_ite, BitVec.toNat_sub, BitVec.toNat_ofNat, decide_eq_true_eq, ge_iff_le, BitVec.le_def,
    Nat.reducePow, Nat.reduceMod]
  have ha := a.isLt
  unfold P
  split <;> omega

/-! `inc` / `dec` are plain C++ branches: proved per branch on `Nat`, independent of the order and form of the tests. -/

/-- conditions and word arithmetic of branching 64-bit C++ code moved to `Nat` (after the `if`s were split) -/
macro "word_nat" : tactic => `(tactic| (
  simp only [decide_eq_true_eq, decide_eq_false_iff_not, beq_iff_eq, bne_iff_ne, ne_eq, Bool.not_eq_true,
    beq_eq_false_iff_ne, gt_iff_lt, ge_iff_le, BitVec.lt_def, BitVec.le_def, BitVec.toNat_eq,
    BitVec.toNat_add, BitVec.toNat_sub, BitVec.toNat_ofNat, Nat.reducePow, Nat.reduceMod, P] at * <;> omega))

theorem inc_mod (a : BitVec 64) : (inc a).toNat % P = (a.toNat + 1) % P := by
  have h4 : (add__rEE a 1#64).toNat % P = (a.toNat + 1) % P := add_mod a 1#64
  have h5 : (add__rEE 1#64 a).toNat % P = (a.toNat + 1) % P := (add_mod 1#64 a).trans (by rw [Nat.add_comm]; rfl)
  have ha := a.isLt
  unfold inc
  try simp only [one__r, c_ONE]
  repeat' split
  -- the branch that calls `add` (operands in either order) is rewritten, not matched up to unfolding
  all_goals first
    | rw [h4]
    | rw [h5]
    | word_nat

theorem dec_mod (a : BitVec 64) : (dec a).toNat % P = (a.toNat % P + (P - 1)) % P := by
  have ha := a.isLt
  unfold dec
  try simp only []
  repeat' split
  all_goals word_nat

end GoldilocksVerif
