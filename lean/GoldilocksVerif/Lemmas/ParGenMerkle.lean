/-
  Order independence for the GENERATED Merkle loops (Gen/MerkleGen.lean, Region mode), per-iteration part: frame and
  dependency of the lifted loop bodies on the ONE tree buffer (a `Region`), derived from the generated text
  (`mtLeafG`, `mtbLeafG`, `mt512LeafG`, `mtb512LeafG`, `mtNodeG` of Lemmas/BridgeMerkle*.lean, which the `*_generic` theorems show
  by unfolding to be the lifted bodies `Pos_merkletree_*_loopK`) and from what the bridge proves of the hashes they call
  (`LeafHash` / `PairHash`: the linear hashes return their 4- / 8-word digest, a function of the input only, and write
  nothing else; `NodeHash`: the capacity hash writes 4 words that are a function of its 12 input words).
  * leaf loops, all in the "fill" form of `fill_spec` (iteration `m` is handed the buffer at `c·m`; `fillIter`; that a leaf
    loop has this form is proved beside its text, `…LeafG_fill` / `…LeafG_writer` of Lemmas/BridgeMerkle*.lean): iteration
    `m` writes the words `[c·m, c·m + w m)`, `w m ≤ c`, and reads nothing of the tree (the input is another buffer;
    `buff0`, `buff1`, `buff2` of the batched builders are private to the iteration).  c = 4 (one row per iteration), c = 8
    (AVX512 builders: two rows per iteration, loop step 2);
  * level iteration `i` (level of `p` nodes stored from word `ni`; `nodeIter`): reads `[ni+8i, ni+8i+8)`, writes
    `[ni+4p+4i, +4)`.
  These are the footprints of `C12_merkle_leaves` (k = c/4) / `C12_merkle_level` (k = 1).
-/
import GoldilocksVerif.Lemmas.ParGen
import GoldilocksVerif.Lemmas.NttPar
import GoldilocksVerif.Lemmas.BridgeMerkle512

namespace GoldilocksVerif.ParGen
open GoldilocksVerif GoldilocksVerif.Par Model

/-- one `Region` observed as buffer 0 (a region has no size) -/
def viewR : View Region where
  shape _ := []
  rd t l := if l.1 = 0 then t l.2 else 0#64
  ext := fun t t' _ h => Region.ext' t t' (fun j => h (0, j))

def regionIter (g : Region → Region) (Rd Wr : Nat → Prop)
    (hframe : ∀ t j, ¬ Wr j → (g t) j = t j)
    (hdep : ∀ t t', (∀ j, Rd j → t j = t' j) → ∀ j, Wr j → (g t) j = (g t') j) : PIter viewR where
  run := g
  R := fun l => l.1 = 0 ∧ Rd l.2
  W := fun l => l.1 = 0 ∧ Wr l.2
  shape_eq := fun _ => rfl
  frame := by
    rintro t ⟨b, j⟩ hl
    cases b with
    | zero => exact hframe t j (fun hw => hl ⟨rfl, hw⟩)
    | succ b => rfl
  dep := by
    rintro t t' _ hag ⟨b, j⟩ ⟨hb, hj⟩
    subst hb
    exact hdep t t' (fun j hj => hag (0, j) ⟨rfl, hj⟩) j hj

theorem toList_apply (r : Region) (n k : Nat) (hk : k < n) : r k = (Region.toList r n).getD k 0#64 := by
  rw [List.getD_eq_getElem?_getD, Region.getElem?_toList, if_pos hk]
  rfl

/-- a block `r` handed out as `t + k` and written only below `c` changes `t` only in `[k, k + c)` -/
theorem unshift_frame {t r : Region} {k c : Nat} (h : ∀ i, c ≤ i → r i = (Region.shift t k) i) (j : Nat)
    (hj : ¬ (k ≤ j ∧ j < k + c)) : (Region.unshift t k r) j = t j := by
  by_cases hk : k ≤ j
  · exact Region.unshift_apply_of_frame h (by omega)
  · rw [Region.unshift_apply, if_neg hk]

/-! Leaf loops: counted loops that fill the buffer `c` words at a time (the form in which `fill_spec`,
    Lemmas/BridgeMerkle.lean, reads every leaf loop of the six builders). -/

section fill
variable (c : Nat) (w : Nat → Nat) (f G : Nat → Region → Option Region) (D : Nat → List Wd) (N : Nat)
variable (hf : ∀ m, m < N → ∀ t, f m t = (G m (Region.shift t (c * m))).bind fun r => some (Region.unshift t (c * m) r))
variable (hG : ∀ m, m < N → DigestWriter (w m) (G m) (D m))

/-- the lifted body as a total step (identity outside the index range) -/
def fillStep (m : Nat) (t : Region) : Region := if m < N then (f m t).getD t else t

include hf hG in
theorem fill_step_spec (m : Nat) (hm : m < N) (t : Region) :
    f m t = some (fillStep f N m t) ∧
    (∀ j, ¬ (c * m ≤ j ∧ j < c * m + w m) → (fillStep f N m t) j = t j) ∧
    (∀ j, c * m ≤ j ∧ j < c * m + w m → (fillStep f N m t) j = (D m).getD (j - c * m) 0#64) := by
  obtain ⟨out', ho, hd, hofr⟩ := hG m hm (Region.shift t (c * m))
  have hrun : f m t = some (Region.unshift t (c * m) out') := by rw [hf m hm, ho]; rfl
  have hstep : fillStep f N m t = Region.unshift t (c * m) out' := by
    unfold fillStep; rw [if_pos hm, hrun]; rfl
  rw [hstep]
  refine ⟨hrun, ?_, ?_⟩
  · exact unshift_frame hofr
  · intro j hj
    rw [Region.unshift_apply, if_pos hj.1, toList_apply out' (w m) (j - c * m) (by omega), hd]

def fillIter (m : Nat) : PIter viewR :=
  regionIter (fillStep f N m) (fun _ => False) (fun j => m < N ∧ c * m ≤ j ∧ j < c * m + w m)
    (fun t j hj => by
      by_cases hm : m < N
      · exact (fill_step_spec c w f G D N hf hG m hm t).2.1 j (fun h => hj ⟨hm, h⟩)
      · unfold fillStep; rw [if_neg hm])
    (fun t t' _ j hj => by
      rw [(fill_step_spec c w f G D N hf hG m hj.1 t).2.2 j hj.2, (fill_step_spec c w f G D N hf hG m hj.1 t').2.2 j hj.2])

end fill

section level
variable (H : Region → Region → Region) (nodeF : List Wd → List Wd) (hH : NodeHash H nodeF)

include hH in
theorem node_frame (ni p i : Nat) (t : Region) (j : Nat) (hj : ¬ (ni + 4 * p + 4 * i ≤ j ∧ j < ni + 4 * p + 4 * i + 4)) :
    (nodeStepR H ni p i t) j = t j := by
  exact unshift_frame (hH _ _).2 j hj

include hH in
theorem node_dep (ni p i : Nat) (t t' : Region) (hag : ∀ j, ni + 8 * i ≤ j ∧ j < ni + 8 * i + 8 → t j = t' j) (j : Nat)
    (hj : ni + 4 * p + 4 * i ≤ j ∧ j < ni + 4 * p + 4 * i + 4) : (nodeStepR H ni p i t) j = (nodeStepR H ni p i t') j := by
  unfold nodeStepR
  rw [Region.unshift_apply, Region.unshift_apply, if_pos hj.1, if_pos hj.1,
    toList_apply _ 4 (j - (ni + 4 * p + 4 * i)) (by omega), toList_apply (H _ _) 4 (j - (ni + 4 * p + 4 * i)) (by omega),
    (hH _ _).1, (hH _ _).1, pol_input_list, pol_input_list,
    Region.toList_congr (r := Region.shift t (ni + 8 * i)) (s := Region.shift t' (ni + 8 * i))
      (fun k hk => hag (ni + 8 * i + k) (by omega))]

def nodeIter (ni p i : Nat) : PIter viewR :=
  regionIter (nodeStepR H ni p i) (fun j => ni + 8 * i ≤ j ∧ j < ni + 8 * i + 8)
    (fun j => ni + 4 * p + 4 * i ≤ j ∧ j < ni + 4 * p + 4 * i + 4)
    (fun t j hj => node_frame H nodeF hH ni p i t j hj)
    (fun t t' hag j hj => node_dep H nodeF hH ni p i t t' hag j hj)

end level

end GoldilocksVerif.ParGen
