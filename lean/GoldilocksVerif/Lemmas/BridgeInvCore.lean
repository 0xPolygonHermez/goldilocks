/-
  Generic part of the inv / div / exp bridge (independent of Gen/InvGen.lean, hence cached across regenerations).

  The bridge theorems of Lemmas/BridgeInv.lean do not follow the TEXT of the generated loops (the state tuple of
  `inv___eE_loop1`, whose arity and order are the variables assigned in the loop in order of first assignment, the value of
  every component after one iteration, the names of the aliased `mul` call patterns of `exp`): every behaviour-preserving
  rewrite of the C++ loop (loop-local temporaries, reordered independent updates, swapped operands of a commutative exact
  operation, `while(true)` for `for(;;)`, `== 0` for `!`, `square` for `mul(b,b,b)`) changes one of these.

  The loops are characterised SEMANTICALLY instead, for an arbitrary state type `σ` and arbitrary observations of the
  state (`EuclidSim`, `ExpSim`): facts in `Nat` / `F`, closed under commutativity (`ring`), independent of names, of the
  order of the updates, of which temporaries exist and of whether they live in the loop state.  For Euclid, a canonical
  word is determined by its field value (`canon_den_ext`), so these facts pin the next state down bit for bit and
  `euclid_loop` relates the run to `Model.invLoop`.  For exp, `Goldilocks::mul` is commutative BIT FOR BIT
  (`mul_comm_bit`, from the exact characterisation `mul_toNat` of the asm block), so either operand order is accepted.

  Lemmas/BridgeInv.lean instantiates these for the generated step functions; the observations are FOUND by search
  (`pick_proj`: the components of the state tuple are tried one after the other and validated by the hypotheses), so
  that file never writes a state tuple down.
-/
import GoldilocksVerif.Model.TrRt
import GoldilocksVerif.Lemmas.InvF

namespace GoldilocksVerif
open Gen.Scalar Model

/-- Enough fuel for the generated `inv` / `div` and everything calling them: `r·newr < P² < 2^128` at least halves in
    every iteration (`euclid_halves`), and one more step leaves the loop. -/
def invFuel : Nat := 129
/-- Enough fuel for the generated `exp`: one iteration per bit of the 64-bit exponent. -/
def expFuel : Nat := 64

theorem Loop.whileM_bind_mono {σ τ : Type} (step : σ → Option (Bool × σ)) (k : σ → Option τ) (f g : Nat) (s : σ) (r : τ)
    (h : (Loop.whileM step f s).bind k = some r) (hfg : f ≤ g) : (Loop.whileM step g s).bind k = some r := by
  cases hw : Loop.whileM step f s with
  | none => rw [hw] at h; cases h
  | some st => rw [hw] at h; rw [Loop.whileM_mono step f s st g hw hfg]; exact h

theorem Loop.step_of_flag {σ : Type} (step : σ → Option (Bool × σ)) (s : σ) (b : Bool)
    (h : Option.map Prod.fst (step s) = some b) : ∃ s', step s = some (b, s') := by
  cases hs : step s with
  | none => rw [hs] at h; cases h
  | some p =>
    obtain ⟨b', s'⟩ := p
    rw [hs] at h
    simp only [Option.map_some, Option.some.injEq] at h
    subst h
    exact ⟨s', rfl⟩

theorem toU64_e_lt (x : BitVec 64) : (toU64__eE x).toNat < P := toU64_r_lt x

theorem canon_den_ext (x y : BitVec 64) (hx : x.toNat < P) (hy : y.toNat < P) (h : den x = den y) : x = y := by
  apply BitVec.eq_of_toNat_eq
  have := (den_eq_iff x y).mp h
  rwa [Nat.mod_eq_of_lt hx, Nat.mod_eq_of_lt hy] at this

theorem eq_toU64_of_toNat (x y : BitVec 64) (h : x.toNat = y.toNat % P) : x = toU64__rE (fromU64__rE y) := by
  apply BitVec.eq_of_toNat_eq
  rw [h, Model.toU64_r_toNat, fromU64_eq]

theorem eq_stepVal_of_den (z x y q : BitVec 64) (h : z.toNat < P ∧ den z = den x - den q * den y) :
    z = stepVal x y (fromU64__rE q) :=
  canon_den_ext _ _ h.1 (toU64_r_lt _) (by rw [h.2, den_stepVal, den_fromU64])

/-- `Goldilocks::mul` is commutative bit for bit: the asm block is a function of the 128-bit product -/
theorem mul_comm_bit (a b : BitVec 64) : mul__eEE a b = mul__eEE b a :=
  BitVec.eq_of_toNat_eq (by rw [mul_toNat, mul_toNat, Nat.mul_comm])
theorem mul_comm_bit_r (a b : BitVec 64) : mul__rEE a b = mul__rEE b a := mul_comm_bit a b

/-- Components of a tuple, as REWRITE rules with a propositional proof (not `rfl`-lemmas): `dsimp` / `rfl` would leave the
    kernel a definitional cast `(a, X, c).2.1 ≡ X`, and when `X` is an application of a translated asm block the kernel
    unfolds THAT first (greater definitional height than `Prod.fst`) and runs out of stack evaluating it. -/
theorem fst_mk' {α β : Type} (a : α) (b : β) : (a, b).1 = a := congrArg id rfl
theorem snd_mk' {α β : Type} (a : α) (b : β) : (a, b).2 = b := congrArg id rfl

/-- a test against zero written with the constant first (`0 != newr`) -/
theorem zero_eq_bv (x : BitVec 64) : (0#64 = x) ↔ (x = 0#64) := eq_comm

theorem sub_r_eq (a b : BitVec 64) : sub__rEE a b = sub__eEE a b := rfl
theorem mul_r_eq (a b : BitVec 64) : mul__rEE a b = mul__eEE a b := rfl
theorem add_r_eq (a b : BitVec 64) : add__rEE a b = add__eEE a b := rfl
theorem square_r_eq (a : BitVec 64) : square__rE a = mul__eEE a a := rfl
theorem square_e_eq (a : BitVec 64) : square__eE a = mul__eEE a a := rfl
theorem fromU64_e_eq (x : BitVec 64) : fromU64__eE x = x := rfl
theorem toU64_e_eq (x : BitVec 64) : toU64__eE x = toU64__rE x := rfl

theorem euclid_halves (a b : Nat) (hb : 0 < b) (h : b ≤ a) : 2 * (b * (a % b)) ≤ a * b := by
  have hm := Nat.mod_lt a hb
  have hd := Nat.div_add_mod a b
  have hq : 1 ≤ a / b := Nat.div_pos h hb
  have hbq : b ≤ b * (a / b) := Nat.le_mul_of_pos_right b hq
  have h2 : 2 * (a % b) ≤ a := by omega
  calc 2 * (b * (a % b)) = (2 * (a % b)) * b := by ring
    _ ≤ a * b := Nat.mul_le_mul_right b h2

theorem invLoop_congr (t r nt nr t' r' nt' nr' : BitVec 64) (hn : nr.toNat < P) (hn' : nr'.toNat < P)
    (e1 : t = t') (e2 : r = r') (e3 : nt = nt') (e4 : nr = nr') :
    invLoop t r nt nr hn = invLoop t' r' nt' nr' hn' := by
  subst e1 e2 e3 e4; rfl

/-- One iteration of the extended Euclid loop of `Goldilocks::inv`, stated on observations of an arbitrary loop state:
    `hr` / `ht` are `r := newr`, `t := newt` (through `toU64(fromU64 ·)`), `hnr` / `hnt` are `newr := r − q·newr`,
    `newt := t − q·newt` in F_p with `q = r / newr` on the words. -/
structure EuclidSim {σ : Type} (step : σ → Option (Bool × σ)) (pt pnt pr pnr : σ → BitVec 64) : Prop where
  cond : ∀ s, Option.map Prod.fst (step s) = some (decide (pnr s ≠ 0#64))
  stop : ∀ s s', step s = some (false, s') → pt s' = pt s
  hr : ∀ s s', step s = some (true, s') → (pr s').toNat = (pnr s).toNat % P
  hnr : ∀ s s', step s = some (true, s') →
    (pnr s').toNat < P ∧ den (pnr s') = den (pr s) - den (pr s / pnr s) * den (pnr s)
  ht : ∀ s s', step s = some (true, s') → (pt s').toNat = (pnt s).toNat % P
  hnt : ∀ s s', step s = some (true, s') →
    (pnt s').toNat < P ∧ den (pnt s') = den (pt s) - den (pr s / pnr s) * den (pnt s)

section Euclid
variable {σ : Type} {step : σ → Option (Bool × σ)} {pt pnt pr pnr : σ → BitVec 64}

theorem euclid_loop (H : EuclidSim step pt pnt pr pnr) : ∀ (fuel : Nat) (s : σ) (hn : (pnr s).toNat < P),
    (pnr s).toNat ≤ (pr s).toNat → (pr s).toNat * (pnr s).toNat < 2 ^ fuel →
    ∃ s', Loop.whileM step (fuel + 1) s = some s' ∧ pt s' = invLoop (pt s) (pr s) (pnt s) (pnr s) hn := by
  have hstop : ∀ (f : Nat) (s : σ) (hn : (pnr s).toNat < P), pnr s = 0#64 →
      ∃ s', Loop.whileM step (f + 1) s = some s' ∧ pt s' = invLoop (pt s) (pr s) (pnt s) (pnr s) hn := by
    intro f s hn h0
    have hc := H.cond s
    rw [show decide (pnr s ≠ 0#64) = false from by simp [h0]] at hc
    obtain ⟨s', hs⟩ := Loop.step_of_flag step s false hc
    exact ⟨s', Loop.whileM_stop _ _ _ _ hs, by rw [H.stop s s' hs, invLoop_of_zero _ _ _ _ hn h0]⟩
  intro fuel
  induction fuel with
  | zero =>
    intro s hn hle hf
    refine hstop 0 s hn (Classical.byContradiction fun h0 => ?_)
    have hp := toNat_pos_of_ne_zero h0
    have := Nat.mul_pos (Nat.lt_of_lt_of_le hp hle) hp
    omega
  | succ f ih =>
    intro s hn hle hf
    by_cases h0 : pnr s = 0#64
    · exact hstop (f + 1) s hn h0
    · have hpos : 0 < (pnr s).toNat := toNat_pos_of_ne_zero h0
      have hc := H.cond s
      rw [show decide (pnr s ≠ 0#64) = true from by simp [h0]] at hc
      obtain ⟨s', hs⟩ := Loop.step_of_flag step s true hc
      -- the next state, bit for bit
      have e_r := eq_toU64_of_toNat _ _ (H.hr s s' hs)
      have e_t := eq_toU64_of_toNat _ _ (H.ht s s' hs)
      have e_nr := eq_stepVal_of_den _ _ _ _ (H.hnr s s' hs)
      have e_nt := eq_stepVal_of_den _ _ _ _ (H.hnt s s' hs)
      have n_r : (pr s').toNat = (pnr s).toNat := by rw [H.hr s s' hs]; exact Nat.mod_eq_of_lt hn
      have n_nr : (pnr s').toNat = (pr s).toNat % (pnr s).toNat := by rw [e_nr]; exact stepVal_rem _ _ hpos hn
      have hn' : (pnr s').toNat < P := (H.hnr s s' hs).1
      have hle' : (pnr s').toNat ≤ (pr s').toNat := by
        rw [n_r, n_nr]; exact Nat.le_of_lt (Nat.mod_lt _ hpos)
      have hf' : (pr s').toNat * (pnr s').toNat < 2 ^ f := by
        rw [n_r, n_nr]
        have := euclid_halves (pr s).toNat (pnr s).toNat hpos hle
        rw [Nat.pow_succ] at hf
        omega
      obtain ⟨s'', hw, ht⟩ := ih s' hn' hle' hf'
      refine ⟨s'', by rw [Loop.whileM_next _ _ _ _ hs, hw], ?_⟩
      rw [ht, invLoop_succ (pt s) (pr s) (pnt s) (pnr s) hn h0]
      exact invLoop_congr _ _ _ _ _ _ _ _ _ _ e_t e_r e_nt e_nr

/-- the body of the generated `inv`: the loop started as the C++ starts it, followed by `fromU64(result, t)` -/
theorem euclid_bind (H : EuclidSim step pt pnt pr pnr) (init : σ) (a : BitVec 64) (k : σ → Option (BitVec 64))
    (i_t : pt init = 0#64) (i_r : pr init = 18446744069414584321#64) (i_nt : pnt init = 1#64)
    (i_nr : pnr init = toU64__rE a) (hk : ∀ s, k s = some (fromU64__rE (pt s)))
    (fuel : Nat) (hf : invFuel ≤ fuel) :
    (Loop.whileM step fuel init).bind k =
      some (fromU64__rE (invLoop 0#64 18446744069414584321#64 1#64 (toU64__rE a) (toU64_r_lt a))) := by
  have hn : (pnr init).toNat < P := by rw [i_nr]; exact toU64_r_lt a
  have hle : (pnr init).toNat ≤ (pr init).toNat := by rw [i_r, P_word_toNat]; omega
  have hprod : (pr init).toNat * (pnr init).toNat < 2 ^ 128 := by
    rw [i_r, P_word_toNat]
    have h1 : P * (pnr init).toNat < P * P := Nat.mul_lt_mul_of_pos_left hn (by decide)
    have h2 : P * P < 2 ^ 128 := by decide
    omega
  obtain ⟨s', hw, ht⟩ := euclid_loop H 128 init hn hle hprod
  rw [Loop.whileM_mono step 129 _ _ fuel hw hf]
  show k s' = _
  rw [hk, ht]
  exact congrArg (fun x => some (fromU64__rE x)) (invLoop_congr _ _ _ _ _ _ _ _ _ _ i_t i_r i_nt i_nr)

end Euclid

/-- the exponent halved by a division instead of a shift -/
theorem udiv_two_toNat (e : BitVec 64) : (e / 2#64).toNat = e.toNat / 2 := by
  rw [BitVec.toNat_udiv]; rfl

theorem udiv_two_eq_zero (e : BitVec 64) : (e / 2#64 = 0#64) ↔ e.toNat / 2 = 0 := by
  rw [← BitVec.toNat_inj, udiv_two_toNat]; rfl

theorem and_one_eq_one (e : BitVec 64) : (e &&& 1#64 = 1#64) ↔ e.toNat % 2 = 1 := by
  rw [← BitVec.toNat_inj, and_one_toNat]; rfl

/-- One iteration of `Goldilocks::exp`, stated on observations of an arbitrary loop state. -/
structure ExpSim {σ : Type} (step : σ → Option (Bool × σ)) (pres pe pbase : σ → BitVec 64) : Prop where
  cond : ∀ s, Option.map Prod.fst (step s) = some (decide ((pe s).toNat / 2 ≠ 0))
  he : ∀ s b s', step s = some (b, s') → (pe s').toNat = (pe s).toNat / 2
  hres : ∀ s b s', step s = some (b, s') →
    pres s' = if (pe s).toNat % 2 = 1 then mul__eEE (pres s) (pbase s) else pres s
  hbase : ∀ s s', step s = some (true, s') → pbase s' = mul__eEE (pbase s) (pbase s)

section Exp
variable {σ : Type} {step : σ → Option (Bool × σ)} {pres pe pbase : σ → BitVec 64}

theorem exp_loop (H : ExpSim step pres pe pbase) : ∀ (n : Nat) (s : σ), (pe s).toNat < 2 ^ (n + 1) →
    ∃ s', Loop.whileM step (n + 1) s = some s' ∧ pres s' = expLoop (n + 1) (pres s) (pbase s) (pe s) := by
  have hstop : ∀ (n : Nat) (s : σ), (pe s).toNat / 2 = 0 →
      ∃ s', Loop.whileM step (n + 1) s = some s' ∧ pres s' = expLoop (n + 1) (pres s) (pbase s) (pe s) := by
    intro n s hz
    have hc := H.cond s
    rw [show decide ((pe s).toNat / 2 ≠ 0) = false from by simp [hz]] at hc
    obtain ⟨s', hs⟩ := Loop.step_of_flag step s false hc
    refine ⟨s', Loop.whileM_stop _ _ _ _ hs, ?_⟩
    rw [H.hres s false s' hs, expLoop_unfold, if_pos hz]
  intro n
  induction n with
  | zero => exact fun s h => hstop 0 s (by omega)
  | succ n ih =>
    intro s h
    by_cases hz : (pe s).toNat / 2 = 0
    · exact hstop _ s hz
    · have hc := H.cond s
      rw [show decide ((pe s).toNat / 2 ≠ 0) = true from by simp [hz]] at hc
      obtain ⟨s', hs⟩ := Loop.step_of_flag step s true hc
      have e_e : pe s' = pe s >>> 1 := by
        apply BitVec.eq_of_toNat_eq; rw [H.he s true s' hs, ushiftRight_one_toNat]
      have hlt : (pe s').toNat < 2 ^ (n + 1) := by
        rw [H.he s true s' hs]; rw [Nat.pow_succ] at h; omega
      obtain ⟨s'', hw, hr⟩ := ih s' hlt
      refine ⟨s'', by rw [Loop.whileM_next _ _ _ _ hs, hw], ?_⟩
      rw [hr, H.hres s true s' hs, H.hbase s s' hs, e_e]
      conv => rhs; rw [expLoop_unfold, if_neg hz]

/-- the body of the generated `exp`: `result = one()`, the loop, `result` -/
theorem exp_bind (H : ExpSim step pres pe pbase) (init : σ) (b e : BitVec 64) (k : σ → Option (BitVec 64))
    (i_res : pres init = one__r) (i_e : pe init = e) (i_base : pbase init = b) (hk : ∀ s, k s = some (pres s))
    (fuel : Nat) (hf : expFuel ≤ fuel) :
    (Loop.whileM step fuel init).bind k = some (Model.exp b e) := by
  obtain ⟨s', hw, hr⟩ := exp_loop H 63 init (by rw [i_e]; exact e.isLt)
  rw [Loop.whileM_mono step 64 _ _ fuel hw (by unfold expFuel at hf; omega)]
  show k s' = _
  rw [hk, hr, i_res, i_e, i_base]
  rfl

end Exp

open Lean Meta Elab Tactic in
/-- unfold the head of `e` as long as it is a generated definition (namespace `Gen`), reducing `let`s / β at the head -/
partial def unfoldGenHead (e : Expr) : MetaM Expr := do
  let e ← whnfCore e
  match e.getAppFn with
  | .const n _ =>
    if n.getRoot == `Gen then
      match ← delta? e with
      | some e' => unfoldGenHead e'
      | none => pure e
    else pure e
  | _ => pure e

open Lean Meta Elab Tactic in
/-- `lhs = mul__eEE a b` (or `mul__rEE a b`) where `lhs` is any generated overload / aliased call pattern of `mul` / `square` (whatever its
    name) applied to the same operands in either order.  The unfolded texts are compared SYNTACTICALLY (a failing
    definitional-equality search through two asm blocks runs into the recursion limit, which `first` cannot catch), then the
    goal is closed by `rfl` resp. `mul_comm_bit`; the kernel re-checks that term. -/
elab "mul_form" : tactic => withMainContext do
  let g ← getMainGoal
  let t ← instantiateMVars (← g.getType)
  let some (_, lhs, rhs) := t.eq? | throwError "mul_form: not an equation"
  let l ← unfoldGenHead lhs
  let r ← unfoldGenHead rhs
  if l == r then
    -- an auxiliary theorem: the kernel compares the two asm blocks at the top of its stack, not deep inside the proof
    g.assign (← mkAuxTheorem t (← mkEqRefl lhs))
    return
  let fn := rhs.getAppFn
  let args := rhs.getAppArgs
  if (fn.isConstOf ``Gen.Scalar.mul__eEE || fn.isConstOf ``Gen.Scalar.mul__rEE) && args.size == 2 then
    let rhs' := mkApp2 fn args[1]! args[0]!
    let r' ← unfoldGenHead rhs'
    if l == r' then
      let p1 ← mkAuxTheorem (← mkEq lhs rhs') (← mkEqRefl lhs)
      let comm := if fn.isConstOf ``Gen.Scalar.mul__eEE then ``GoldilocksVerif.mul_comm_bit else ``GoldilocksVerif.mul_comm_bit_r
      let p2 ← mkAppM comm #[args[1]!, args[0]!]
      g.assign (← mkEqTrans p1 p2)
      return
  throwError "mul_form: the two sides are different texts"

open Lean Meta Elab Tactic in
/-- `base` when the last component of `n` is `<base>_al_…` (an aliased call pattern emitted by the translator) -/
def aliasBase? (n : Name) : Option String :=
  match n with
  | .str _ s =>
    match s.splitOn "_al_" with
    | base :: _ :: _ => some base
    | _ => none
  | _ => none

open Lean Meta Elab Tactic in
def tuplesOf (xs : Array Expr) : Nat → List (Array Expr)
  | 0 => [#[]]
  | m + 1 => (tuplesOf xs m).flatMap fun t => xs.toList.map fun x => t.push x

open Lean Meta Elab Tactic in
partial def collectApps (c : Name) (arity : Nat) (e : Expr) (acc : Array Expr) : Array Expr :=
  let acc := if e.getAppFn.isConstOf c && e.getAppNumArgs == arity && !acc.contains e then acc.push e else acc
  match e with
  | .app f a => collectApps c arity a (collectApps c arity f acc)
  | .lam _ d b _ => collectApps c arity b (collectApps c arity d acc)
  | .forallE _ d b _ => collectApps c arity b (collectApps c arity d acc)
  | .letE _ ty v b _ => collectApps c arity b (collectApps c arity v (collectApps c arity ty acc))
  | .mdata _ b => collectApps c arity b acc
  | .proj _ _ b => collectApps c arity b acc
  | _ => acc

open Lean Meta Elab Tactic in
/-- Replace every application of an aliased call pattern `f_al_… a b` (the translator's specialisation of `f` to a call
    whose arguments share storage) in the goal by the application of `f` itself it is definitionally equal to.  The
    arguments of `f` are found by comparing the unfolded texts SYNTACTICALLY, so nothing depends on the alias' name. -/
def dealiasFind (tgt : Expr) : MetaM (Array (Expr × Expr)) := do
  let env ← getEnv
  let cands := tgt.foldConsts (init := (#[] : Array Name)) fun n acc =>
    if n.getRoot == `Gen && (aliasBase? n).isSome then acc.push n else acc
  let mut found : Array (Expr × Expr) := #[]
  for c in cands do
    let some base := aliasBase? c | continue
    -- the function the alias specialises: same last component, any generated module
    let bases := env.constants.fold (init := (#[] : Array Name)) fun acc n _ =>
      match n with
      | .str _ s => if s == base && n.getRoot == `Gen then acc.push n else acc
      | _ => acc
    let some cinfo := env.find? c | continue
    let arity := cinfo.type.getForallBinderNames.length
    for e in collectApps c arity tgt #[] do
      if e.hasLooseBVars then continue
      let args := e.getAppArgs
      let ue ← unfoldGenHead e
      let mut done := false
      for b in bases do
        if done then break
        let some binfo := env.find? b | continue
        let m := binfo.type.getForallBinderNames.length
        for t in tuplesOf args m do
          if done then break
          let cand := mkAppN (mkConst b) t
          if !(← isTypeCorrect cand) then continue
          let uc ← unfoldGenHead cand
          if uc == ue then
            found := found.push (e, cand)
            done := true
  return found

open Lean Meta Elab Tactic in
/-- see `dealiasFind`.  Every equation `alias … = f …` becomes an auxiliary theorem proved by `rfl` (so the kernel compares
    the two texts at the top of its stack, not deep inside a proof term) and the goal is rewritten with it; nested aliased
    calls are resolved from the outside in. -/
elab "gen_dealias" : tactic => withMainContext do
  for _ in [0:16] do
    let g ← getMainGoal
    let tgt ← instantiateMVars (← g.getType)
    let found ← dealiasFind tgt
    if found.isEmpty then break
    let mut g := g
    for (e, cand) in found do
      let pr ← mkAuxTheorem (← mkEq e cand) (← mkEqRefl e)
      let tgt ← instantiateMVars (← g.getType)
      let r ← g.rewrite tgt pr
      g ← g.replaceTargetEq r.eNew r.eqProof
    replaceMainGoal [g]

/-! ### search for the observations

  `pick_proj x => tac`: assign the pending goal `?x : σ → BitVec 64` (σ a right-nested tuple of up to 12 components)
  to one projection after the other and keep the first for which `tac` succeeds (`tac` validates the choice and may
  contain further `pick_proj`s: the search backtracks).  Components of another type are skipped (type error). -/
syntax "pick_proj " ident " => " tacticSeq : tactic
macro_rules
  | `(tactic| pick_proj $x => $t) => do
    let msg := Lean.Syntax.mkStrLit
      s!"pick_proj: no component of the generated loop state satisfies the obligations of the observation `{x.getId}` (or of the observations chosen after it): the loop no longer performs the modelled step"
    `(tactic| first
      | ((case $x:ident => exact fun s => s); ($t))
      | ((case $x:ident => exact fun s => s.1); ($t))
      | ((case $x:ident => exact fun s => s.2); ($t))
      | ((case $x:ident => exact fun s => s.2.1); ($t))
      | ((case $x:ident => exact fun s => s.2.2); ($t))
      | ((case $x:ident => exact fun s => s.2.2.1); ($t))
      | ((case $x:ident => exact fun s => s.2.2.2); ($t))
      | ((case $x:ident => exact fun s => s.2.2.2.1); ($t))
      | ((case $x:ident => exact fun s => s.2.2.2.2); ($t))
      | ((case $x:ident => exact fun s => s.2.2.2.2.1); ($t))
      | ((case $x:ident => exact fun s => s.2.2.2.2.2); ($t))
      | ((case $x:ident => exact fun s => s.2.2.2.2.2.1); ($t))
      | ((case $x:ident => exact fun s => s.2.2.2.2.2.2); ($t))
      | ((case $x:ident => exact fun s => s.2.2.2.2.2.2.1); ($t))
      | ((case $x:ident => exact fun s => s.2.2.2.2.2.2.2); ($t))
      | ((case $x:ident => exact fun s => s.2.2.2.2.2.2.2.1); ($t))
      | ((case $x:ident => exact fun s => s.2.2.2.2.2.2.2.2); ($t))
      | ((case $x:ident => exact fun s => s.2.2.2.2.2.2.2.2.1); ($t))
      | ((case $x:ident => exact fun s => s.2.2.2.2.2.2.2.2.2); ($t))
      | ((case $x:ident => exact fun s => s.2.2.2.2.2.2.2.2.2.1); ($t))
      | ((case $x:ident => exact fun s => s.2.2.2.2.2.2.2.2.2.2); ($t))
      | ((case $x:ident => exact fun s => s.2.2.2.2.2.2.2.2.2.2.1); ($t))
      | ((case $x:ident => exact fun s => s.2.2.2.2.2.2.2.2.2.2.2); ($t))
      | fail $msg)

end GoldilocksVerif
