/-
  Locality of the translated AVX2 and AVX512 permutations in the call pattern of `linear_hash` / `linear_hash_avx512`
  (`hash_full_result*(state, state)`): their first twelve (24) output words are a function of their first twelve (24)
  input words.  The generated bodies load three registers from the state, compute on registers (spilling state[0] (and
  state[4]) around the 22 partial rounds) and store three registers: the final store chain is read back as the register
  lanes (by evaluation), `simp` collapses the spill / reload pairs to register lanes, and the three initial loads are equal
  for inputs that agree on the first twelve (24) words.  The AVX2 copy printed for that call pattern is
  Gen.PosAvx2.Pos_hash_full_result with the state as both arguments (`avx_al_eq`).  This discharges the hypotheses `hP` / `hP2` of
  Lemmas/BridgeSponge.lean and the hypothesis `hH` of the Merkle bridge for `merkletree_avx` (`hash_avx_node`).
-/
import GoldilocksVerif.Lemmas.BridgePerm

namespace GoldilocksVerif
open Gen.LinearHashGen Gen.Avx2Mat Gen.Avx512Mat Gen.PosAvx512

/-! ### AVX2: `hash_full_result(state, state)` and `hash(out, inp)` -/

def W12 (b0 b1 b2 : V4) : Region :=
  Region.ofList [b0.l0, b0.l1, b0.l2, b0.l3, b1.l0, b1.l1, b1.l2, b1.l3, b2.l0, b2.l1, b2.l2, b2.l3]

theorem stores_words (S : Region) (b0 b1 b2 : V4) : ∀ i, i < 12 →
    (Region.unshift (Region.unshift (store_avx S b0) 4 (store_avx (Region.shift (store_avx S b0) 4) b1)) 8
      (store_avx (Region.shift (Region.unshift (store_avx S b0) 4 (store_avx (Region.shift (store_avx S b0) 4) b1)) 8) b2)) i =
      W12 b0 b1 b2 i := by
  refine forall_lt_12 _ ?_ ?_ ?_ ?_ ?_ ?_ ?_ ?_ ?_ ?_ ?_ ?_ <;> rfl

theorem store_get0 (S : Region) (a0 : V4) : (store_avx S a0) 0 = a0.l0 := (store_get S a0).1

theorem load_congr (a b : Region) (h0 : a 0 = b 0) (h1 : a 1 = b 1) (h2 : a 2 = b 2) (h3 : a 3 = b 3) :
    load_avx a = load_avx b := by
  simp only [load_avx, Avx2.load, h0, h1, h2, h3]

theorem loads_congr (t t' : Region) (h : Region.Agree 12 t t') :
    load_avx t = load_avx t' ∧ load_avx (Region.shift t 4) = load_avx (Region.shift t' 4) ∧
    load_avx (Region.shift t 8) = load_avx (Region.shift t' 8) := by
  refine ⟨load_congr _ _ (h 0 (by omega)) (h 1 (by omega)) (h 2 (by omega)) (h 3 (by omega)), ?_, ?_⟩
  · exact load_congr _ _ (by simpa using h 4 (by omega)) (by simpa using h 5 (by omega)) (by simpa using h 6 (by omega))
      (by simpa using h 7 (by omega))
  · exact load_congr _ _ (by simpa using h 8 (by omega)) (by simpa using h 9 (by omega)) (by simpa using h 10 (by omega))
      (by simpa using h 11 (by omega))

set_option maxRecDepth 16384 in
theorem perm_avx2_local (st st' s s' : Region) (h : Region.Agree 12 s s') :
    Region.Agree 12 (Gen.PosAvx2.Pos_hash_full_result st s) (Gen.PosAvx2.Pos_hash_full_result st' s') := by
  obtain ⟨hl0, hl1, hl2⟩ := loads_congr _ _ (Region.copyN_agree st st' h)
  intro i hi
  simp only [Gen.PosAvx2.Pos_hash_full_result, stores_words _ _ _ _ i hi, reload_eq, store_get0, hl0, hl1, hl2]

/-- the copy the translator prints for `hash_full_result(state, state)` is the function with the state as both arguments -/
theorem avx_al_eq (s : Region) : Pos_hash_full_result_al_state_input s = Gen.PosAvx2.Pos_hash_full_result s s := by
  delta Pos_hash_full_result_al_state_input Gen.PosAvx2.Pos_hash_full_result
  rfl

theorem perm_avx_local (s s' : Region) (h : Region.Agree 12 s s') :
    Region.Agree 12 (Pos_hash_full_result_al_state_input s) (Pos_hash_full_result_al_state_input s') := by
  rw [avx_al_eq, avx_al_eq]
  exact perm_avx2_local s s' s s' h

def nodeAvxList (l : List Model.Wd) : List Model.Wd :=
  Region.toList (Gen.PosAvx2.Pos_hash_full_result Region.zero (Region.ofList l)) 4

theorem nodeAvxList_length (l : List Model.Wd) : (nodeAvxList l).length = 4 := Region.length_toList _ _

/-- hypothesis `hH` of the Merkle bridge for `merkletree_avx`, discharged -/
theorem hash_avx_node : NodeHash Gen.PosAvx2.Pos_hash nodeAvxList := by
  intro out inp
  constructor
  · refine Region.toList_congr fun j hj => ?_
    have e : (Gen.PosAvx2.Pos_hash out inp) j = (Gen.PosAvx2.Pos_hash_full_result Region.zero inp) j := by
      simp only [Gen.PosAvx2.Pos_hash, Region.copyN_apply, hj, if_true]
    rw [e]
    exact perm_avx2_local Region.zero Region.zero inp (Region.ofList (Region.toList inp 12)) (Region.agree_trunc inp 12) j (by omega)
  · intro k hk
    simp only [Gen.PosAvx2.Pos_hash, Region.copyN_apply, show ¬ k < 4 from by omega, if_false]

def permAvxList (l : List Model.Wd) : List Model.Wd :=
  Region.toList (Pos_hash_full_result_al_state_input (Region.ofList l)) 12

theorem perm_avx_hP (s : Region) :
    Region.toList (Pos_hash_full_result_al_state_input s) 12 = permAvxList (Region.toList s 12) :=
  Region.toList_congr (perm_avx_local s _ (Region.agree_trunc s 12))

theorem leafHash_avx (perm : List Model.Wd → List Model.Wd)
    (hP : ∀ s, Region.toList (Pos_hash_full_result_al_state_input s) 12 = perm (Region.toList s 12)) :
    LeafHash Pos_linear_hash (Model.linearHash perm) := fun fuel out inp size hf => by
  rw [lh_avx_generic]
  exact lhGenG_spec _ perm hP fuel out inp size hf

theorem permAvxList_length (l : List Model.Wd) : (permAvxList l).length = 12 := Region.length_toList _ _

/-! ### AVX512: `hash_full_result_avx512(state, state)` on two interleaved states (24 words) -/

def W24 (b0 b1 b2 : V8) : Region :=
  Region.ofList [b0.l0, b0.l1, b0.l2, b0.l3, b0.l4, b0.l5, b0.l6, b0.l7, b1.l0, b1.l1, b1.l2, b1.l3, b1.l4, b1.l5, b1.l6, b1.l7,
    b2.l0, b2.l1, b2.l2, b2.l3, b2.l4, b2.l5, b2.l6, b2.l7]

theorem br_forall_lt_24 (p : Nat → Prop) (h : ∀ i, i < 12 → p i) (h' : ∀ i, i < 12 → p (12 + i)) : ∀ i, i < 24 → p i := by
  intro i hi
  by_cases h12 : i < 12
  · exact h i h12
  · have := h' (i - 12) (by omega)
    have e : 12 + (i - 12) = i := by omega
    rw [e] at this; exact this

theorem stores512_words (S : Region) (b0 b1 b2 : V8) : ∀ i, i < 24 →
    (Region.unshift (Region.unshift (store_avx512 S b0) 8 (store_avx512 (Region.shift (store_avx512 S b0) 8) b1)) 16
      (store_avx512 (Region.shift (Region.unshift (store_avx512 S b0) 8 (store_avx512 (Region.shift (store_avx512 S b0) 8) b1)) 16) b2)) i =
      W24 b0 b1 b2 i := by
  refine br_forall_lt_24 _ ?_ ?_ <;> refine forall_lt_12 _ ?_ ?_ ?_ ?_ ?_ ?_ ?_ ?_ ?_ ?_ ?_ ?_ <;> rfl

theorem br_reload512_eq (S : Region) (a0 : V8) (x y : BitVec 64) :
    load_avx512 (Region.set (Region.set (store_avx512 S a0) 0 x) 4 y) = ⟨x, a0.l1, a0.l2, a0.l3, y, a0.l5, a0.l6, a0.l7⟩ := by
  simp only [load_avx512, Avx512.load, store_avx512, Avx512.store, Region.set_apply, ↓reduceIte, Nat.reduceEqDiff]

theorem store512_get0 (S : Region) (a0 : V8) : (store_avx512 S a0) 0 = a0.l0 := by
  simp only [store_avx512, Avx512.store, Region.mk_apply, ↓reduceIte]
theorem store512_get4 (S : Region) (a0 : V8) : (store_avx512 S a0) 4 = a0.l4 := by
  simp only [store_avx512, Avx512.store, Region.mk_apply, ↓reduceIte, Nat.reduceEqDiff]

theorem load512_congr (a b : Region) (h : ∀ i, i < 8 → a i = b i) : load_avx512 a = load_avx512 b := by
  simp only [load_avx512, Avx512.load, h 0 (by omega), h 1 (by omega), h 2 (by omega), h 3 (by omega), h 4 (by omega),
    h 5 (by omega), h 6 (by omega), h 7 (by omega)]

theorem loads512_congr (t t' : Region) (h : Region.Agree 24 t t') :
    load_avx512 t = load_avx512 t' ∧ load_avx512 (Region.shift t 8) = load_avx512 (Region.shift t' 8) ∧
    load_avx512 (Region.shift t 16) = load_avx512 (Region.shift t' 16) :=
  ⟨load512_congr _ _ (fun i hi => h i (by omega)),
   load512_congr _ _ (fun i hi => by simpa using h (8 + i) (by omega)),
   load512_congr _ _ (fun i hi => by simpa using h (16 + i) (by omega))⟩

set_option maxRecDepth 16384 in
theorem perm512_local (s s' : Region) (h : Region.Agree 24 s s') :
    Region.Agree 24 (Pos_hash_full_result_avx512_al_state_input s) (Pos_hash_full_result_avx512_al_state_input s') := by
  obtain ⟨hl0, hl1, hl2⟩ := loads512_congr _ _ (Region.copyN_agree s s' h)
  intro i hi
  simp only [Pos_hash_full_result_avx512_al_state_input, stores512_words _ _ _ _ i hi, br_reload512_eq, store512_get0,
    store512_get4, hl0, hl1, hl2]

def perm512List (l : List Model.Wd) : List Model.Wd :=
  Region.toList (Pos_hash_full_result_avx512_al_state_input (Region.ofList l)) 24

theorem perm512_hP (s : Region) :
    Region.toList (Pos_hash_full_result_avx512_al_state_input s) 24 = perm512List (Region.toList s 24) :=
  Region.toList_congr (perm512_local s _ (Region.agree_trunc s 24))

theorem pairHash_avx512 : PairHash Pos_linear_hash_avx512 (Model.linearHash512 perm512List) :=
  fun fuel out inp size hf => by
    rw [lh512_generic]
    exact lh512GenG_spec _ perm512List perm512_hP fuel out inp size hf

end GoldilocksVerif
