/-
  Order independence for the GENERATED `Goldilocks::parcpy` (Gen/NttGen.lean, heap mode; goldilocks_base_field.cpp:72),
  per-iteration part.  The translator renders `#pragma omp parallel for  for (i = 0; i < size; i += components_thread)`
  as a fuel-bounded `Loop.whileM` whose state is `(heap, i)`: the lifted body `parcpy_loop1` tests `i < size`, copies the
  chunk that starts at `i` and steps `i`.  `chunkBody … i` is that SAME lifted body run for the chunk starting at `i`;
  on the representation `hp.setBlock D` it is the hand model's chunk (`cpyChunk`, Model/ParCopy.lean), and the generated
  function is the fold of `cpyChunk` over `ParCopy.starts`: the chunk starts the generated loop visits ARE the hand
  model's list (the loop is read in `BridgeNtt.chunkLoop_seq`).
-/
import GoldilocksVerif.Lemmas.ParGenNtt
import GoldilocksVerif.Lemmas.ParCopyL
import GoldilocksVerif.Lemmas.BridgeParcpyStep

namespace GoldilocksVerif.ParGen
open GoldilocksVerif Gen.NttGen GoldilocksVerif.BridgeNtt GoldilocksVerif.ParCopy

/-- `components_thread` as the generated `parcpy` computes it (64-bit, from the clamped `int` thread count) -/
def genChunk (size : BitVec 64) (nt : Int) : BitVec 64 :=
  (((size + (I32.toU64 (if (decide (nt < (1 : Int))) then (1 : Int) else nt))) - 1#64) /
    (I32.toU64 (if (decide (nt < (1 : Int))) then (1 : Int) else nt)))

def chunkBody (dst src : Ptr) (size ct : BitVec 64) (i : Nat) (hp : Heap) : Option Heap :=
  (parcpy_loop1 dst src size ct (hp, BitVec.ofNat 64 i)).map (fun r => r.2.1)

theorem genChunk_eq (size : BitVec 64) (nt : Int) : genChunk size nt = chunkBV size nt := by
  unfold genChunk chunkBV
  chunk_top nt

/-- the hand model's chunk on block contents: `memcpy(&dst[i], &src[i], len)` -/
def cpyChunk (size : Nat) (nt : Int) (i : Nat) (s d : Block) : Block :=
  Model.Ntt.copyRow d i s i (len size nt i)

section seq
variable (hp : Heap) (D S : Nat) (hD : D < hp.size) (hne : D ≠ S) (size : BitVec 64) (nt : Int)
variable (hnt : nt < 2 ^ 31) (hs8 : size.toNat * 8 < 2 ^ 64)

include hD hne in
theorem copy_rep (i n : Nat) (B : Block) :
    (hp.setBlock D B).copy (Ptr.add ⟨D, 0⟩ i) (Ptr.add ⟨S, 0⟩ i) n
      = hp.setBlock D (Model.Ntt.copyRow B i (hp.block S) i n) := by
  simp only [Heap.copy_eq, Ptr.add_blk, Ptr.add_off, Nat.zero_add, copyRow_eq]
  rw [Heap.block_setBlock_same _ _ _ hD, Heap.block_setBlock_other _ _ _ _ (fun e => hne e.symm), Heap.setBlock_setBlock]

include hD hne hnt hs8 in
/-- Goes through `BridgeNtt.parcpy_step`, the semantic reading of the lifted body: no dependence on how the source
    spells the chunk length. -/
theorem chunk_rep : ∀ i, i ∈ starts size.toNat nt → ∀ B : Block,
    chunkBody ⟨D, 0⟩ ⟨S, 0⟩ size (genChunk size nt) i (hp.setBlock D B) =
      some (hp.setBlock D (cpyChunk size.toNat nt i (hp.block S) B)) := by
  intro i hi B
  obtain ⟨_, _, _, hlt⟩ := (mem_starts size.toNat nt i).mp hi
  have hct := chunkBV_toNat size nt (by omega) (by omega)
  have e0 : (BitVec.ofNat 64 i).toNat = i := ofNat_toNat_lt i (by omega)
  unfold chunkBody
  rw [genChunk_eq, parcpy_step _ _ _ _ _ _ hs8 (by rw [hct]; exact chunk_le _ _),
    if_pos (by rw [BitVec.lt_def, e0]; exact hlt), e0, hct, ← len_eq_min, Option.map_some, copy_rep hp D S hD hne]
  rfl

include hD hne hnt hs8 in
theorem parcpy_seq (fuel : Nat) (hfuel : (starts size.toNat nt).length < fuel) :
    parcpy fuel hp ⟨D, 0⟩ ⟨S, 0⟩ size nt =
      some (hp.setBlock D ((starts size.toNat nt).foldl (fun B i => cpyChunk size.toNat nt i (hp.block S) B) (hp.block D))) := by
  rw [parcpy_heap_seq fuel hp _ _ size nt (by omega) hs8 hfuel]
  have h := foldl_rep (hp.setBlock D) (fun i B => cpyChunk size.toNat nt i (hp.block S) B)
    (fun X i => X.copy (Ptr.add ⟨D, 0⟩ i) (Ptr.add ⟨S, 0⟩ i) (len size.toNat nt i)) (starts size.toNat nt)
    (fun i B => copy_rep hp D S hD hne i _ B) (hp.block D)
  rw [Heap.setBlock_block] at h
  rw [h]

end seq

theorem cpyChunk_writer (size : Nat) (nt : Int) (i : Nat) :
    Par.Writer (cpyChunk size nt i) (fun j => i ≤ j ∧ j < i + len size nt i) (fun j => i ≤ j ∧ j < i + len size nt i) :=
  Par.copyRow_writer i i (len size nt i)

/-- chunk writers (iteration `i` writes the words of the chunk that starts at `i`; what it reads of the source does not matter) in any
    order of the chunk starts -/
theorem chunkWriters_any_order (size : Nat) (nt : Int) (f : Nat → Block → Block → Block) (Rd : Nat → Nat → Prop)
    (hf : ∀ i, Par.Writer (f i) (Rd i) (fun j => i ≤ j ∧ j < i + len size nt i))
    (order : List Nat) (hperm : order.Perm (starts size nt)) (src d : Block) :
    order.foldl (fun B i => f i src B) d = (starts size nt).foldl (fun B i => f i src B) d :=
  Par.writers_any_order f _ _ hf _ _ hperm (fun i hi i' hi' hne x h h' =>
    chunks_disjoint size nt i i' ((hperm.mem_iff).1 hi) ((hperm.mem_iff).1 hi') hne x ⟨h, h'⟩) src d

end GoldilocksVerif.ParGen
