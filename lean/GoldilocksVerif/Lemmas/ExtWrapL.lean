/-
  The vocabulary of the generated C16 statements (Props/C16Gen*.lean: positions, operands read as elements of K3, outputs;
  what they mean in the library's terms is Props/C16.lean) and the proof steps that close them.  An array output is a
  sequence of writes (`WrittenBy` of Lemmas/WrapL.lean), peeled off element by element.  A planar result is proved once
  for a lane NUMBER `k` that is a variable, not lane by lane: hence the kernel lemmas restated for `getN k` and the array
  operands read as the registers the gather loops load (`ext3_eq_regs4`).
-/
import GoldilocksVerif.Lemmas.ExtF
import GoldilocksVerif.Lemmas.WrapTac
import GoldilocksVerif.Lemmas.Avx2MatF
import GoldilocksVerif.Lemmas.Avx512MatF
import GoldilocksVerif.Model.VRegion
import GoldilocksVerif.Gen.ExtWrap
import Mathlib.Tactic.IntervalCases
namespace GoldilocksVerif

namespace K3
def coef (x : K3) : Nat → F
  | 0 => x.c0
  | 1 => x.c1
  | _ => x.c2
@[simp] theorem coef_zero (x : K3) : x.coef 0 = x.c0 := rfl
@[simp] theorem coef_one (x : K3) : x.coef 1 = x.c1 := rfl
@[simp] theorem coef_two (x : K3) : x.coef 2 = x.c2 := rfl
end K3

/-- no stride parameter: `d` = 3 for extension arrays, 1 for base arrays -/
def posD (d k i : Nat) : Nat := d * k + i
/-- scalar stride `s`: `k*s + i` in 64-bit arithmetic (as the C++ computes it) -/
def posS (s : BitVec 64) (k : Nat) : Nat → Nat
  | 0 => (BitVec.ofNat 64 k * s).toNat
  | i + 1 => (BitVec.ofNat 64 k * s + BitVec.ofNat 64 (i + 1)).toNat
/-- index array `s`: `s[k] + i` in 64-bit arithmetic -/
def posA (s : Region) (k : Nat) : Nat → Nat
  | 0 => (s k).toNat
  | i + 1 => (s k + BitVec.ofNat 64 (i + 1)).toNat
/-- one constant operand: coefficient `i` at `i`, for every element -/
def posC (_k i : Nat) : Nat := i

theorem posS_0 (s : BitVec 64) (k : Nat) : posS s k 0 = (BitVec.ofNat 64 k * s).toNat := rfl
theorem posS_1 (s : BitVec 64) (k : Nat) : posS s k 1 = (BitVec.ofNat 64 k * s + 1#64).toNat := rfl
theorem posS_2 (s : BitVec 64) (k : Nat) : posS s k 2 = (BitVec.ofNat 64 k * s + 2#64).toNat := rfl
theorem posA_0 (s : Region) (k : Nat) : posA s k 0 = (s k).toNat := rfl
theorem posA_1 (s : Region) (k : Nat) : posA s k 1 = (s k + 1#64).toNat := rfl
theorem posA_2 (s : Region) (k : Nat) : posA s k 2 = (s k + 2#64).toNat := rfl

/-- without wrap-around `posS` is `k * s + i` -/
theorem posS_eq (s : BitVec 64) (k i : Nat) (hi : i < 3) (hk : k < 2 ^ 64) (h : k * s.toNat + i < 2 ^ 64) :
    posS s k i = k * s.toNat + i := by
  have hm : (BitVec.ofNat 64 k * s).toNat = k * s.toNat := by
    rw [BitVec.toNat_mul, BitVec.toNat_ofNat, Nat.mod_eq_of_lt hk, Nat.mod_eq_of_lt (by omega)]
  match i, hi with
  | 0, _ => exact hm
  | 1, _ =>
    rw [posS_1, BitVec.toNat_add, hm]
    exact Nat.mod_eq_of_lt h
  | 2, _ =>
    rw [posS_2, BitVec.toNat_add, hm]
    exact Nat.mod_eq_of_lt h

def ext3 (r : Region) (pos : Nat → Nat → Nat) (k : Nat) : K3 := ⟨den (r (pos k 0)), den (r (pos k 1)), den (r (pos k 2))⟩
def base1 (r : Region) (pos : Nat → Nat → Nat) (k : Nat) : K3 := K3.ofBase (den (r (pos k 0)))
def val1 (x : BitVec 64) (_k : Nat) : K3 := K3.ofBase (den x)
/-- planar registers: lane `k` of register `i` is coefficient `i` of element `k` -/
def regs4 (r0 r1 r2 : V4) (k : Nat) : K3 := ⟨den (r0.getN k), den (r1.getN k), den (r2.getN k)⟩
def regs8 (r0 r1 r2 : V8) (k : Nat) : K3 := ⟨den (r0.getN k), den (r1.getN k), den (r2.getN k)⟩
def vreg4 (v : VRegion4) (k : Nat) : K3 := regs4 (v 0) (v 1) (v 2) k
def vreg8 (v : VRegion8) (k : Nat) : K3 := regs8 (v 0) (v 1) (v 2) k
def reg4 (r : V4) (k : Nat) : K3 := K3.ofBase (den (r.getN k))
def reg8 (r : V8) (k : Nat) : K3 := K3.ofBase (den (r.getN k))

/-- for the copies: the word, not its `den` -/
def word4 (r0 r1 r2 : V4) (k : Nat) : Nat → BitVec 64
  | 0 => r0.getN k
  | 1 => r1.getN k
  | _ => r2.getN k
def word8 (r0 r1 r2 : V8) (k : Nat) : Nat → BitVec 64
  | 0 => r0.getN k
  | 1 => r1.getN k
  | _ => r2.getN k

/-- hypothesis of the challenge products: `s0, s1, s2` are the precomputed sums `b0+b1, b0+b2, b1+b2` of `b`'s coefficients -/
def ChalSums (b : K3) (s0 s1 s2 : F) : Prop := s0 = b.c0 + b.c1 ∧ s1 = b.c0 + b.c2 ∧ s2 = b.c1 + b.c2

/-- array output: for k = 0..W-1 in order, three words denoting `val k` are written at `pos k 0`, `pos k 1`, `pos k 2` -/
def Scatter3 (W : Nat) (pos : Nat → Nat → Nat) (val : Nat → K3) (c res : Region) : Prop :=
  WrittenBy (fun j => pos (j / 3) (j % 3)) (fun j w => den w = (val (j / 3)).coef (j % 3)) (3 * W) c res

/-- copies: the words themselves -/
def ScatterExact (W : Nat) (pos : Nat → Nat → Nat) (word : Nat → Nat → BitVec 64) (c res : Region) : Prop :=
  WrittenBy (fun j => pos (j / 3) (j % 3)) (fun j w => w = word (j / 3) (j % 3)) (3 * W) c res

def Planar4 (val : Nat → K3) (c0 c1 c2 : V4) : Prop := ∀ k, k < 4 → regs4 c0 c1 c2 k = val k
def Planar8 (val : Nat → K3) (c0 c1 c2 : V8) : Prop := ∀ k, k < 8 → regs8 c0 c1 c2 k = val k
/-- `Element_avx` output: registers 0, 1, 2 written, the rest of the register array untouched -/
def PlanarV4 (val : Nat → K3) (c res : VRegion4) : Prop := Planar4 val (res 0) (res 1) (res 2) ∧ ∀ j, 3 ≤ j → res j = c j
def PlanarV8 (val : Nat → K3) (c res : VRegion8) : Prop := Planar8 val (res 0) (res 1) (res 2) ∧ ∀ j, 3 ≤ j → res j = c j

@[ext_den] theorem den_getN_add4 (a b : V4) (k : Nat) :
    den ((Gen.Avx2.add_avx__vVV a b).getN k) = den (a.getN k) + den (b.getN k) := by
  obtain ⟨i, hi⟩ := V4.getN_get k
  rw [hi, hi, hi]
  exact den_add_avx a b i
@[ext_den] theorem den_getN_sub4 (a b : V4) (k : Nat) :
    den ((Gen.Avx2.sub_avx__vVV a b).getN k) = den (a.getN k) - den (b.getN k) := by
  obtain ⟨i, hi⟩ := V4.getN_get k
  rw [hi, hi, hi]
  exact den_sub_of _ _ _ (sub_spec a b i)
@[ext_den] theorem den_getN_mul4 (a b : V4) (k : Nat) :
    den ((Gen.Avx2.mult_avx a b).getN k) = den (a.getN k) * den (b.getN k) := by
  obtain ⟨i, hi⟩ := V4.getN_get k
  rw [hi, hi, hi]
  exact den_mult_avx a b i
@[ext_den] theorem den_getN_add8 (a b : V8) (k : Nat) :
    den ((Gen.Avx512.add_avx512__wWW a b).getN k) = den (a.getN k) + den (b.getN k) := by
  obtain ⟨i, hi⟩ := V8.getN_get k
  rw [hi, hi, hi]
  exact den_add_avx512 a b i
@[ext_den] theorem den_getN_sub8 (a b : V8) (k : Nat) :
    den ((Gen.Avx512.sub_avx512__wWW a b).getN k) = den (a.getN k) - den (b.getN k) := by
  obtain ⟨i, hi⟩ := V8.getN_get k
  rw [hi, hi, hi]
  exact den_sub_of _ _ _ (sub512_spec a b i)
@[ext_den] theorem den_getN_mul8 (a b : V8) (k : Nat) :
    den ((Gen.Avx512.mult_avx512 a b).getN k) = den (a.getN k) * den (b.getN k) := by
  obtain ⟨i, hi⟩ := V8.getN_get k
  rw [hi, hi, hi]
  exact den_mult_avx512 a b i

@[ext_den] theorem V4.getN_splat (x : BitVec 64) (k : Nat) : (V4.mk x x x x).getN k = x := by
  obtain ⟨i, hi⟩ := V4.getN_get k
  rw [hi]
  exact V4.get_splat x i
@[ext_den] theorem V8.getN_splat (x : BitVec 64) (k : Nat) : (V8.mk x x x x x x x x).getN k = x := by
  obtain ⟨i, hi⟩ := V8.getN_get k
  rw [hi]
  exact V8.get_splat x i

theorem V4.getN_mk (a b c d : BitVec 64) :
    (V4.mk a b c d).getN 0 = a ∧ (V4.mk a b c d).getN 1 = b ∧ (V4.mk a b c d).getN 2 = c ∧ (V4.mk a b c d).getN 3 = d :=
  ⟨rfl, rfl, rfl, rfl⟩
theorem V4.getN_lit (v : V4) : v.getN 0 = v.l0 ∧ v.getN 1 = v.l1 ∧ v.getN 2 = v.l2 ∧ v.getN 3 = v.l3 := ⟨rfl, rfl, rfl, rfl⟩
theorem V8.getN_lit (v : V8) : v.getN 0 = v.l0 ∧ v.getN 1 = v.l1 ∧ v.getN 2 = v.l2 ∧ v.getN 3 = v.l3 ∧
    v.getN 4 = v.l4 ∧ v.getN 5 = v.l5 ∧ v.getN 6 = v.l6 ∧ v.getN 7 = v.l7 := ⟨rfl, rfl, rfl, rfl, rfl, rfl, rfl, rfl⟩

/-- some gather loops compute scalar sums / differences while filling the staging array -/
@[ext_den] theorem den_getN_mk_add4 (x0 x1 x2 x3 y0 y1 y2 y3 : BitVec 64) (k : Nat) :
    den ((V4.mk (Gen.Scalar.add__rEE x0 y0) (Gen.Scalar.add__rEE x1 y1) (Gen.Scalar.add__rEE x2 y2) (Gen.Scalar.add__rEE x3 y3)).getN k) =
      den ((V4.mk x0 x1 x2 x3).getN k) + den ((V4.mk y0 y1 y2 y3).getN k) := by
  obtain ⟨i, hi⟩ := V4.getN_get k
  rw [hi, hi, hi]
  exact (congrArg den (V4.get_map2 Gen.Scalar.add__rEE ⟨x0, x1, x2, x3⟩ ⟨y0, y1, y2, y3⟩ i)).trans (den_add_r _ _)
@[ext_den] theorem den_getN_mk_sub4 (x0 x1 x2 x3 y0 y1 y2 y3 : BitVec 64) (k : Nat) :
    den ((V4.mk (Gen.Scalar.sub__rEE x0 y0) (Gen.Scalar.sub__rEE x1 y1) (Gen.Scalar.sub__rEE x2 y2) (Gen.Scalar.sub__rEE x3 y3)).getN k) =
      den ((V4.mk x0 x1 x2 x3).getN k) - den ((V4.mk y0 y1 y2 y3).getN k) := by
  obtain ⟨i, hi⟩ := V4.getN_get k
  rw [hi, hi, hi]
  exact (congrArg den (V4.get_map2 Gen.Scalar.sub__rEE ⟨x0, x1, x2, x3⟩ ⟨y0, y1, y2, y3⟩ i)).trans (den_sub_r _ _)
@[ext_den] theorem den_getN_mk_add8 (x0 x1 x2 x3 x4 x5 x6 x7 y0 y1 y2 y3 y4 y5 y6 y7 : BitVec 64) (k : Nat) :
    den ((V8.mk (Gen.Scalar.add__rEE x0 y0) (Gen.Scalar.add__rEE x1 y1) (Gen.Scalar.add__rEE x2 y2) (Gen.Scalar.add__rEE x3 y3) (Gen.Scalar.add__rEE x4 y4) (Gen.Scalar.add__rEE x5 y5) (Gen.Scalar.add__rEE x6 y6) (Gen.Scalar.add__rEE x7 y7)).getN k) =
      den ((V8.mk x0 x1 x2 x3 x4 x5 x6 x7).getN k) + den ((V8.mk y0 y1 y2 y3 y4 y5 y6 y7).getN k) := by
  obtain ⟨i, hi⟩ := V8.getN_get k
  rw [hi, hi, hi]
  exact (congrArg den (V8.get_map2 Gen.Scalar.add__rEE ⟨x0, x1, x2, x3, x4, x5, x6, x7⟩ ⟨y0, y1, y2, y3, y4, y5, y6, y7⟩ i)).trans (den_add_r _ _)
@[ext_den] theorem den_getN_mk_sub8 (x0 x1 x2 x3 x4 x5 x6 x7 y0 y1 y2 y3 y4 y5 y6 y7 : BitVec 64) (k : Nat) :
    den ((V8.mk (Gen.Scalar.sub__rEE x0 y0) (Gen.Scalar.sub__rEE x1 y1) (Gen.Scalar.sub__rEE x2 y2) (Gen.Scalar.sub__rEE x3 y3) (Gen.Scalar.sub__rEE x4 y4) (Gen.Scalar.sub__rEE x5 y5) (Gen.Scalar.sub__rEE x6 y6) (Gen.Scalar.sub__rEE x7 y7)).getN k) =
      den ((V8.mk x0 x1 x2 x3 x4 x5 x6 x7).getN k) - den ((V8.mk y0 y1 y2 y3 y4 y5 y6 y7).getN k) := by
  obtain ⟨i, hi⟩ := V8.getN_get k
  rw [hi, hi, hi]
  exact (congrArg den (V8.get_map2 Gen.Scalar.sub__rEE ⟨x0, x1, x2, x3, x4, x5, x6, x7⟩ ⟨y0, y1, y2, y3, y4, y5, y6, y7⟩ i)).trans (den_sub_r _ _)

/-- aliased call patterns (`mult_avx(A_, A_, aux_)`, `sub_avx(c, c, F_)`, `add_avx(auxr_, auxr_, D_)`): same kernels -/
theorem mult_al_eq (c b : V4) : Gen.ExtWrap.mult_avx_al_c_a c b = Gen.Avx2.mult_avx c b := by
  simp only [Gen.ExtWrap.mult_avx_al_c_a, Gen.Avx2.mult_avx]
theorem sub_al_eq (c b : V4) : Gen.ExtWrap.sub_avx__vVV_al_c_a c b = Gen.Avx2.sub_avx__vVV c b := by
  simp only [Gen.ExtWrap.sub_avx__vVV_al_c_a, Gen.Avx2.sub_avx__vVV]
theorem add_al_eq' (c b : V4) : Gen.PosAvx2.add_avx__vVV_al_c_a c b = Gen.Avx2.add_avx__vVV c b := by
  simp only [Gen.PosAvx2.add_avx__vVV_al_c_a, Gen.Avx2.add_avx__vVV]
theorem mult512_al_eq (c b : V8) : Gen.ExtWrap.mult_avx512_al_c_a c b = Gen.Avx512.mult_avx512 c b := by
  simp only [Gen.ExtWrap.mult_avx512_al_c_a, Gen.Avx512.mult_avx512]
theorem sub512_al_eq (c b : V8) : Gen.ExtWrap.sub_avx512__wWW_al_c_a c b = Gen.Avx512.sub_avx512__wWW c b := by
  simp only [Gen.ExtWrap.sub_avx512__wWW_al_c_a, Gen.Avx512.sub_avx512__wWW]
theorem add512_al_eq' (c b : V8) : Gen.PosAvx512.add_avx512__wWW_al_c_a c b = Gen.Avx512.add_avx512__wWW c b := by
  simp only [Gen.PosAvx512.add_avx512__wWW_al_c_a, Gen.Avx512.add_avx512__wWW]

theorem Region.unshift_set (r s : Region) (k i : Nat) (v : BitVec 64) :
    Region.unshift r k (Region.set s i v) = Region.set (Region.unshift r k s) (k + i) v := by
  apply Region.ext'; intro j
  simp only [Region.unshift_apply, Region.set_apply]
  by_cases h : k ≤ j
  · have e : j - k = i ↔ j = k + i := by omega
    simp only [h, if_true, e]
  · have : j ≠ k + i := by omega
    simp [h, this]

theorem Region.unshift_shift (r : Region) (k : Nat) : Region.unshift r k (Region.shift r k) = r := by
  apply Region.ext'; intro j
  simp only [Region.unshift_apply, Region.shift_apply]
  by_cases h : k ≤ j
  · simp only [h, if_true]; congr 1; omega
  · simp [h]

/-- `s * k` with a literal `k` (the C++ writes both `k * stride` and `stride * k`) -/
theorem BitVec.mul_lit_comm (s : BitVec 64) (n : Nat) : s * BitVec.ofNat 64 n = BitVec.ofNat 64 n * s := BitVec.mul_comm _ _

attribute [ext_code ↓] Avx2.load_sets Avx512.load_sets store_avx_getN store_avx512_getN

attribute [ext_code] Gen.Avx2Mat.load_avx Gen.Avx2Mat.store_avx Gen.Avx512Mat.store_avx512 Gen.PosAvx512.load_avx512
  Avx2.load Avx2.store_eq Avx512.load Avx512.store_eq writeSeq Region.unshift_set Region.unshift_shift Region.shift_apply
  Region.set_apply Region.zero Region.mk_apply VRegion4.set_apply VRegion8.set_apply VRegion4.set_set VRegion8.set_set
  mult_al_eq sub_al_eq add_al_eq' mult512_al_eq sub512_al_eq add512_al_eq'
  BitVec.mul_lit_comm BitVec.add_zero Gen.Ext.copy__eE Region.ofList_apply List.getD_cons_zero List.getD_cons_succ

/-! `K3.mul_kernel_vec / _batch` as rewrite rules of `ext_den`: a lane / element of a product is closed by one rewrite; a body
    that computes the coefficients in another way is left to `ring`. -/
attribute [ext_den] K3.mul_kernel_vec K3.mul_kernel_batch

attribute [ext_den] K3.coef_zero K3.coef_one K3.coef_two K3.add K3.sub K3.mul K3.ofBase val1 regs4 regs8 vreg4 vreg8 reg4 reg8
  posS_0 posS_1 posS_2 posA_0 posA_1 posA_2 posD posC V4.ofFn V8.ofFn BitVec.add_zero
  den_add_r den_sub_r den_mul_r den_neg_r den_zero_r
  zero_add add_zero zero_mul mul_zero sub_zero zero_sub

theorem PlanarV4.of_sets {val : Nat → K3} {c : VRegion4} {r0 r1 r2 : V4} (h : Planar4 val r0 r1 r2) :
    PlanarV4 val c (((c.set 0 r0).set 1 r1).set 2 r2) := by
  refine ⟨h, fun j hj => ?_⟩
  rw [VRegion4.set_other _ _ _ _ (by omega), VRegion4.set_other _ _ _ _ (by omega), VRegion4.set_other _ _ _ _ (by omega)]
theorem PlanarV8.of_sets {val : Nat → K3} {c : VRegion8} {r0 r1 r2 : V8} (h : Planar8 val r0 r1 r2) :
    PlanarV8 val c (((c.set 0 r0).set 1 r1).set 2 r2) := by
  refine ⟨h, fun j hj => ?_⟩
  rw [VRegion8.set_other _ _ _ _ (by omega), VRegion8.set_other _ _ _ _ (by omega), VRegion8.set_other _ _ _ _ (by omega)]

theorem Scatter3.nil (pos : Nat → Nat → Nat) (val : Nat → K3) (c : Region) : Scatter3 0 pos val c c := WrittenBy.nil c

theorem Scatter3.snoc {W : Nat} {pos : Nat → Nat → Nat} {val : Nat → K3} {c r : Region} {w0 w1 w2 : BitVec 64}
    (hr : Scatter3 W pos val c r) (h : (⟨den w0, den w1, den w2⟩ : K3) = val W) :
    Scatter3 (W + 1) pos val c (((r.set (pos W 0) w0).set (pos W 1) w1).set (pos W 2) w2) := by
  have d0 : 3 * W / 3 = W := by omega
  have m0 : 3 * W % 3 = 0 := by omega
  have d1 : (3 * W + 1) / 3 = W := by omega
  have m1 : (3 * W + 1) % 3 = 1 := by omega
  have d2 : (3 * W + 1 + 1) / 3 = W := by omega
  have m2 : (3 * W + 1 + 1) % 3 = 2 := by omega
  have s := WrittenBy.snoc w2 (WrittenBy.snoc w1 (WrittenBy.snoc w0 hr
    (by simp only [d0, m0, ← h, K3.coef_zero])) (by simp only [d1, m1, ← h, K3.coef_one])) (by simp only [d2, m2, ← h, K3.coef_two])
  simp only [d0, m0, d1, m1, d2, m2] at s
  exact s
theorem word4_den {val : Nat → K3} {r0 r1 r2 : V4} (h : Planar4 val r0 r1 r2) (j : Nat) (hj : j < 3 * 4) :
    den (word4 r0 r1 r2 (j / 3) (j % 3)) = (val (j / 3)).coef (j % 3) := by
  rw [← h (j / 3) (by omega)]
  have : j % 3 < 3 := Nat.mod_lt _ (by decide)
  interval_cases j % 3 <;> rfl
theorem word8_den {val : Nat → K3} {r0 r1 r2 : V8} (h : Planar8 val r0 r1 r2) (j : Nat) (hj : j < 3 * 8) :
    den (word8 r0 r1 r2 (j / 3) (j % 3)) = (val (j / 3)).coef (j % 3) := by
  rw [← h (j / 3) (by omega)]
  have : j % 3 < 3 := Nat.mod_lt _ (by decide)
  interval_cases j % 3 <;> rfl

/-- the unrolled scatter loop of planar registers, in the form `ext_body` leaves it -/
theorem Scatter3.of_planar4 {pos : Nat → Nat → Nat} {val : Nat → K3} {c : Region} {r0 r1 r2 : V4} (h : Planar4 val r0 r1 r2) :
    Scatter3 4 pos val c
      ((((((((((((c.set (pos 0 0) (r0.getN 0)).set (pos 0 1) (r1.getN 0)).set (pos 0 2) (r2.getN 0)).set (pos 1 0) (r0.getN 1)).set (pos 1 1) (r1.getN 1)).set (pos 1 2) (r2.getN 1)).set (pos 2 0) (r0.getN 2)).set (pos 2 1) (r1.getN 2)).set (pos 2 2) (r2.getN 2)).set (pos 3 0) (r0.getN 3)).set (pos 3 1) (r1.getN 3)).set (pos 3 2) (r2.getN 3)) :=
  WrittenBy.writeSeq (pos := fun j => pos (j / 3) (j % 3)) c (fun j => word4 r0 r1 r2 (j / 3) (j % 3)) 12 (word4_den h)
theorem Scatter3.of_planar8 {pos : Nat → Nat → Nat} {val : Nat → K3} {c : Region} {r0 r1 r2 : V8} (h : Planar8 val r0 r1 r2) :
    Scatter3 8 pos val c
      ((((((((((((((((((((((((c.set (pos 0 0) (r0.getN 0)).set (pos 0 1) (r1.getN 0)).set (pos 0 2) (r2.getN 0)).set (pos 1 0) (r0.getN 1)).set (pos 1 1) (r1.getN 1)).set (pos 1 2) (r2.getN 1)).set (pos 2 0) (r0.getN 2)).set (pos 2 1) (r1.getN 2)).set (pos 2 2) (r2.getN 2)).set (pos 3 0) (r0.getN 3)).set (pos 3 1) (r1.getN 3)).set (pos 3 2) (r2.getN 3)).set (pos 4 0) (r0.getN 4)).set (pos 4 1) (r1.getN 4)).set (pos 4 2) (r2.getN 4)).set (pos 5 0) (r0.getN 5)).set (pos 5 1) (r1.getN 5)).set (pos 5 2) (r2.getN 5)).set (pos 6 0) (r0.getN 6)).set (pos 6 1) (r1.getN 6)).set (pos 6 2) (r2.getN 6)).set (pos 7 0) (r0.getN 7)).set (pos 7 1) (r1.getN 7)).set (pos 7 2) (r2.getN 7)) :=
  WrittenBy.writeSeq (pos := fun j => pos (j / 3) (j % 3)) c (fun j => word8 r0 r1 r2 (j / 3) (j % 3)) 24 (word8_den h)

theorem ext3_eq_regs4 (a : Region) (pos : Nat → Nat → Nat) {k : Nat} (hk : k < 4) :
    ext3 a pos k = regs4 (V4.ofFn fun j => a (pos j 0)) (V4.ofFn fun j => a (pos j 1)) (V4.ofFn fun j => a (pos j 2)) k := by
  simp only [ext3, regs4, V4.getN_ofFn _ hk]
theorem ext3_eq_regs8 (a : Region) (pos : Nat → Nat → Nat) {k : Nat} (hk : k < 8) :
    ext3 a pos k = regs8 (V8.ofFn fun j => a (pos j 0)) (V8.ofFn fun j => a (pos j 1)) (V8.ofFn fun j => a (pos j 2)) k := by
  simp only [ext3, regs8, V8.getN_ofFn _ hk]
theorem base1_eq_reg4 (a : Region) (pos : Nat → Nat → Nat) {k : Nat} (hk : k < 4) :
    base1 a pos k = reg4 (V4.ofFn fun j => a (pos j 0)) k := by
  simp only [base1, reg4, V4.getN_ofFn _ hk]
theorem base1_eq_reg8 (a : Region) (pos : Nat → Nat → Nat) {k : Nat} (hk : k < 8) :
    base1 a pos k = reg8 (V8.ofFn fun j => a (pos j 0)) k := by
  simp only [base1, reg8, V8.getN_ofFn _ hk]

/-- unfold the translated body and normalise its gather / scatter code -/
macro "ext_body " f:ident : tactic => `(tactic|
  (unfold $f
   simp only [ext_code, ↓reduceIte, Nat.reduceEqDiff, Nat.reduceLT, Nat.reduceAdd, Nat.reduceMul]))

/-- lane `k` (a variable, `hk : k < 4` resp. `k < 8`) of planar result registers denotes the K3 value: array operands are
    read as the gathered registers, `den` is pushed through the kernels (with the hypotheses on challenge sums, if any,
    as rewrite rules), and the three coefficient identities are closed by `ring` -/
macro "ext_lane4 " hk:ident : tactic => `(tactic|
  (simp only [ext_den, ext3_eq_regs4 _ _ $hk, base1_eq_reg4 _ _ $hk, Nat.reduceMul, Nat.reduceAdd, *]
   all_goals refine K3.mk_congr ?_ ?_ ?_
   all_goals ring))
macro "ext_lane8 " hk:ident : tactic => `(tactic|
  (simp only [ext_den, ext3_eq_regs8 _ _ $hk, base1_eq_reg8 _ _ $hk, Nat.reduceMul, Nat.reduceAdd, *]
   all_goals refine K3.mk_congr ?_ ?_ ?_
   all_goals ring))

/-- four elements, one by one (any layout): peel the elements off the sequential writes; for each, push `den` through its
    three written words; what the rewrite rules of `ext_den` leave of the coefficient identities is closed by `ring` -/
macro "ext_elems4" : tactic => `(tactic|
  (refine Scatter3.snoc (Scatter3.snoc (Scatter3.snoc (Scatter3.snoc (Scatter3.nil _ _ _) ?_) ?_) ?_) ?_
   all_goals simp only [ext_den, ext3, base1, V4.getN_mk, Nat.reduceMul, Nat.reduceAdd, *]
   all_goals refine K3.mk_congr ?_ ?_ ?_
   all_goals ring))

/-- copies: the written words are the source words themselves -/
macro "ext_words_exact" : tactic => `(tactic|
  (unfold ScatterExact
   repeat (first | exact WrittenBy.nil _ | refine WrittenBy.snoc _ ?_ ?_)
   all_goals simp only [posD, word4, word8, Nat.reduceDiv, Nat.reduceMod, Nat.reduceMul, Nat.reduceAdd]))

end GoldilocksVerif
