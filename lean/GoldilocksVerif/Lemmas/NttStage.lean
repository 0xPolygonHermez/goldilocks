/-
  L2, part 1: one butterfly on a pair of rows (`bfly`), word by word and in the field view, and the row pairs of a stage
  (`loR U i`, `loR U i + U`, disjoint for different butterflies `i`).
  `cell a nc r k` is the field element in row `r`, column `k` of a row-major buffer with `nc` columns.
-/
import GoldilocksVerif.Lemmas.NttSpec
import GoldilocksVerif.Lemmas.NttPar

namespace GoldilocksVerif.Model.Ntt
open GoldilocksVerif.NttSpec GoldilocksVerif.Par

def cell (a : Buf) (nc r k : Nat) : F := den (a.getD (r * nc + k) 0#64)

theorem bflyStep_size (w : W) (o1 o2 k : Nat) (a : Buf) : (bflyStep w o1 o2 k a).size = a.size := by
  unfold bflyStep
  simp only [Array.size_setIfInBounds]

theorem bfly_size (a : Buf) (w : W) (o1 o2 nc : Nat) : (bfly a w o1 o2 nc).size = a.size := by
  unfold bfly
  induction nc with
  | zero => rfl
  | succ n ih => rw [iter_succ, bflyStep_size, ih]

theorem bflyStep_local (w : W) (o1 o2 k : Nat) : LocalB (bflyStep w o1 o2 k) (fun j => j = o1 + k ∨ j = o2 + k) where
  size := fun a => bflyStep_size w o1 o2 k a
  frame := by
    intro a j hj
    unfold bflyStep
    simp only
    rw [getD_set_ne _ _ _ _ (fun e => hj (Or.inl e)), getD_set_ne _ _ _ _ (fun e => hj (Or.inr e))]
  dep := by
    intro a a' hs hag j hj
    have e1 := hag (o1 + k) (Or.inl rfl)
    have e2 := hag (o2 + k) (Or.inr rfl)
    unfold bflyStep
    simp only
    rw [getD_set, getD_set, getD_set, getD_set, Array.size_setIfInBounds, Array.size_setIfInBounds, e1, e2,
      hag j hj]
    simp only [hs _ (Or.inl rfl), hs _ (Or.inr rfl)]

theorem bfly_getD (a : Buf) (w : W) (o1 o2 nc : Nat) (hd : o1 + nc ≤ o2 ∨ o2 + nc ≤ o1)
    (h1 : o1 + nc ≤ a.size) (h2 : o2 + nc ≤ a.size) (j : Nat) :
    (bfly a w o1 o2 nc).getD j 0#64 =
      if o2 ≤ j ∧ j < o2 + nc then Gen.Scalar.add__eEE (Gen.Scalar.mul__rEE w (a.getD (o1 + (j - o2)) 0#64)) (a.getD j 0#64)
      else if o1 ≤ j ∧ j < o1 + nc then Gen.Scalar.sub__eEE (a.getD (o2 + (j - o1)) 0#64) (Gen.Scalar.mul__rEE w (a.getD j 0#64))
      else a.getD j 0#64 := by
  -- the columns are independent: word `o2 + k` / `o1 + k` holds what step `k` alone makes of `a`
  obtain ⟨_, hat, hfr⟩ := LocalB.iter_at (n := nc) (fun k => bflyStep_local w o1 o2 k)
    (fun k k' _ _ hne j hj hj' => by omega) a
  unfold bfly
  by_cases c2 : o2 ≤ j ∧ j < o2 + nc
  · rw [if_pos c2, hat (j - o2) (by omega) j (Or.inr (by omega))]
    unfold bflyStep
    simp only
    rw [getD_set_ne _ _ _ _ (by omega), getD_set, if_pos ⟨by omega, by omega⟩]
    have : o2 + (j - o2) = j := by omega
    rw [this]
  · rw [if_neg c2]
    by_cases c1 : o1 ≤ j ∧ j < o1 + nc
    · rw [if_pos c1, hat (j - o1) (by omega) j (Or.inl (by omega))]
      unfold bflyStep
      simp only
      rw [getD_set, if_pos ⟨by omega, by rw [Array.size_setIfInBounds]; omega⟩]
      have : o1 + (j - o1) = j := by omega
      rw [this]
    · rw [if_neg c1]
      exact hfr j (fun k hk hx => by rcases hx with h | h <;> omega)

/-- a butterfly on the rows `r1` (multiplied by the twiddle) and `r2`, in the field view -/
theorem bfly_cell (a : Buf) (w : W) (nc r1 r2 : Nat) (hne : r1 ≠ r2) (h1 : (r1 + 1) * nc ≤ a.size)
    (h2 : (r2 + 1) * nc ≤ a.size) (r k : Nat) (hk : k < nc) :
    cell (bfly a w (r1 * nc) (r2 * nc) nc) nc r k =
      if r = r2 then den w * cell a nc r1 k + cell a nc r2 k
      else if r = r1 then cell a nc r2 k - den w * cell a nc r1 k
      else cell a nc r k := by
  have hd : r1 * nc + nc ≤ r2 * nc ∨ r2 * nc + nc ≤ r1 * nc :=
    (Nat.lt_or_gt_of_ne hne).imp (row_fit nc r2 r1) (row_fit nc r1 r2)
  rw [Nat.add_mul, Nat.one_mul] at h1 h2
  unfold cell
  rw [bfly_getD a w (r1 * nc) (r2 * nc) nc hd h1 h2]
  by_cases c1 : r = r2
  · subst c1
    rw [if_pos rfl, if_pos (by omega), den_add, den_mul_r]
    have : r1 * nc + (r * nc + k - r * nc) = r1 * nc + k := by omega
    rw [this]
  · rw [if_neg c1]
    rw [if_neg (fun c => c1 ((row_mem nc r2 r k hk).1 c))]
    by_cases c2 : r = r1
    · subst c2
      rw [if_pos rfl, if_pos (by omega), den_sub, den_mul_r]
      have : r2 * nc + (r * nc + k - r * nc) = r2 * nc + k := by omega
      rw [this]
    · rw [if_neg c2]
      rw [if_neg (fun c => c2 ((row_mem nc r1 r k hk).1 c))]

/-- the lower row (relative to the batch) of butterfly `i` when the half-distance is `U` -/
def loR (U i : Nat) : Nat := (i / U) * (U * 2) + i % U

theorem loR_div (U i : Nat) (hU : 0 < U) : loR U i / (U * 2) = i / U :=
  mr_div _ _ _ (by have := Nat.mod_lt i hU; omega)
theorem loR_mod (U i : Nat) (hU : 0 < U) : loR U i % (U * 2) = i % U :=
  mr_mod _ _ _ (by have := Nat.mod_lt i hU; omega)
theorem hiR_div (U i : Nat) (hU : 0 < U) : (loR U i + U) / (U * 2) = i / U := by
  unfold loR; rw [Nat.add_assoc]
  exact mr_div _ _ _ (by have := Nat.mod_lt i hU; omega)
theorem hiR_mod (U i : Nat) (hU : 0 < U) : (loR U i + U) % (U * 2) = i % U + U := by
  unfold loR; rw [Nat.add_assoc]
  exact mr_mod _ _ _ (by have := Nat.mod_lt i hU; omega)

theorem pair_disj (U i j : Nat) (hU : 0 < U) (hij : i ≠ j) :
    loR U i ≠ loR U j ∧ loR U i ≠ loR U j + U ∧ loR U i + U ≠ loR U j ∧ loR U i + U ≠ loR U j + U := by
  have hne : loR U i ≠ loR U j := by
    intro h
    apply hij
    rw [← Nat.div_add_mod i U, ← Nat.div_add_mod j U, ← loR_div U i hU, ← loR_mod U i hU, h, loR_div U j hU, loR_mod U j hU]
  have hx : ∀ i j, loR U i ≠ loR U j + U := by
    intro i j h
    have h2 := loR_mod U i hU
    rw [h, hiR_mod U j hU] at h2
    have := Nat.mod_lt i hU
    omega
  exact ⟨hne, hx i j, fun h => hx j i h.symm, by omega⟩

theorem hiR_lt (U M i : Nat) (hU : 0 < U) (hi : i < M * U) : loR U i + U < M * (U * 2) := by
  unfold loR
  rw [Nat.add_assoc]
  apply mr_lt
  · exact Nat.div_lt_of_lt_mul (by rw [Nat.mul_comm]; exact hi)
  · have := Nat.mod_lt i hU; omega

theorem stageStep_eq (o : Obj) (s si b B nc rs re rb i : Nat) (a : Buf) :
    stageStep o s si b B nc rs re rb i a
      = bfly a (root o (s + si) (twIdx s si b B rs re rb i)) ((b * B + loR (2 ^ si) i + 2 ^ si) * nc)
          ((b * B + loR (2 ^ si) i) * nc) nc := by
  unfold stageStep loR
  simp only [Nat.add_assoc]

end GoldilocksVerif.Model.Ntt
