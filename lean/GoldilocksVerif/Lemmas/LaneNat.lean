/- Lane functions of `Isa/Vec.lean` as arithmetic on `Nat` (core only, no Mathlib). -/
import GoldilocksVerif.Isa.Vec
import GoldilocksVerif.Lemmas.LaneAttr
set_option linter.unusedSimpArgs false
namespace GoldilocksVerif.Lane

theorem getLsbD_lo32 (i : Nat) : (0xFFFFFFFF#64).getLsbD i = decide (i < 32) := by
  by_cases h : i < 64
  · have : ∀ j : Fin 64, (0xFFFFFFFF#64).getLsbD j.val = decide (j.val < 32) := by decide
    exact this ⟨i, h⟩
  · rw [BitVec.getLsbD_of_ge _ _ (by omega)]; simp; omega

theorem getLsbD_hi32 (i : Nat) : (0xFFFFFFFF00000000#64).getLsbD i = decide (32 ≤ i ∧ i < 64) := by
  by_cases h : i < 64
  · have : ∀ j : Fin 64, (0xFFFFFFFF00000000#64).getLsbD j.val = decide (32 ≤ j.val ∧ j.val < 64) := by decide
    exact this ⟨i, h⟩
  · rw [BitVec.getLsbD_of_ge _ _ (by omega)]; simp; omega

theorem and_lo32_toNat (x : BitVec 64) : (x &&& 0xFFFFFFFF#64).toNat = x.toNat % 4294967296 := by
  rw [BitVec.toNat_and]
  show x.toNat &&& (2^32 - 1) = _
  rw [Nat.and_two_pow_sub_one_eq_mod]

theorem and_hi32_eq (x : BitVec 64) : x &&& 0xFFFFFFFF00000000#64 = (x >>> 32) <<< 32 := by
  apply BitVec.eq_of_getLsbD_eq
  intro i hi
  simp only [BitVec.getLsbD_and, BitVec.getLsbD_shiftLeft, BitVec.getLsbD_ushiftRight, getLsbD_hi32]
  by_cases h : i < 32
  · simp [h]; omega
  · have e : 32 + (i - 32) = i := by omega
    have h32 : 32 ≤ i := by omega
    simp [h, hi, e, h32]

theorem and_hi32_toNat (x : BitVec 64) : (x &&& 0xFFFFFFFF00000000#64).toNat = x.toNat / 4294967296 * 4294967296 := by
  rw [and_hi32_eq, BitVec.toNat_shiftLeft, BitVec.toNat_ushiftRight, Nat.shiftLeft_eq, Nat.shiftRight_eq_div_pow]
  have := x.isLt
  omega

theorem ushr_toNat (x : BitVec 64) (k : Nat) : (x >>> k).toNat = x.toNat / 2^k := by
  rw [BitVec.toNat_ushiftRight, Nat.shiftRight_eq_div_pow]
theorem ushr32_toNat (x : BitVec 64) : (x >>> 32).toNat = x.toNat / 4294967296 := ushr_toNat x 32
theorem shl_toNat (x : BitVec 64) (k : Nat) : (x <<< k).toNat = (x.toNat * 2^k) % 18446744073709551616 := by
  rw [BitVec.toNat_shiftLeft, Nat.shiftLeft_eq]

theorem or_disj_toNat (h l : BitVec 64) (k : Nat) (hh : h.toNat % 2^k = 0) (hl : l.toNat < 2^k) :
    (h ||| l).toNat = h.toNat + l.toNat := by
  rw [BitVec.toNat_or]
  have e : h.toNat = (h.toNat / 2^k) <<< k := by
    rw [Nat.shiftLeft_eq]
    have := Nat.div_add_mod h.toNat (2^k)
    rw [hh, Nat.add_zero, Nat.mul_comm] at this
    exact this.symm
  rw [e, ← Nat.shiftLeft_add_eq_or_of_lt hl]

theorem or_hi_lo_toNat (h l : BitVec 64) (hh : h.toNat % 4294967296 = 0) (hl : l.toNat < 4294967296) :
    (h ||| l).toNat = h.toNat + l.toNat := or_disj_toNat h l 32 hh hl

theorem xor_msb_toNat (x : BitVec 64) :
    (x ^^^ 9223372036854775808#64).toNat = (x.toNat + 9223372036854775808) % 18446744073709551616 := by
  rw [BitVec.toNat_xor]
  have hx := x.isLt
  show x.toNat ^^^ 2^63 = _
  have h1 : (x.toNat ^^^ 2^63) / 2^63 = (x.toNat / 2^63) ^^^ 1 := by
    rw [← Nat.shiftRight_eq_div_pow, Nat.shiftRight_xor_distrib, Nat.shiftRight_eq_div_pow, Nat.shiftRight_eq_div_pow]
  have h2 : (x.toNat ^^^ 2^63) % 2^63 = x.toNat % 2^63 := by
    rw [Nat.xor_mod_two_pow]; simp
  have h3 : x.toNat / 2^63 = 0 ∨ x.toNat / 2^63 = 1 := by omega
  rcases h3 with h3 | h3
  · rw [h3] at h1
    have : (0 ^^^ 1 : Nat) = 1 := by decide
    rw [this] at h1
    omega
  · rw [h3] at h1
    have : (1 ^^^ 1 : Nat) = 0 := by decide
    rw [this] at h1
    omega

theorem add_half_mod (h x : Nat) (hx : x < h * 2) : (x + h) % (h * 2) = if x < h then x + h else x - h := by
  split
  · exact Nat.mod_eq_of_lt (by omega)
  · rw [Nat.mod_eq_sub_mod (by omega), Nat.mod_eq_of_lt (by omega)]; omega

/-- signed order = unsigned order after adding `2^w` modulo `2^(w+1)`, at any width `w + 1` -/
theorem slt_iff_add (w : Nat) (a b : BitVec (w + 1)) :
    a.slt b = decide ((a.toNat + 2 ^ w) % 2 ^ (w + 1) < (b.toNat + 2 ^ w) % 2 ^ (w + 1)) := by
  rw [BitVec.slt_eq_decide]
  congr 1
  rw [BitVec.toInt_eq_toNat_cond, BitVec.toInt_eq_toNat_cond]
  have ha := a.isLt
  have hb := b.isLt
  rw [Nat.pow_succ] at *
  generalize 2 ^ w = h at *
  rw [add_half_mod h _ ha, add_half_mod h _ hb]
  apply propext
  split <;> split <;> split <;> split <;> omega

theorem slt_iff (a b : BitVec 64) :
    a.slt b = decide ((a.toNat + 9223372036854775808) % 18446744073709551616 <
                      (b.toNat + 9223372036854775808) % 18446744073709551616) :=
  slt_iff_add 63 a b

theorem slt32_iff (a b : BitVec 32) :
    a.slt b = decide ((a.toNat + 2147483648) % 4294967296 < (b.toNat + 2147483648) % 4294967296) :=
  slt_iff_add 31 a b

theorem mask_toNat (c : Bool) : (mask c).toNat = if c then 18446744073709551615 else 0 := by
  cases c <;> rfl

theorem mask_and_toNat (c : Bool) (k : BitVec 64) : (mask c &&& k).toNat = if c then k.toNat else 0 := by
  cases c
  · simp [mask]
  · simp only [mask, if_true]
    have : (18446744073709551615#64 : BitVec 64) = BitVec.allOnes 64 := by decide
    rw [this, BitVec.allOnes_and]

theorem mask_andnot_toNat (c : Bool) (k : BitVec 64) : (~~~(mask c) &&& k).toNat = if c then 0 else k.toNat := by
  cases c
  · simp only [mask, Bool.false_eq_true, if_false]
    have : (~~~(0#64) : BitVec 64) = BitVec.allOnes 64 := by decide
    rw [this, BitVec.allOnes_and]
  · simp only [mask, if_true]
    have : (~~~(18446744073709551615#64) : BitVec 64) = 0#64 := by decide
    rw [this]; simp

theorem cmpgt64_eq (a b : BitVec 64) :
    cmpgt64 a b = mask (decide ((b.toNat + 9223372036854775808) % 18446744073709551616 <
                                (a.toNat + 9223372036854775808) % 18446744073709551616)) := by
  unfold cmpgt64; rw [slt_iff]

theorem mul32_toNat (a b : BitVec 64) : (mul32 a b).toNat = (a.toNat % 4294967296) * (b.toNat % 4294967296) := by
  unfold mul32
  rw [BitVec.toNat_mul, and_lo32_toNat, and_lo32_toNat]
  apply Nat.mod_eq_of_lt
  have h1 : a.toNat % 4294967296 < 4294967296 := Nat.mod_lt _ (by decide)
  have h2 : b.toNat % 4294967296 < 4294967296 := Nat.mod_lt _ (by decide)
  calc a.toNat % 4294967296 * (b.toNat % 4294967296) < 4294967296 * 4294967296 := Nat.mul_lt_mul'' h1 h2
    _ = 2^64 := by decide

theorem hdup_toNat (a : BitVec 64) : (hdup a).toNat = a.toNat / 4294967296 * 4294967296 + a.toNat / 4294967296 := by
  unfold hdup
  have ha := a.isLt
  rw [BitVec.or_comm, or_hi_lo_toNat _ _ (by rw [and_hi32_toNat]; omega) (by rw [ushr32_toNat]; omega),
    and_hi32_toNat, ushr32_toNat]

/-- what `mul_epu32` sees of it -/
theorem hdup_mod (a : BitVec 64) : (hdup a).toNat % 4294967296 = a.toNat / 4294967296 := by
  have ha := a.isLt
  rw [hdup_toNat]
  omega

theorem ldup_toNat (a : BitVec 64) : (ldup a).toNat = (a.toNat % 4294967296) * 4294967296 + a.toNat % 4294967296 := by
  unfold ldup
  have ha := a.isLt
  rw [BitVec.or_comm, or_hi_lo_toNat _ _ (by rw [shl_toNat]; omega) (by rw [and_lo32_toNat]; omega),
    shl_toNat, and_lo32_toNat]
  omega

theorem blend32_2_toNat (a b : BitVec 64) :
    (blend32 2 a b).toNat = b.toNat / 4294967296 * 4294967296 + a.toNat % 4294967296 := by
  simp only [blend32, Nat.reduceMod, Nat.reduceDiv, Nat.zero_ne_one, if_false, if_true]
  rw [or_hi_lo_toNat _ _ (by rw [and_hi32_toNat]; omega) (by rw [and_lo32_toNat]; omega), and_hi32_toNat, and_lo32_toNat]

/-- the `moveldup` + blend idiom of `mult_avx_128`: low half of `r` on top of the low half of `a` -/
theorem blend_ldup_toNat (a r : BitVec 64) :
    (blend32 2 a (ldup r)).toNat = r.toNat % 4294967296 * 4294967296 + a.toNat % 4294967296 := by
  rw [blend32_2_toNat, ldup_toNat]
  have := r.isLt
  omega

/-- the shift + blend idiom of `mult_avx_72` -/
theorem blend_shl_toNat (a r : BitVec 64) :
    (blend32 2 a (r <<< 32)).toNat = r.toNat % 4294967296 * 4294967296 + a.toNat % 4294967296 := by
  rw [blend32_2_toNat, shl_toNat]
  have := r.isLt
  omega

theorem extract_lo32_toNat (a : BitVec 64) : (a.extractLsb' 0 32).toNat = a.toNat % 4294967296 := by
  simp [BitVec.extractLsb'_toNat]
theorem extract_hi32_toNat (a : BitVec 64) : (a.extractLsb' 32 32).toNat = a.toNat / 4294967296 := by
  simp only [BitVec.extractLsb'_toNat, Nat.shiftRight_eq_div_pow]
  have := a.isLt
  omega

/-- the correction word used by the 32-bit-compare kernels: (cmpgt_epi32 a b) >> 32 -/
theorem cmpgt32_shr_toNat (a b : BitVec 64) :
    (cmpgt32 a b >>> 32).toNat =
      if (b.toNat / 4294967296 + 2147483648) % 4294967296 < (a.toNat / 4294967296 + 2147483648) % 4294967296
      then 4294967295 else 0 := by
  unfold cmpgt32
  simp only [slt32_iff, extract_lo32_toNat, extract_hi32_toNat]
  rw [ushr32_toNat]
  split <;> split <;> simp_all [BitVec.toNat_or] <;> rfl

/-! The other operand order of each commutative lane operation, and equivalent idioms: a generated kernel may use
  either, and `lane_nat` must normalise both to one form. -/

theorem lo32_and_toNat (x : BitVec 64) : (0xFFFFFFFF#64 &&& x).toNat = x.toNat % 4294967296 := by
  rw [BitVec.and_comm, and_lo32_toNat]
theorem hi32_and_toNat (x : BitVec 64) : (0xFFFFFFFF00000000#64 &&& x).toNat = x.toNat / 4294967296 * 4294967296 := by
  rw [BitVec.and_comm, and_hi32_toNat]
theorem msb_xor_toNat (x : BitVec 64) :
    (9223372036854775808#64 ^^^ x).toNat = (x.toNat + 9223372036854775808) % 18446744073709551616 := by
  rw [BitVec.xor_comm, xor_msb_toNat]
theorem and_mask_toNat (c : Bool) (k : BitVec 64) : (k &&& mask c).toNat = if c then k.toNat else 0 := by
  rw [BitVec.and_comm, mask_and_toNat]
theorem and_sqmask_toNat (x : BitVec 64) : (x &&& 8589934591#64).toNat = x.toNat % 8589934592 := by
  rw [BitVec.toNat_and]
  show x.toNat &&& (2^33 - 1) = _
  rw [Nat.and_two_pow_sub_one_eq_mod]
theorem sqmask_and_toNat (x : BitVec 64) : (8589934591#64 &&& x).toNat = x.toNat % 8589934592 := by
  rw [BitVec.and_comm, and_sqmask_toNat]

/-- `or` instead of `add` when a value shifted left by 33 is combined with a 33-bit value (either operand order) -/
theorem shl33_or_and_toNat (r c : BitVec 64) : ((r <<< 33) ||| (c &&& 8589934591#64)).toNat =
    (r.toNat * 8589934592) % 18446744073709551616 + c.toNat % 8589934592 := by
  rw [or_disj_toNat _ _ 33 (by rw [shl_toNat]; omega) (by rw [and_sqmask_toNat]; omega),
    shl_toNat, and_sqmask_toNat]
theorem and_or_shl33_toNat (r c : BitVec 64) : ((c &&& 8589934591#64) ||| (r <<< 33)).toNat =
    (r.toNat * 8589934592) % 18446744073709551616 + c.toNat % 8589934592 := by
  rw [BitVec.or_comm, shl33_or_and_toNat]
theorem shl32_or_and_toNat (r c : BitVec 64) : ((r <<< 32) ||| (c &&& 4294967295#64)).toNat =
    (r.toNat * 4294967296) % 18446744073709551616 + c.toNat % 4294967296 := by
  rw [or_disj_toNat _ _ 32 (by rw [shl_toNat]; omega) (by rw [and_lo32_toNat]; omega),
    shl_toNat, and_lo32_toNat]
theorem and_or_shl32_toNat (r c : BitVec 64) : ((c &&& 4294967295#64) ||| (r <<< 32)).toNat =
    (r.toNat * 4294967296) % 18446744073709551616 + c.toNat % 4294967296 := by
  rw [BitVec.or_comm, shl32_or_and_toNat]

/-- unshifted value of a shifted representation -/
def _root_.GoldilocksVerif.unsh (n : Nat) : Nat := (n + 9223372036854775808) % 18446744073709551616

/-! Signed compares: stated over `unsh` (folded, so that no term `_ + 2^63` is visible to `simp`) and directly on the
  masked forms.  (`simp` must never see the intermediate `mask (decide (_ < _))` under a `.toNat`: matching it
  against `(?x + ?y).toNat` makes the unifier evaluate the comparison on 2^63-sized literals.) -/
theorem xor_msb_unsh (x : BitVec 64) : (x ^^^ 9223372036854775808#64).toNat = unsh x.toNat := xor_msb_toNat x
theorem msb_xor_unsh (x : BitVec 64) : (9223372036854775808#64 ^^^ x).toNat = unsh x.toNat := msb_xor_toNat x
/-- `if u < v then a else b`, kept folded while `simp` is still rewriting inside `u` and `v`: an `if` whose
  condition is rewritten by definitional lemmas keeps its old `Decidable` instance, and `split` then fails.
  Unfold with `ltN_def` once the operands are in normal form, then `split`. -/
def ltN (u v a b : Nat) : Nat := if u < v then a else b
theorem ltN_def (u v a b : Nat) : ltN u v a b = if u < v then a else b := rfl

theorem cmpgt64_toNat (a b : BitVec 64) :
    (cmpgt64 a b).toNat = ltN (unsh b.toNat) (unsh a.toNat) 18446744073709551615 0 := by
  rw [cmpgt64_eq, mask_toNat]; unfold unsh ltN
  simp only [decide_eq_true_eq]
theorem cmpgt64_and_toNat (a b k : BitVec 64) :
    (cmpgt64 a b &&& k).toNat = ltN (unsh b.toNat) (unsh a.toNat) k.toNat 0 := by
  rw [cmpgt64_eq, mask_and_toNat]; unfold unsh ltN
  simp only [decide_eq_true_eq]
theorem and_cmpgt64_toNat (a b k : BitVec 64) :
    (k &&& cmpgt64 a b).toNat = ltN (unsh b.toNat) (unsh a.toNat) k.toNat 0 := by
  rw [BitVec.and_comm, cmpgt64_and_toNat]
theorem andnot_cmpgt64_toNat (a b k : BitVec 64) :
    (~~~cmpgt64 a b &&& k).toNat = ltN (unsh b.toNat) (unsh a.toNat) 0 k.toNat := by
  rw [cmpgt64_eq, mask_andnot_toNat]; unfold unsh ltN
  simp only [decide_eq_true_eq]

/-- `srli_epi64(cmpgt_epi64(a, b), 32)`: the low-half constant 2^32 - 1 under the mask, without the `and` -/
theorem cmpgt64_shr32_toNat (a b : BitVec 64) :
    (cmpgt64 a b >>> 32).toNat = ltN (unsh b.toNat) (unsh a.toNat) 4294967295 0 := by
  rw [ushr32_toNat, cmpgt64_toNat]; unfold ltN
  split <;> rfl

/-- the high half is already below 2^32 (`srli 32` feeding `mul_epu32` is the same as `movehdup` feeding it) -/
theorem hi_mod_32 (x : BitVec 64) : x.toNat / 4294967296 % 4294967296 = x.toNat / 4294967296 := by
  have := x.isLt; omega

attribute [lane_nat] hi_mod_32 Nat.mod_mod BitVec.toNat_add BitVec.toNat_sub BitVec.toNat_ofNat Nat.reducePow Nat.reduceMod Nat.reduceMul
  xor_msb_unsh msb_xor_unsh and_lo32_toNat lo32_and_toNat and_hi32_toNat hi32_and_toNat and_sqmask_toNat
  sqmask_and_toNat ushr_toNat shl_toNat cmpgt64_toNat
  mul32_toNat hdup_mod ldup_toNat blend32_2_toNat shl33_or_and_toNat and_or_shl33_toNat shl32_or_and_toNat
  and_or_shl32_toNat
attribute [lane_nat high] cmpgt32_shr_toNat cmpgt64_shr32_toNat cmpgt64_and_toNat and_cmpgt64_toNat andnot_cmpgt64_toNat
  blend_ldup_toNat blend_shl_toNat

/-- `if x < y then u else v` on lanes (unsigned); every `vpcmpuq` predicate under a masked operation is brought to
  this form (`≤` by exchanging the branches) -/
def ultSel (x y u v : BitVec 64) : BitVec 64 := if x < y then u else v
def eqSel (x y u v : BitVec 64) : BitVec 64 := if x = y then u else v
/-- folded for the same reason as `ltN` -/
def eqN (u v a b : Nat) : Nat := if u = v then a else b
theorem eqN_def (u v a b : Nat) : eqN u v a b = if u = v then a else b := rfl

theorem ultSel_toNat (x y u v : BitVec 64) : (ultSel x y u v).toNat = ltN x.toNat y.toNat u.toNat v.toNat := by
  unfold ultSel ltN
  by_cases h : x < y
  · rw [if_pos h, if_pos (BitVec.lt_def.mp h)]
  · rw [if_neg h, if_neg (fun h' => h (BitVec.lt_def.mpr h'))]
theorem eqSel_toNat (x y u v : BitVec 64) : (eqSel x y u v).toNat = eqN x.toNat y.toNat u.toNat v.toNat := by
  unfold eqSel eqN
  by_cases h : x = y
  · rw [if_pos h, if_pos (congrArg BitVec.toNat h)]
  · rw [if_neg h, if_neg (fun h' => h (BitVec.eq_of_toNat_eq h'))]

attribute [lane_nat] ultSel_toNat eqSel_toNat

/-- `BitVec.toNat_add` holds by `rfl`, so `simp` leaves that step to the kernel's definitional-equality check; on
  `x + c` with a 2^32-sized literal `c` (the AVX-512 kernels add `2^32 - 1` directly, the AVX2 kernels only under a
  mask) the kernel then unfolds `Nat.add` literal-many times and never returns.  This copy is a proper rewrite rule
  and is tried first. -/
theorem toNat_add64 (x y : BitVec 64) : (x + y).toNat = (x.toNat + y.toNat) % 18446744073709551616 := by
  have h : (2 : Nat) ^ 64 = 18446744073709551616 := by decide
  rw [BitVec.toNat_add, h]
attribute [lane_nat high] toNat_add64

end GoldilocksVerif.Lane
