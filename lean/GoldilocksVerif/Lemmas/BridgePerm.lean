/-
  Locality of the translated scalar permutation `hash_full_result_seq` (Gen.PosScalar.Pos_hash_full_result_seq): its first
  twelve output words are a function of the first twelve words of its input, whatever the output buffer held.  The call
  pattern of `linear_hash_seq`, `hash_full_result_seq(state, state)`, is translated to a copy of its own
  (Gen.LinearHashGen.Pos_hash_full_result_seq_al_state_input); the copy is the function itself with the state as both
  arguments (`seq_al_eq`), so C06's statements about `hash_full_result_seq` are statements about what the linear hash calls.
  This discharges the hypothesis `hP` of the bridge theorem of Lemmas/BridgeSponge.lean for `linear_hash_seq`, with
  `perm := permSeqList` (run the translated permutation on a 12-element list), and `hH` of the Merkle bridge (`hash_seq_node`).
-/
import GoldilocksVerif.Gen.LinearHashGen
import GoldilocksVerif.Lemmas.BridgeSponge
import GoldilocksVerif.Lemmas.LoadStoreL

namespace GoldilocksVerif
open Gen.PosScalar Gen.LinearHashGen

/-- A region function that computes its first `n` output words from the first `n` input words.  For the straight-line
    helpers below the hypothesis holds by evaluation: word `i` of `f x` and of `f` run on the truncated input reduce to the
    same expression, whatever the text of `f` is, as long as it reads its argument at fixed positions below `n`. -/
theorem congr_of_trunc {n : Nat} {f : Region → Region} (hf : ∀ x, Region.Agree n (f x) (f (Region.trunc n x)))
    {x x' : Region} (h : Region.Agree n x x') : Region.Agree n (f x) (f x') := fun i hi => by
  rw [hf x i hi, hf x' i hi, Region.trunc_congr h]

theorem add_congr (x x' c : Region) (h : Region.Agree 12 x x') : Region.Agree 12 (Pos_add_ x c) (Pos_add_ x' c) :=
  congr_of_trunc (f := fun x => Pos_add_ x c)
    (fun _ => by refine forall_lt_12 _ ?_ ?_ ?_ ?_ ?_ ?_ ?_ ?_ ?_ ?_ ?_ ?_ <;> rfl) h

theorem pow7_congr (x x' : Region) (h : Region.Agree 12 x x') : Region.Agree 12 (Pos_pow7_ x) (Pos_pow7_ x') :=
  congr_of_trunc (f := Pos_pow7_) (fun _ => by refine forall_lt_12 _ ?_ ?_ ?_ ?_ ?_ ?_ ?_ ?_ ?_ ?_ ?_ ?_ <;> rfl) h

theorem pow7add_congr (x x' c : Region) (h : Region.Agree 12 x x') :
    Region.Agree 12 (Pos_pow7add_ x c) (Pos_pow7add_ x' c) :=
  congr_of_trunc (f := fun x => Pos_pow7add_ x c)
    (fun _ => by refine forall_lt_12 _ ?_ ?_ ?_ ?_ ?_ ?_ ?_ ?_ ?_ ?_ ?_ ?_ <;> rfl) h

theorem mvp_congr (x x' m : Region) (h : Region.Agree 12 x x') : Region.Agree 12 (Pos_mvp_ x m) (Pos_mvp_ x' m) := by
  have h : ∀ i, i < 12 → x i = x' i := h
  -- by rewriting, not by `rfl` as for the helpers above: the 145 nested `let`s are deeper than the default recursion limit.
  -- Unfolded once, before the split into the twelve words; `↓` resolves a read before `simp` visits the written value.
  show ∀ i, i < 12 → (Pos_mvp_ x m) i = (Pos_mvp_ x' m) i
  simp only [Pos_mvp_]
  refine forall_lt_12 _ ?_ ?_ ?_ ?_ ?_ ?_ ?_ ?_ ?_ ?_ ?_ ?_ <;>
    simp only [↓Region.set_apply, ↓Region.copyN_apply, ↓reduceIte, Nat.reduceEqDiff, Nat.reduceLT, h]

theorem loop_body_congr (r : Nat) (x x' : Region) (h : Region.Agree 12 x x') :
    Region.Agree 12 (Pos_hash_full_result_seq_loop1 r x) (Pos_hash_full_result_seq_loop1 r x') :=
  congr_of_trunc (f := Pos_hash_full_result_seq_loop1 r)
    (fun _ => by refine forall_lt_12 _ ?_ ?_ ?_ ?_ ?_ ?_ ?_ ?_ ?_ ?_ ?_ ?_ <;> rfl) h

theorem rangeAux_congr (f : Nat → Region → Region) (hf : ∀ i s s', Region.Agree 12 s s' → Region.Agree 12 (f i s) (f i s')) :
    ∀ (n i : Nat) (s s' : Region), Region.Agree 12 s s' → Region.Agree 12 (Loop.rangeAux 1 f n i s) (Loop.rangeAux 1 f n i s') := by
  intro n
  induction n with
  | zero => intro i s s' h; exact h
  | succ n ih => intro i s s' h; exact ih (i + 1) _ _ (hf i s s' h)

theorem range_congr (f : Nat → Region → Region) (hf : ∀ i s s', Region.Agree 12 s s' → Region.Agree 12 (f i s) (f i s')) (lo hi : Nat)
    (s s' : Region) (h : Region.Agree 12 s s') : Region.Agree 12 (Loop.range lo hi 1 s f) (Loop.range lo hi 1 s' f) :=
  rangeAux_congr f hf _ _ _ _ h

set_option maxRecDepth 16384 in
theorem perm_seq2_local (st st' s s' : Region) (h : Region.Agree 12 s s') :
    Region.Agree 12 (Pos_hash_full_result_seq st s) (Pos_hash_full_result_seq st' s') := by
  unfold Pos_hash_full_result_seq
  dsimp only
  -- outermost call first: last full rounds, the 22 partial rounds, first full rounds, the initial memcpy
  apply mvp_congr; apply pow7_congr
  apply mvp_congr; apply pow7add_congr
  apply mvp_congr; apply pow7add_congr
  apply mvp_congr; apply pow7add_congr
  apply range_congr _ loop_body_congr
  apply mvp_congr; apply pow7add_congr
  apply mvp_congr; apply pow7add_congr
  apply mvp_congr; apply pow7add_congr
  apply mvp_congr; apply pow7add_congr
  apply add_congr
  exact Region.copyN_agree _ _ h

/-- the copy the translator prints for `hash_full_result_seq(state, state)` differs from the function in `copyN state state 12`
    for `copyN state input 12` and in the name of the lifted loop body -/
theorem seq_al_eq (s : Region) : Pos_hash_full_result_seq_al_state_input s = Pos_hash_full_result_seq s s := by
  delta Pos_hash_full_result_seq_al_state_input Pos_hash_full_result_seq
  rfl

theorem perm_seq_local (s s' : Region) (h : Region.Agree 12 s s') :
    Region.Agree 12 (Pos_hash_full_result_seq_al_state_input s) (Pos_hash_full_result_seq_al_state_input s') := by
  rw [seq_al_eq, seq_al_eq]
  exact perm_seq2_local s s' s s' h

def permSeqList (l : List Model.Wd) : List Model.Wd :=
  Region.toList (Pos_hash_full_result_seq_al_state_input (Region.ofList l)) 12

theorem perm_seq_hP (s : Region) :
    Region.toList (Pos_hash_full_result_seq_al_state_input s) 12 = permSeqList (Region.toList s 12) :=
  Region.toList_congr (perm_seq_local s _ (Region.agree_trunc s 12))

theorem leafHash_seq : LeafHash Pos_linear_hash_seq (Model.linearHash permSeqList) := fun fuel out inp size hf => by
  rw [lh_seq_generic]
  exact lhGenG_spec _ permSeqList perm_seq_hP fuel out inp size hf

/-! ### the call pattern of the Merkle builders: `hash_seq(out, pol_input)` -/

def nodeSeqList (l : List Model.Wd) : List Model.Wd :=
  Region.toList (Pos_hash_full_result_seq Region.zero (Region.ofList l)) 4

theorem hash_seq_node (out inp : Region) :
    Region.toList (Pos_hash_seq out inp) 4 = nodeSeqList (Region.toList inp 12) ∧
    ∀ k, 4 ≤ k → (Pos_hash_seq out inp) k = out k := by
  constructor
  · refine Region.toList_congr fun j hj => ?_
    have e : (Pos_hash_seq out inp) j = (Pos_hash_full_result_seq Region.zero inp) j := by
      simp only [Pos_hash_seq, Region.copyN_apply, hj, if_true]
    rw [e]
    exact perm_seq2_local Region.zero Region.zero inp (Region.ofList (Region.toList inp 12)) (Region.agree_trunc inp 12) j (by omega)
  · intro k hk
    simp only [Pos_hash_seq, Region.copyN_apply, show ¬ k < 4 from by omega, if_false]

theorem permSeqList_length (l : List Model.Wd) : (permSeqList l).length = 12 := Region.length_toList _ _
theorem nodeSeqList_length (l : List Model.Wd) : (nodeSeqList l).length = 4 := Region.length_toList _ _

end GoldilocksVerif
