/-
  Bernstein's conditions ⇒ order independence of the members / iterations of a parallel region.  Generic: locations
  `L`, values `V`, an iteration is ANY state transformer that reads only `R` and writes only `W`.
-/
import Mathlib.Data.List.Perm.Basic

namespace GoldilocksVerif.Par

variable {L V : Type}

/-- one iteration (or one team member's whole slice) of a parallel loop, with its read and write footprints -/
structure Iter (L V : Type) where
  run : (L → V) → (L → V)
  R : L → Prop
  W : L → Prop
  frame : ∀ m l, ¬ W l → run m l = m l
  dep : ∀ m m', (∀ l, R l → m l = m' l) → ∀ l, W l → run m l = run m' l

/-- Bernstein's conditions on two footprints: no write/write, write/read or read/write overlap -/
def FootIndep (R1 W1 R2 W2 : L → Prop) : Prop :=
  (∀ l, ¬ (W1 l ∧ W2 l)) ∧ (∀ l, ¬ (W1 l ∧ R2 l)) ∧ (∀ l, ¬ (W2 l ∧ R1 l))

def Indep (f g : Iter L V) : Prop := FootIndep f.R f.W g.R g.W

theorem FootIndep.symm {R1 W1 R2 W2 : L → Prop} (h : FootIndep R1 W1 R2 W2) : FootIndep R2 W2 R1 W1 :=
  ⟨fun l hl => h.1 l ⟨hl.2, hl.1⟩, h.2.2, h.2.1⟩

/-- OWNER COMPUTES: an iteration reads only what it writes itself or what no iteration writes (`RO`: another buffer, the tables, the
    level below).  Then Bernstein's conditions are the disjointness of the write sets.  Every parallel loop of the library has
    this form. -/
theorem FootIndep.of_writes {R1 W1 R2 W2 : L → Prop} (RO : L → Prop) (hW : ∀ l, ¬ (W1 l ∧ W2 l))
    (h1 : ∀ l, R1 l → W1 l ∨ RO l) (h2 : ∀ l, R2 l → W2 l ∨ RO l) (hRO : ∀ l, RO l → ¬ W1 l ∧ ¬ W2 l) :
    FootIndep R1 W1 R2 W2 :=
  ⟨hW, fun l h => (h2 l h.2).elim (fun w => hW l ⟨h.1, w⟩) (fun r => (hRO l r).1 h.1),
   fun l h => (h1 l h.2).elim (fun w => hW l ⟨w, h.1⟩) (fun r => (hRO l r).2 h.1)⟩

theorem commute (f g : Iter L V) (h : Indep f g) (m : L → V) : f.run (g.run m) = g.run (f.run m) := by
  obtain ⟨hww, hwr, hrw⟩ := h
  funext l
  by_cases hf : f.W l
  · have hg : ¬ g.W l := fun hg => hww l ⟨hf, hg⟩
    rw [g.frame _ l hg]
    exact f.dep _ _ (fun l' hr => g.frame m l' (fun hw => hrw l' ⟨hw, hr⟩)) l hf
  · rw [f.frame _ l hf]
    by_cases hg : g.W l
    · exact (g.dep _ _ (fun l' hr => f.frame m l' (fun hw => hwr l' ⟨hw, hr⟩)) l hg).symm
    · rw [g.frame _ l hg, g.frame _ l hg, f.frame _ l hf]

theorem foldl_perm_of_commute {ι σ : Type} (run : ι → σ → σ) (l l' : List ι) (hp : l.Perm l')
    (hc : ∀ i ∈ l, ∀ j ∈ l, i ≠ j → ∀ s, run i (run j s) = run j (run i s)) (s : σ) :
    l.foldl (fun s i => run i s) s = l'.foldl (fun s i => run i s) s := by
  apply hp.foldl_eq'
  intro i hi j hj s
  by_cases e : i = j
  · subst e; rfl
  · exact hc j hj i hi (fun h => e h.symm) s

def exec (its : List (Iter L V)) (m : L → V) : L → V := its.foldl (fun m f => f.run m) m

/-- Every ORDER of the iterations, hence every assignment of iterations to team members, every team size and every order
    of the members, yields the same memory. -/
theorem order_independent (its its' : List (Iter L V)) (hp : its.Perm its')
    (hind : ∀ f ∈ its, ∀ g ∈ its, f ≠ g → Indep f g) (m : L → V) : exec its m = exec its' m :=
  foldl_perm_of_commute (fun (f : Iter L V) m => f.run m) its its' hp (fun f hf g hg hne => commute f g (hind f hf g hg hne)) m

theorem exec_frame (its : List (Iter L V)) (m : L → V) (l : L) (h : ∀ f ∈ its, ¬ f.W l) : exec its m l = m l := by
  unfold exec
  induction its generalizing m with
  | nil => rfl
  | cons f rest ih =>
    simp only [List.foldl_cons]
    rw [ih (f.run m) (fun g hg => h g (List.mem_cons_of_mem _ hg))]
    exact f.frame m l (h f List.mem_cons_self)

end GoldilocksVerif.Par
