/-
  Lemmas about the allocation traces of Model/NttAlloc.lean (helpers for Props/C18.lean).  Core-only.
-/
import GoldilocksVerif.Model.NttAlloc

namespace GoldilocksVerif.NttAlloc

theorem run_append (h : Heap × Nat) (a b : List Ev) :
    run h (a ++ b) = (run h a).bind (fun h' => run h' b) := by
  induction a generalizing h with
  | nil => rfl
  | cons e es ih =>
    simp only [List.cons_append, run]
    cases step h e with
    | none => rfl
    | some h' => exact ih h'

theorem run_append_some (h h' : Heap × Nat) (a b : List Ev) (ha : run h a = some h') :
    run h (a ++ b) = run h' b := by
  rw [run_append, ha]; rfl

/-- NTT / INTT leave the heap exactly as they found it, for every shape, with or without a caller buffer -/
theorem run_ntt (H : Heap) (c size ncols nblock : Nat) (buf : Bool) :
    run (H, c) (nttEv c size ncols nblock buf).1 = some (H, (nttEv c size ncols nblock buf).2) := by
  unfold nttEv
  by_cases h0 : size = 0 ∨ ncols = 0
  · rw [if_pos h0]; rfl
  · rw [if_neg h0]
    simp only
    cases buf <;>
      cases hd : decide ((if nblock < 1 then 1 else if nblock > ncols then ncols else nblock) > 1) <;>
      simp [run, step]

theorem run_extMid (H : Heap) (c nExt n ncols nblock : Nat) :
    run (H, c) (extMid c nExt n ncols nblock).1 = some (H, (extMid c nExt n ncols nblock).2) := by
  unfold extMid
  simp only
  rw [run_append_some _ _ _ _ (run_ntt H c n ncols nblock true)]
  exact run_ntt H _ nExt ncols nblock true

/-- the cache blocks / the table blocks an object owns between two calls, newest first -/
def cacheL : Option (Nat × Nat × Nat) → Heap
  | some (_, r, r') => [(r', Kind.newArr), (r, Kind.newArr)]
  | none => []
def tablesL : Option (Nat × Nat) → Heap
  | some (a, b) => [(b, Kind.malloc), (a, Kind.malloc)]
  | none => []

/-- the cache ids are consecutive (r_ is allocated right after r) -/
def CacheOk : Option (Nat × Nat × Nat) → Prop
  | some (_, r, r') => r' = r + 1
  | none => True
def TablesOk : Option (Nat × Nat) → Prop
  | some (a, b) => b = a + 1
  | none => True

theorem ctor_tablesOk (c m : Nat) : TablesOk (ctor c m).2.2 := by
  unfold ctor; split <;> simp [TablesOk]

theorem run_ctor (H : Heap) (c m : Nat) :
    run (H, c) (ctor c m).1 = some (tablesL (ctor c m).2.2 ++ H, (ctor c m).2.1) := by
  unfold ctor; split <;> simp [run, step, tablesL]

theorem run_dtor (T : Heap) (t : Option (Nat × Nat)) (ch : Option (Nat × Nat × Nat)) (c : Nat) (hc : CacheOk ch)
    (ht : TablesOk t) : run (cacheL ch ++ tablesL t ++ T, c) (dtor t ch) = some (T, c) := by
  cases t with
  | none =>
    cases ch with
    | none => rfl
    | some x =>
      obtain ⟨n, r, r'⟩ := x
      have : r' = r + 1 := hc
      subst this
      simp [cacheL, tablesL, dtor, run, step]
  | some y =>
    obtain ⟨a, b⟩ := y
    have hb : b = a + 1 := ht
    subst hb
    cases ch with
    | none => simp [cacheL, tablesL, dtor, run, step]
    | some x =>
      obtain ⟨n, r, r'⟩ := x
      have : r' = r + 1 := hc
      subst this
      simp [cacheL, tablesL, dtor, run, step]

def tmpL : Option Nat → Heap
  | some t => [(t, Kind.malloc)]
  | none => []

/-- blocks `extPre` leaves on top of the object's own tables: new cache, temporary, local tables (newest first) -/
theorem run_extPre (T : Heap) (ch : Option (Nat × Nat × Nat)) (c nExt n ncols : Nat) (buf : Bool) (hc : CacheOk ch) :
    (run (cacheL ch ++ T, c) (extPre c ch nExt n ncols buf).1 =
        some (if (extPre c ch nExt n ncols buf).2.2.2.2 = ch
              then tmpL (extPre c ch nExt n ncols buf).2.2.2.1 ++ tablesL (extPre c ch nExt n ncols buf).2.2.1 ++ (cacheL ch ++ T)
              else cacheL (extPre c ch nExt n ncols buf).2.2.2.2 ++
                    (tmpL (extPre c ch nExt n ncols buf).2.2.2.1 ++ tablesL (extPre c ch nExt n ncols buf).2.2.1 ++ T),
              (extPre c ch nExt n ncols buf).2.1)) ∧
    CacheOk (extPre c ch nExt n ncols buf).2.2.2.2 ∧ TablesOk (extPre c ch nExt n ncols buf).2.2.1 := by
  cases buf <;> cases ch with
  | none => by_cases hx : nExt = 0 <;> simp [extPre, ctor, hx, run, step, cacheL, tablesL, tmpL, CacheOk, TablesOk]
  | some x =>
    obtain ⟨n', r, r'⟩ := x
    have : r' = r + 1 := hc
    subst this
    by_cases hx : nExt = 0 <;> by_cases hn : n' = n <;>
      simp [extPre, ctor, hx, hn, run, step, cacheL, tablesL, tmpL, CacheOk, TablesOk]
    all_goals (intro h; exact absurd h.symm hn)

theorem run_extPost (T : Heap) (ch : Option (Nat × Nat × Nat)) (t1 : Option (Nat × Nat)) (tmp : Option Nat) (c : Nat)
    (ht : TablesOk t1) :
    run (cacheL ch ++ (tmpL tmp ++ tablesL t1 ++ T), c) (extPost t1 tmp) = some (cacheL ch ++ T, c) := by
  rcases ch with _ | ⟨n, r, r'⟩ <;> cases tmp <;> cases t1 with
  | none => simp [extPost, dtor, run, step, cacheL, tablesL, tmpL]
  | some y =>
    obtain ⟨a, b⟩ := y
    have hb : b = a + 1 := ht
    subst hb
    simp [extPost, dtor, run, step, cacheL, tablesL, tmpL]

/-- extendPol: everything it allocates is released again, except the (possibly replaced) r / r_ cache -/
theorem run_extend (T : Heap) (ch : Option (Nat × Nat × Nat)) (c nExt n ncols nblock : Nat) (buf : Bool) (hc : CacheOk ch) :
    run (cacheL ch ++ T, c) (extendEv c ch nExt n ncols nblock buf).1 =
      some (cacheL (extendEv c ch nExt n ncols nblock buf).2.2 ++ T, (extendEv c ch nExt n ncols nblock buf).2.1) ∧
    CacheOk (extendEv c ch nExt n ncols nblock buf).2.2 := by
  obtain ⟨h1, h2, h3⟩ := run_extPre T ch c nExt n ncols buf hc
  unfold extendEv
  simp only
  refine ⟨?_, h2⟩
  rw [List.append_assoc, run_append_some _ _ _ _ h1]
  by_cases he : (extPre c ch nExt n ncols buf).2.2.2.2 = ch
  · rw [if_pos he, run_append_some _ _ _ _ (run_extMid _ _ _ _ _ _)]
    have := run_extPost (cacheL ch ++ T) none (extPre c ch nExt n ncols buf).2.2.1 (extPre c ch nExt n ncols buf).2.2.2.1
      (extMid (extPre c ch nExt n ncols buf).2.1 nExt n ncols nblock).2 h3
    rw [he]
    exact this
  · rw [if_neg he, run_append_some _ _ _ _ (run_extMid _ _ _ _ _ _)]
    exact run_extPost T _ _ _ _ h3

/-- the invariant between two calls: the heap holds exactly the object's cache and tables -/
theorem run_call (T : Heap) (s : St) (cl : Call) (hc : CacheOk s.cache) :
    run (cacheL s.cache ++ T, s.next) (callEv s cl).1 = some (cacheL (callEv s cl).2.cache ++ T, (callEv s cl).2.next) ∧
    CacheOk (callEv s cl).2.cache ∧ (callEv s cl).2.tables = s.tables := by
  cases cl with
  | ntt size ncols nblock buf =>
    simp only [callEv]
    exact ⟨run_ntt _ _ _ _ _ _, hc, trivial⟩
  | extendPol nExt n ncols nblock buf =>
    simp only [callEv]
    obtain ⟨h1, h2⟩ := run_extend T s.cache s.next nExt n ncols nblock buf hc
    exact ⟨h1, h2, trivial⟩

theorem run_calls (T : Heap) : ∀ (cs : List Call) (s : St), CacheOk s.cache →
    run (cacheL s.cache ++ T, s.next) (callsEv s cs).1 = some (cacheL (callsEv s cs).2.cache ++ T, (callsEv s cs).2.next) ∧
    CacheOk (callsEv s cs).2.cache ∧ (callsEv s cs).2.tables = s.tables := by
  intro cs
  induction cs with
  | nil => intro s hc; exact ⟨rfl, hc, rfl⟩
  | cons cl rest ih =>
    intro s hc
    obtain ⟨h1, h2, h3⟩ := run_call T s cl hc
    obtain ⟨g1, g2, g3⟩ := ih (callEv s cl).2 h2
    simp only [callsEv]
    refine ⟨?_, g2, g3.trans h3⟩
    rw [run_append_some _ _ _ _ h1]
    exact g1

end GoldilocksVerif.NttAlloc
