/-
  Bridge theorems: the TRANSLATED `NTT` / `INTT` (Gen/NttGen.lean) EQUAL the hand model's `ntt` / `intt` (Model/Ntt.lean) — bit for
  bit, for every `nblock`, every size 1 ≤ 2^K ≤ 2^30, with or without a caller scratch buffer.  The destination block holds the
  model's result, a caller buffer keeps its size, nothing else changes.

  `NTT_core` is the theorem about `NTT_NTT`: the scratch is block `B` of the heap.  It asks of `B` what the function uses —
  2^K·`allocCols` words (the widest column block) — and, with ONE column block only, zero content (the model's own scratch) or a
  full-size destination (then the scratch content does not matter: `Model.Ntt.nttIters_aux_irrelevant`, Lemmas/NttIndep.lean; with
  several blocks `blocks_loop`, Lemmas/BridgeNttBlocks.lean, needs neither).  One block: generated `NTT_iters` = the model's
  `nttIters` run with the block's content as `aux` (`NTT_gen_buf_iters`, Lemmas/BridgeNttBuf.lean).
  `NTT(buffer = NULL)` on `hp` is `NTT(buffer = the new block)` on `hp` with a zero block pushed, then `free` (`NTT_null_push`:
  unfolding on both sides), so the theorems without caller buffer (`NTT_null`: `NTT_gen_all`, `NTT_gen`, `NTT_gen_blocks`) are `NTT_core` on
  that heap.
  At the end the buffer-or-not forms `NTT_gen_opt` / `INTT_gen_opt` (`optPtr`, `HeapUpd`, `ScratchOk`): what `extendPol` and the
  call histories use.
-/
import GoldilocksVerif.Lemmas.BridgeNttBlocks
import GoldilocksVerif.Lemmas.BridgeNttBuf

namespace GoldilocksVerif.BridgeNtt
open GoldilocksVerif Gen.NttGen

/-- the column count of `aux` and `dst_`: the widest column block -/
def allocCols (nblock NC : Nat) : Nat :=
  NC / Model.Ntt.clampBlock nblock NC + if NC % Model.Ntt.clampBlock nblock NC > 0 then 1 else 0

theorem allocCols_one {nblock NC : Nat} (h : Model.Ntt.clampBlock nblock NC = 1) : allocCols nblock NC = NC := by
  unfold allocCols
  rw [h, Nat.div_one, Nat.mod_one]; rfl

theorem allocCols_le (nblock NC : Nat) (hNC1 : 1 ≤ NC) : allocCols nblock NC ≤ NC := by
  obtain ⟨h1, h2⟩ := Model.Ntt.clampBlock_range nblock NC hNC1
  unfold allocCols
  generalize Model.Ntt.clampBlock nblock NC = nb at h1 h2
  by_cases h : NC % nb > 0
  · rw [if_pos h]
    have h3 := Nat.div_add_mod NC nb
    have h4 : NC / nb ≤ nb * (NC / nb) := Nat.le_mul_of_pos_left _ (by omega)
    omega
  · rw [if_neg h]; exact Nat.div_le_self _ _


theorem bind_some_map {α β γ : Type} (x : Option α) (f : α → β) (g : β → γ) :
    (x.bind fun a => some (g (f a))) = (x.bind fun a => some (f a)).map g := by cases x <;> rfl

/-- `buffer == NULL`: the function allocates the scratch block, works as with a caller buffer, frees it -/
theorem NTT_null_push (fuel : Nat) (hp : Heap) (hpos : 0 < hp.size) (self : NTT_Goldilocks) (dst src : Ptr) (K NC : Nat)
    (nphase nblock : BitVec 64) (inverse extend : Bool) (hNC1 : 1 ≤ NC) (hNNC8 : 2 ^ K * NC * 8 < 2 ^ 64) :
    NTT_NTT fuel hp self dst src (bv (2 ^ K)) (bv NC) Ptr.null nphase nblock inverse extend =
      (NTT_NTT fuel (hp.push (Array.replicate (2 ^ K * allocCols nblock.toNat NC) 0#64)) self dst src (bv (2 ^ K)) (bv NC)
        ⟨hp.size, 0⟩ nphase nblock inverse extend).map fun X => X.free ⟨hp.size, 0⟩ := by
  have hNpos : 0 < 2 ^ K := Nat.two_pow_pos K
  have hNCle : NC ≤ 2 ^ K * NC := Nat.le_mul_of_pos_left NC hNpos
  have hN64 : 2 ^ K < 2 ^ 64 := by
    have : 2 ^ K ≤ 2 ^ K * NC := Nat.le_mul_of_pos_right _ hNC1
    omega
  obtain ⟨_, hclamp, _, _, hdiv, hmod, hresd, hallocg, hcnt⟩ := block_sched nblock K NC _ _ _ (allocCols nblock.toNat NC) hNC1 hNNC8
    rfl rfl rfl rfl
  have hnull : ((Ptr.null : Ptr) == Ptr.null) = true := by decide
  unfold NTT_NTT
  rw [bv_beq_zero NC hNC1 (by omega), bv_beq_zero (2 ^ K) hNpos hN64]
  simp only [Bool.or_false, Bool.false_eq_true, if_false, hclamp, hdiv, hmod, hresd, hallocg, hnull, if_true,
    ptr_beq_null hp.size (by omega), add_toU64_ite, toU64_int_zero, BitVec.add_zero, hcnt, Heap.alloc_fst, Heap.alloc_snd]
  exact bind_some_map _ _ fun X : Heap => X.free ⟨hp.size, 0⟩

theorem NTT_gen_buf_one (fuel : Nat) (hp : Heap) (self : NTT_Goldilocks) (o : Model.Ntt.Obj)
    (hrep : ObjRep hp self o) (D Sx B : Nat) (hD : D < hp.size) (hB : B < hp.size) (hD0 : D ≠ 0) (hB0 : B ≠ 0)
    (hDB : D ≠ B) (hSB : Sx ≠ B) (hfrD : ObjFrame self D) (hfrB : ObjFrame self B)
    (mode : Model.Ntt.DstMode) (hmode : mode = .other ↔ D ≠ Sx)
    (dst : Ptr) (hdst : (if (dst == Ptr.null) = true then (⟨Sx, 0⟩ : Ptr) else dst) = ⟨D, 0⟩)
    (K N NC : Nat) (nphase nblock : BitVec 64) (inverse extend : Bool)
    (hK : K ≤ 30) (hN : N = 2 ^ K) (hKs : K ≤ o.s) (hos : o.s ≤ 32) (hNC1 : 1 ≤ NC)
    (hNNC8 : N * NC * 8 < 2 ^ 64) (hext31 : o.extension < 2 ^ 31) (hcache : extend = true → o.rcache ≠ none)
    (hnb : Model.Ntt.clampBlock nblock.toNat NC = 1) (hf : itersFuel self K NC ≤ fuel)
    (hdsz : N * NC ≤ (hp.block D).size) (hbuf : N * NC ≤ (hp.block B).size) :
    match Model.Ntt.ntt o mode (hp.block D) (hp.block Sx) N NC nphase.toNat nblock.toNat inverse extend with
    | .ok (d, _) => ∃ X', NTT_NTT fuel hp self dst ⟨Sx, 0⟩ (bv N) (bv NC) ⟨B, 0⟩ nphase nblock inverse extend =
        some ((hp.setBlock D d).setBlock B X') ∧ X'.size = (hp.block B).size
    | .error _ => NTT_NTT fuel hp self dst ⟨Sx, 0⟩ (bv N) (bv NC) ⟨B, 0⟩ nphase nblock inverse extend = none := by
  obtain ⟨hN1, _, _, _⟩ := sizes_ok hK hN hNNC8
  have hdisz : N * NC ≤ (if decide (D = Sx) = true then hp.block Sx else hp.block D).size := by
    rw [sel_same hp.block D Sx]; exact hdsz
  -- the hand model: `nttIters` with a zero-filled scratch buffer = `nttIters` with the caller's buffer
  rw [ntt_one o mode _ _ _ (mode_same hmode) N NC _ _ inverse extend hN1 hNC1 hnb]
  subst hN
  rw [Model.Ntt.nttIters_aux_irrelevant o _ _ _ (hp.block B) _ K 0 NC NC _ inverse extend hdisz (by rw [Array.size_replicate])
    hbuf]
  exact NTT_gen_buf_iters fuel hp self o hrep D Sx B hD hB hD0 hB0 hDB hSB hfrD hfrB dst hdst K (2 ^ K) NC nphase nblock inverse
    extend hK rfl hKs hos hNC1 hNNC8 hext31 hcache hnb hf

/-- several column blocks; the scratch as large as the function uses it -/
theorem NTT_gen_buf_blocks {hp : Heap} {self : NTT_Goldilocks} {o : Model.Ntt.Obj} {D Sx K N NC : Nat} {extend : Bool}
    (h : NttPre hp self o D Sx K N NC extend) (fuel B : Nat) (hB : B < hp.size) (hB0 : B ≠ 0) (hDB : D ≠ B) (hSB : Sx ≠ B)
    (hfrB : ObjFrame self B) (mode : Model.Ntt.DstMode) (hmode : mode = .other ↔ D ≠ Sx)
    (dst : Ptr) (hdst : (if (dst == Ptr.null) = true then (⟨Sx, 0⟩ : Ptr) else dst) = ⟨D, 0⟩)
    (nphase nblock : BitVec 64) (inverse : Bool) (hnb : 2 ≤ Model.Ntt.clampBlock nblock.toNat NC)
    (hf : itersFuel self K NC ≤ fuel) (hbuf : N * allocCols nblock.toNat NC ≤ (hp.block B).size) :
    match Model.Ntt.ntt o mode (hp.block D) (hp.block Sx) N NC nphase.toNat nblock.toNat inverse extend with
    | .ok (d, _) => ∃ X', NTT_NTT fuel hp self dst ⟨Sx, 0⟩ (bv N) (bv NC) ⟨B, 0⟩ nphase nblock inverse extend =
        some ((hp.setBlock D d).setBlock B X') ∧ X'.size = (hp.block B).size
    | .error _ => NTT_NTT fuel hp self dst ⟨Sx, 0⟩ (bv N) (bv NC) ⟨B, 0⟩ nphase nblock inverse extend = none := by
  obtain ⟨hrep, hin, hD, hSx, hfrD, hK, hN, hKs, hos, hNC1, hNNC8, hext31, hcache⟩ := h
  subst hN
  obtain ⟨hN1, hN64, hNC64, _⟩ := sizes_ok hK rfl hNNC8
  unfold allocCols at hbuf
  generalize hnbe : Model.Ntt.clampBlock nblock.toNat NC = nb at hnb hbuf
  generalize hq : NC / nb = q at hbuf
  generalize hres : NC % nb = res at hbuf
  generalize halloc : (q + if res > 0 then 1 else 0) = alloc at hbuf
  obtain ⟨⟨_, hnbNC, hallocNC⟩, hclamp, hgt, hnbt, hdiv, hmod, hresd, hallocg, hcnt⟩ :=
    block_sched nblock K NC nb q res alloc hNC1 hNNC8 hnbe.symm hq.symm hres.symm halloc.symm
  have hgt1 : decide (bv nb > 1#64) = true := by rw [hgt, decide_eq_true_eq]; exact hnb
  rw [ntt_blocks o mode _ _ _ (mode_same hmode) (fun h => by rw [of_decide_eq_true h]) (2 ^ K) NC _ _ inverse extend nb q res
    alloc hN1 hNC1 hnbe.symm hnb hq.symm hres.symm halloc.symm]
  let Z : Block := Array.replicate (2 ^ K * alloc) 0#64
  have hZs : Z.size = 2 ^ K * alloc := Array.size_replicate
  generalize hH : hp.push Z = H
  have hHs : H.size = hp.size + 1 := by rw [← hH]; simp
  have hHb : ∀ c, c < hp.size → H.block c = hp.block c := by
    intro c hc; rw [← hH, Heap.block_push_lt _ _ _ hc]
  have hHT : H.block hp.size = Z := by rw [← hH, Heap.block_push_last _ _ _ rfl]
  have hrepH : ObjRep H self o := by rw [← hH]; exact hrep.push hin _
  have hloop := blocks_loop fuel H self o hrepH D Sx B hp.size (by omega) (by omega) (by omega) (by omega) hDB
    (by omega) (by omega) hSB (by omega) hfrD hfrB (ObjIn.frame_ge hin _ (by omega))
    K NC q res alloc nb nphase inverse extend hK hKs hos hNNC8 hext31 hcache hnb hnbNC hq.symm hres.symm halloc.symm hf
    (by rw [hHb B hB]; exact hbuf) (by rw [hHT, hZs]) nb (Nat.le_refl _)
  rw [hHb D hD, hHb Sx hSx, hHb B hB] at hloop
  have hbufn := ptr_beq_null B hB0
  unfold NTT_NTT
  rw [bv_beq_zero NC hNC1 hNC64, bv_beq_zero (2 ^ K) hN1 hN64]
  simp only [Bool.or_false, Bool.false_eq_true, if_false, hclamp, hgt1, hdiv, hmod, hresd, hallocg, hbufn, if_true, hdst, add_toU64_ite, toU64_int_zero, BitVec.add_zero, hcnt,
    Heap.alloc_fst, Heap.alloc_snd, hnbt]
  have hZ' : (Array.replicate (2 ^ K * alloc) (0#64 : BitVec 64)) = Z := rfl
  have hz0 : (0#64 : BitVec 64) = bv 0 := rfl
  rw [hZ', hH, hz0]
  rcases hloop with ⟨dstF, XA, XT, e1, e2, s1, s2⟩ | ⟨e, e1, e2⟩
  · rw [e1, e2]
    simp only [Option.bind_some]
    have hR : R3 H D B hp.size dstF XA XT = ((hp.setBlock D dstF).setBlock B XA).push XT := by
      unfold R3
      rw [← hH, Heap.setBlock_push_lt _ _ _ _ hD, Heap.setBlock_push_lt _ _ _ _ (by simp; exact hB),
        Heap.setBlock_push_last' _ _ _ _ (by simp)]
    rw [hR, Heap.free_push' _ _ _ (by simp) (by simp; omega)]
    exact ⟨XA, rfl, s1⟩
  · rw [e1, e2]
    rfl

/-- **`NTT` with the scratch in block `B`**, every `nblock`, every size 1 ≤ 2^K ≤ 2^30.  `hone`: with one column block `NTT_iters`
    writes the destination itself, and the model's zero scratch is compared with the content of `B` -/
theorem NTT_core {hp : Heap} {self : NTT_Goldilocks} {o : Model.Ntt.Obj} {D Sx K N NC : Nat} {extend : Bool}
    (h : NttPre hp self o D Sx K N NC extend) (fuel B : Nat) (hB : B < hp.size) (hB0 : B ≠ 0) (hDB : D ≠ B) (hSB : Sx ≠ B) (hfrB : ObjFrame self B) (mode : Model.Ntt.DstMode) (hmode : mode = .other ↔ D ≠ Sx)
    (dst : Ptr) (hdst : (if (dst == Ptr.null) = true then (⟨Sx, 0⟩ : Ptr) else dst) = ⟨D, 0⟩)
    (nphase nblock : BitVec 64) (inverse : Bool) (hf : itersFuel self K NC ≤ fuel)
    (hbuf : N * allocCols nblock.toNat NC ≤ (hp.block B).size)
    (hone : Model.Ntt.clampBlock nblock.toNat NC = 1 →
      D ≠ 0 ∧ (hp.block B = Array.replicate (N * NC) 0#64 ∨ N * NC ≤ (hp.block D).size)) :
    match Model.Ntt.ntt o mode (hp.block D) (hp.block Sx) N NC nphase.toNat nblock.toNat inverse extend with
    | .ok (d, _) => ∃ X', NTT_NTT fuel hp self dst ⟨Sx, 0⟩ (bv N) (bv NC) ⟨B, 0⟩ nphase nblock inverse extend =
        some ((hp.setBlock D d).setBlock B X') ∧ X'.size = (hp.block B).size
    | .error _ => NTT_NTT fuel hp self dst ⟨Sx, 0⟩ (bv N) (bv NC) ⟨B, 0⟩ nphase nblock inverse extend = none := by
  by_cases hnb : Model.Ntt.clampBlock nblock.toNat NC = 1
  · obtain ⟨hrep, _, hD, _, hfrD, hK, hN, hKs, hos, hNC1, hNNC8, hext31, hcache⟩ := h
    rw [allocCols_one hnb] at hbuf
    obtain ⟨hD0, hz | hdsz⟩ := hone hnb
    · rw [ntt_one o mode _ _ _ (mode_same hmode) N NC _ _ inverse extend (sizes_ok hK hN hNNC8).1 hNC1 hnb, ← hz]
      exact NTT_gen_buf_iters fuel hp self o hrep D Sx B hD hB hD0 hB0 hDB hSB hfrD hfrB dst hdst K N NC nphase nblock inverse
        extend hK hN hKs hos hNC1 hNNC8 hext31 hcache hnb hf
    · exact NTT_gen_buf_one fuel hp self o hrep D Sx B hD hB hD0 hB0 hDB hSB hfrD hfrB mode hmode dst hdst K N NC nphase nblock
        inverse extend hK hN hKs hos hNC1 hNNC8 hext31 hcache hnb hf hdsz hbuf
  · have := (Model.Ntt.clampBlock_range nblock.toNat NC h.hNC1).1
    exact NTT_gen_buf_blocks h fuel B hB hB0 hDB hSB hfrB mode hmode dst hdst nphase nblock inverse (by omega) hf hbuf

/-- **NTT with a caller buffer = the hand model's `ntt`, every `nblock`, every size 1 ≤ 2^K ≤ 2^30** -/
theorem NTT_gen_buf_all (fuel : Nat) (hp : Heap) (self : NTT_Goldilocks) (o : Model.Ntt.Obj)
    (hrep : ObjRep hp self o) (hin : ObjIn hp self) (D Sx B : Nat) (hD : D < hp.size) (hSx : Sx < hp.size) (hB : B < hp.size)
    (hD0 : D ≠ 0) (hB0 : B ≠ 0) (hDB : D ≠ B) (hSB : Sx ≠ B) (hfrD : ObjFrame self D) (hfrB : ObjFrame self B)
    (mode : Model.Ntt.DstMode) (hmode : mode = .other ↔ D ≠ Sx)
    (dst : Ptr) (hdst : (if (dst == Ptr.null) = true then (⟨Sx, 0⟩ : Ptr) else dst) = ⟨D, 0⟩)
    (K N NC : Nat) (nphase nblock : BitVec 64) (inverse extend : Bool)
    (hK : K ≤ 30) (hN : N = 2 ^ K) (hKs : K ≤ o.s) (hos : o.s ≤ 32) (hNC1 : 1 ≤ NC)
    (hNNC8 : N * NC * 8 < 2 ^ 64) (hext31 : o.extension < 2 ^ 31) (hcache : extend = true → o.rcache ≠ none)
    (hf : itersFuel self K NC ≤ fuel) (hdsz : N * NC ≤ (hp.block D).size) (hbuf : N * NC ≤ (hp.block B).size) :
    match Model.Ntt.ntt o mode (hp.block D) (hp.block Sx) N NC nphase.toNat nblock.toNat inverse extend with
    | .ok (d, _) => ∃ X', NTT_NTT fuel hp self dst ⟨Sx, 0⟩ (bv N) (bv NC) ⟨B, 0⟩ nphase nblock inverse extend =
        some ((hp.setBlock D d).setBlock B X') ∧ X'.size = (hp.block B).size
    | .error _ => NTT_NTT fuel hp self dst ⟨Sx, 0⟩ (bv N) (bv NC) ⟨B, 0⟩ nphase nblock inverse extend = none :=
  NTT_core ⟨hrep, hin, hD, hSx, hfrD, hK, hN, hKs, hos, hNC1, hNNC8, hext31, hcache⟩ fuel B hB hB0 hDB hSB hfrB mode hmode dst hdst
    nphase nblock inverse hf (Nat.le_trans (Nat.mul_le_mul_left _ (allocCols_le _ _ hNC1)) hbuf) fun _ => ⟨hD0, Or.inr hdsz⟩

/-- **INTT with a caller buffer = the hand model's `intt`**, same scope -/
theorem INTT_gen_buf_all (fuel : Nat) (hp : Heap) (self : NTT_Goldilocks) (o : Model.Ntt.Obj)
    (hrep : ObjRep hp self o) (hin : ObjIn hp self) (D Sx B : Nat) (hD : D < hp.size) (hSx : Sx < hp.size) (hB : B < hp.size)
    (hD0 : D ≠ 0) (hB0 : B ≠ 0) (hDB : D ≠ B) (hSB : Sx ≠ B) (hfrD : ObjFrame self D) (hfrB : ObjFrame self B)
    (mode : Model.Ntt.DstMode) (hmode : mode = .other ↔ D ≠ Sx)
    (dst : Ptr) (hdst : (if (dst == Ptr.null) = true then (⟨Sx, 0⟩ : Ptr) else dst) = ⟨D, 0⟩)
    (K N NC : Nat) (nphase nblock : BitVec 64) (extend : Bool)
    (hK : K ≤ 30) (hN : N = 2 ^ K) (hKs : K ≤ o.s) (hos : o.s ≤ 32) (hNC1 : 1 ≤ NC)
    (hNNC8 : N * NC * 8 < 2 ^ 64) (hext31 : o.extension < 2 ^ 31) (hcache : extend = true → o.rcache ≠ none)
    (hf : itersFuel self K NC ≤ fuel) (hdsz : N * NC ≤ (hp.block D).size) (hbuf : N * NC ≤ (hp.block B).size) :
    match Model.Ntt.intt o mode (hp.block D) (hp.block Sx) N NC nphase.toNat nblock.toNat extend with
    | .ok (d, _) => ∃ X', NTT_INTT fuel hp self dst ⟨Sx, 0⟩ (bv N) (bv NC) ⟨B, 0⟩ nphase nblock extend =
        some ((hp.setBlock D d).setBlock B X') ∧ X'.size = (hp.block B).size
    | .error _ => NTT_INTT fuel hp self dst ⟨Sx, 0⟩ (bv N) (bv NC) ⟨B, 0⟩ nphase nblock extend = none := by
  obtain ⟨hN1, hN64, hNC64, hNCle⟩ := sizes_ok hK hN hNNC8
  rw [Model.Ntt.intt_eq_ntt, INTT_eq_NTT fuel hp self dst ⟨Sx, 0⟩ ⟨D, 0⟩ hdst N NC hN1 hN64 hNC1 hNC64]
  exact NTT_gen_buf_all fuel hp self o hrep hin D Sx B hD hSx hB hD0 hB0 hDB hSB hfrD hfrB _ (mode_intt hmode) ⟨D, 0⟩
    (sel_self D hD0 _) K N NC nphase nblock true extend hK hN hKs hos hNC1 hNNC8 hext31 hcache hf hdsz hbuf

/-- **`NTT` without caller buffer**: `NTT_core` on `hp` with the zero scratch block pushed; the heap ends with the destination block
    changed and nothing else -/
theorem NTT_null {hp : Heap} {self : NTT_Goldilocks} {o : Model.Ntt.Obj} {D Sx K N NC : Nat} {extend : Bool}
    (h : NttPre hp self o D Sx K N NC extend) (fuel : Nat) (mode : Model.Ntt.DstMode) (hmode : mode = .other ↔ D ≠ Sx)
    (dst : Ptr) (hdst : (if (dst == Ptr.null) = true then (⟨Sx, 0⟩ : Ptr) else dst) = ⟨D, 0⟩)
    (nphase nblock : BitVec 64) (inverse : Bool) (hf : itersFuel self K NC ≤ fuel)
    (hD0 : Model.Ntt.clampBlock nblock.toNat NC = 1 → D ≠ 0) :
    match Model.Ntt.ntt o mode (hp.block D) (hp.block Sx) N NC nphase.toNat nblock.toNat inverse extend with
    | .ok (d, _) => NTT_NTT fuel hp self dst ⟨Sx, 0⟩ (bv N) (bv NC) Ptr.null nphase nblock inverse extend =
        some (hp.setBlock D d)
    | .error _ => NTT_NTT fuel hp self dst ⟨Sx, 0⟩ (bv N) (bv NC) Ptr.null nphase nblock inverse extend = none := by
  have hD := h.hD
  have hSx := h.hSx
  obtain rfl := h.hN
  rw [NTT_null_push fuel hp (by omega) self dst ⟨Sx, 0⟩ K NC nphase nblock inverse extend h.hNC1 h.hNNC8]
  generalize hZ : Array.replicate (2 ^ K * allocCols nblock.toNat NC) (0#64 : BitVec 64) = Z
  have hZs : Z.size = 2 ^ K * allocCols nblock.toNat NC := by rw [← hZ]; exact Array.size_replicate
  have hc := NTT_core (h.push Z) fuel hp.size (by simp) (by omega) (by omega) (by omega) h.oin.frame_last mode hmode dst hdst nphase
    nblock inverse hf (by rw [Heap.block_push_last _ _ _ rfl, hZs])
    fun hnb => ⟨hD0 hnb, Or.inl (by rw [Heap.block_push_last _ _ _ rfl, ← hZ, allocCols_one hnb])⟩
  rw [Heap.block_push_lt _ _ _ hD, Heap.block_push_lt _ _ _ hSx] at hc
  cases hr : Model.Ntt.ntt o mode (hp.block D) (hp.block Sx) (2 ^ K) NC nphase.toNat nblock.toNat inverse extend with
  | error e => rw [hr] at hc; rw [show NTT_NTT _ _ _ _ _ _ _ _ _ _ _ _ = none from hc]; rfl
  | ok v =>
    obtain ⟨d, s⟩ := v
    rw [hr] at hc
    obtain ⟨X', h1, _⟩ := hc
    rw [h1, Option.map_some, Heap.setBlock_push_lt _ _ _ _ hD, Heap.setBlock_push_last' _ _ _ _ (by simp),
      Heap.free_push' _ _ _ (by simp) (by simp; omega)]

/-- **NTT = the hand model's `ntt`, every `nblock`, every size 1 ≤ 2^K ≤ 2^30, ncols ≥ 1, no caller scratch buffer**: the
    generated function returns iff the hand model does; the heap ends with the destination block holding the hand model's result
    and NOTHING else changed (scratch and temporary destination allocated and freed) -/
theorem NTT_gen_all (fuel : Nat) (hp : Heap) (self : NTT_Goldilocks) (o : Model.Ntt.Obj)
    (hrep : ObjRep hp self o) (hin : ObjIn hp self) (D Sx : Nat) (hD : D < hp.size) (hSx : Sx < hp.size) (hD0 : D ≠ 0)
    (hfrD : ObjFrame self D) (mode : Model.Ntt.DstMode) (hmode : mode = .other ↔ D ≠ Sx)
    (dst : Ptr) (hdst : (if (dst == Ptr.null) = true then (⟨Sx, 0⟩ : Ptr) else dst) = ⟨D, 0⟩)
    (K N NC : Nat) (nphase nblock : BitVec 64) (inverse extend : Bool)
    (hK : K ≤ 30) (hN : N = 2 ^ K) (hKs : K ≤ o.s) (hos : o.s ≤ 32) (hNC1 : 1 ≤ NC)
    (hNNC8 : N * NC * 8 < 2 ^ 64) (hext31 : o.extension < 2 ^ 31) (hcache : extend = true → o.rcache ≠ none)
    (hf : itersFuel self K NC ≤ fuel) :
    match Model.Ntt.ntt o mode (hp.block D) (hp.block Sx) N NC nphase.toNat nblock.toNat inverse extend with
    | .ok (d, _) => NTT_NTT fuel hp self dst ⟨Sx, 0⟩ (bv N) (bv NC) Ptr.null nphase nblock inverse extend =
        some (hp.setBlock D d)
    | .error _ => NTT_NTT fuel hp self dst ⟨Sx, 0⟩ (bv N) (bv NC) Ptr.null nphase nblock inverse extend = none :=
  NTT_null ⟨hrep, hin, hD, hSx, hfrD, hK, hN, hKs, hos, hNC1, hNNC8, hext31, hcache⟩ fuel mode hmode dst hdst nphase nblock inverse
    hf fun _ => hD0

/-- several column blocks (the destination may then be any block) -/
theorem NTT_gen_blocks (fuel : Nat) (hp : Heap) (self : NTT_Goldilocks) (o : Model.Ntt.Obj)
    (hrep : ObjRep hp self o) (hin : ObjIn hp self) (D Sx : Nat) (hD : D < hp.size) (hSx : Sx < hp.size)
    (hfrD : ObjFrame self D) (mode : Model.Ntt.DstMode) (hmode : mode = .other ↔ D ≠ Sx)
    (dst : Ptr) (hdst : (if (dst == Ptr.null) = true then (⟨Sx, 0⟩ : Ptr) else dst) = ⟨D, 0⟩)
    (K N NC : Nat) (nphase nblock : BitVec 64) (inverse extend : Bool)
    (hK : K ≤ 30) (hN : N = 2 ^ K) (hKs : K ≤ o.s) (hos : o.s ≤ 32) (hNC1 : 1 ≤ NC)
    (hNNC8 : N * NC * 8 < 2 ^ 64) (hext31 : o.extension < 2 ^ 31) (hcache : extend = true → o.rcache ≠ none)
    (hnb : 2 ≤ Model.Ntt.clampBlock nblock.toNat NC) (hf : itersFuel self K NC ≤ fuel) :
    match Model.Ntt.ntt o mode (hp.block D) (hp.block Sx) N NC nphase.toNat nblock.toNat inverse extend with
    | .ok (d, _) => NTT_NTT fuel hp self dst ⟨Sx, 0⟩ (bv N) (bv NC) Ptr.null nphase nblock inverse extend =
        some (hp.setBlock D d)
    | .error _ => NTT_NTT fuel hp self dst ⟨Sx, 0⟩ (bv N) (bv NC) Ptr.null nphase nblock inverse extend = none :=
  NTT_null ⟨hrep, hin, hD, hSx, hfrD, hK, hN, hKs, hos, hNC1, hNNC8, hext31, hcache⟩ fuel mode hmode dst hdst nphase nblock inverse
    hf fun h => by omega

/-- **INTT = the hand model's `intt`**, same scope -/
theorem INTT_gen_all (fuel : Nat) (hp : Heap) (self : NTT_Goldilocks) (o : Model.Ntt.Obj)
    (hrep : ObjRep hp self o) (hin : ObjIn hp self) (D Sx : Nat) (hD : D < hp.size) (hSx : Sx < hp.size) (hD0 : D ≠ 0)
    (hfrD : ObjFrame self D) (mode : Model.Ntt.DstMode) (hmode : mode = .other ↔ D ≠ Sx)
    (dst : Ptr) (hdst : (if (dst == Ptr.null) = true then (⟨Sx, 0⟩ : Ptr) else dst) = ⟨D, 0⟩)
    (K N NC : Nat) (nphase nblock : BitVec 64) (extend : Bool)
    (hK : K ≤ 30) (hN : N = 2 ^ K) (hKs : K ≤ o.s) (hos : o.s ≤ 32) (hNC1 : 1 ≤ NC)
    (hNNC8 : N * NC * 8 < 2 ^ 64) (hext31 : o.extension < 2 ^ 31) (hcache : extend = true → o.rcache ≠ none)
    (hf : itersFuel self K NC ≤ fuel) :
    match Model.Ntt.intt o mode (hp.block D) (hp.block Sx) N NC nphase.toNat nblock.toNat extend with
    | .ok (d, _) => NTT_INTT fuel hp self dst ⟨Sx, 0⟩ (bv N) (bv NC) Ptr.null nphase nblock extend = some (hp.setBlock D d)
    | .error _ => NTT_INTT fuel hp self dst ⟨Sx, 0⟩ (bv N) (bv NC) Ptr.null nphase nblock extend = none := by
  obtain ⟨hN1, hN64, hNC64, hNCle⟩ := sizes_ok hK hN hNNC8
  rw [Model.Ntt.intt_eq_ntt, INTT_eq_NTT fuel hp self dst ⟨Sx, 0⟩ ⟨D, 0⟩ hdst N NC hN1 hN64 hNC1 hNC64]
  exact NTT_gen_all fuel hp self o hrep hin D Sx hD hSx hD0 hfrD _ (mode_intt hmode) ⟨D, 0⟩ (sel_self D hD0 _) K N NC nphase nblock
    true extend hK hN hKs hos hNC1 hNNC8 hext31 hcache hf

/-- **NTT** (forward or inverse, as `NTT` is called by `INTT` and `extendPol`), default call shape (`nblock` clamps to 1), 2 ≤ size -/
theorem NTT_gen (fuel : Nat) (hf : 64 ≤ fuel) (hp : Heap) (self : NTT_Goldilocks) (o : Model.Ntt.Obj)
    (hrep : ObjRep hp self o) (hin : ObjIn hp self) (D Sx : Nat) (hD : D < hp.size) (hSx : Sx < hp.size) (hD0 : D ≠ 0)
    (hfrD : ObjFrame self D) (mode : Model.Ntt.DstMode) (hmode : mode = .other ↔ D ≠ Sx)
    (dst : Ptr) (hdst : (if (dst == Ptr.null) = true then (⟨Sx, 0⟩ : Ptr) else dst) = ⟨D, 0⟩)
    (K N NC : Nat) (nphase nblock : BitVec 64) (inverse extend : Bool)
    (hK1 : 1 ≤ K) (hK : K ≤ 30) (hN : N = 2 ^ K) (hKs : K ≤ o.s) (hos : o.s ≤ 32) (hNC1 : 1 ≤ NC)
    (hNNC8 : N * NC * 8 < 2 ^ 64) (hext31 : o.extension < 2 ^ 31) (hcache : extend = true → o.rcache ≠ none)
    (hnb : Model.Ntt.clampBlock nblock.toNat NC = 1) :
    match Model.Ntt.ntt o mode (hp.block D) (hp.block Sx) N NC nphase.toNat nblock.toNat inverse extend with
    | .ok (d, _) => NTT_NTT fuel hp self dst ⟨Sx, 0⟩ (bv N) (bv NC) Ptr.null nphase nblock inverse extend =
        some (hp.setBlock D d)
    | .error _ => NTT_NTT fuel hp self dst ⟨Sx, 0⟩ (bv N) (bv NC) Ptr.null nphase nblock inverse extend = none :=
  NTT_gen_all fuel hp self o hrep hin D Sx hD hSx hD0 hfrD mode hmode dst hdst K N NC nphase nblock inverse extend hK hN hKs hos
    hNC1 hNNC8 hext31 hcache (itersFuel_le self K NC fuel hf (by omega))

/-- **INTT**, default call shape -/
theorem INTT_gen (fuel : Nat) (hf : 64 ≤ fuel) (hp : Heap) (self : NTT_Goldilocks) (o : Model.Ntt.Obj)
    (hrep : ObjRep hp self o) (hin : ObjIn hp self) (D Sx : Nat) (hD : D < hp.size) (hSx : Sx < hp.size) (hD0 : D ≠ 0)
    (hfrD : ObjFrame self D) (mode : Model.Ntt.DstMode) (hmode : mode = .other ↔ D ≠ Sx)
    (dst : Ptr) (hdst : (if (dst == Ptr.null) = true then (⟨Sx, 0⟩ : Ptr) else dst) = ⟨D, 0⟩)
    (K N NC : Nat) (nphase nblock : BitVec 64) (extend : Bool)
    (hK1 : 1 ≤ K) (hK : K ≤ 30) (hN : N = 2 ^ K) (hKs : K ≤ o.s) (hos : o.s ≤ 32) (hNC1 : 1 ≤ NC)
    (hNNC8 : N * NC * 8 < 2 ^ 64) (hext31 : o.extension < 2 ^ 31) (hcache : extend = true → o.rcache ≠ none)
    (hnb : Model.Ntt.clampBlock nblock.toNat NC = 1) :
    match Model.Ntt.intt o mode (hp.block D) (hp.block Sx) N NC nphase.toNat nblock.toNat extend with
    | .ok (d, _) => NTT_INTT fuel hp self dst ⟨Sx, 0⟩ (bv N) (bv NC) Ptr.null nphase nblock extend = some (hp.setBlock D d)
    | .error _ => NTT_INTT fuel hp self dst ⟨Sx, 0⟩ (bv N) (bv NC) Ptr.null nphase nblock extend = none := by
  obtain ⟨hN1, hN64, hNC64, _⟩ := sizes_ok hK hN hNNC8
  rw [Model.Ntt.intt_eq_ntt, INTT_eq_NTT fuel hp self dst ⟨Sx, 0⟩ ⟨D, 0⟩ hdst N NC hN1 hN64 hNC1 hNC64]
  exact NTT_gen fuel hf hp self o hrep hin D Sx hD hSx hD0 hfrD _ (mode_intt hmode) ⟨D, 0⟩ (sel_self D hD0 _) K N NC nphase nblock
    true extend hK1 hK hN hKs hos hNC1 hNNC8 hext31 hcache hnb

/-- an optional block number as the pointer the C++ caller passes: `none` = `NULL`, `some b` = the start of block `b` -/
def optPtr : Option Nat → Ptr
  | none => Ptr.null
  | some b => ⟨b, 0⟩

structure HeapUpd (hp hp' : Heap) (D : Nat) (buf : Option Nat) (d : Block) : Prop where
  size : hp'.size = hp.size
  dst : hp'.block D = d
  other : ∀ c, c ≠ D → buf ≠ some c → hp'.block c = hp.block c
  bufsz : ∀ B, buf = some B → (hp'.block B).size = (hp.block B).size

/-- what the C++ caller owes for a scratch buffer: `n` words that overlap neither destination, source nor the object's tables -/
def ScratchOk (hp : Heap) (self : NTT_Goldilocks) (buf : Option Nat) (D Sx n : Nat) : Prop :=
  ∀ B, buf = some B → B < hp.size ∧ B ≠ 0 ∧ D ≠ B ∧ Sx ≠ B ∧ ObjFrame self B ∧ n ≤ (hp.block B).size

theorem ScratchOk.some {hp : Heap} {self : NTT_Goldilocks} {B D Sx n : Nat} (hB : B < hp.size) (hB0 : B ≠ 0) (hDB : D ≠ B)
    (hSB : Sx ≠ B) (hfr : ObjFrame self B) (hn : n ≤ (hp.block B).size) : ScratchOk hp self (some B) D Sx n :=
  fun _ h => Option.some.inj h ▸ ⟨hB, hB0, hDB, hSB, hfr, hn⟩

theorem HeapUpd.other_some {hp hp' : Heap} {D B : Nat} {d : Block} (h : HeapUpd hp hp' D (some B) d) (c : Nat) (hcD : c ≠ D)
    (hcB : c ≠ B) : hp'.block c = hp.block c :=
  h.other c hcD (fun e => hcB (Option.some.inj e).symm)

theorem NTT_gen_opt (fuel : Nat) (hp : Heap) (self : NTT_Goldilocks) (o : Model.Ntt.Obj)
    (hrep : ObjRep hp self o) (hin : ObjIn hp self) (D Sx : Nat) (buf : Option Nat) (hD : D < hp.size) (hSx : Sx < hp.size)
    (hD0 : D ≠ 0) (hfrD : ObjFrame self D) (mode : Model.Ntt.DstMode) (hmode : mode = .other ↔ D ≠ Sx)
    (dst : Ptr) (hdst : (if (dst == Ptr.null) = true then (⟨Sx, 0⟩ : Ptr) else dst) = ⟨D, 0⟩)
    (K N NC : Nat) (nphase nblock : BitVec 64) (inverse extend : Bool)
    (hK : K ≤ 30) (hN : N = 2 ^ K) (hKs : K ≤ o.s) (hos : o.s ≤ 32) (hNC1 : 1 ≤ NC)
    (hNNC8 : N * NC * 8 < 2 ^ 64) (hext31 : o.extension < 2 ^ 31) (hcache : extend = true → o.rcache ≠ none)
    (hf : itersFuel self K NC ≤ fuel) (hdsz : N * NC ≤ (hp.block D).size) (hbuf : ScratchOk hp self buf D Sx (N * NC)) :
    match Model.Ntt.ntt o mode (hp.block D) (hp.block Sx) N NC nphase.toNat nblock.toNat inverse extend with
    | .ok (d, _) => ∃ hp', NTT_NTT fuel hp self dst ⟨Sx, 0⟩ (bv N) (bv NC) (optPtr buf) nphase nblock inverse extend = some hp' ∧
        HeapUpd hp hp' D buf d
    | .error _ => NTT_NTT fuel hp self dst ⟨Sx, 0⟩ (bv N) (bv NC) (optPtr buf) nphase nblock inverse extend = none := by
  cases buf with
  | none =>
    have h := NTT_gen_all fuel hp self o hrep hin D Sx hD hSx hD0 hfrD mode hmode dst hdst K N NC nphase nblock inverse extend
      hK hN hKs hos hNC1 hNNC8 hext31 hcache hf
    cases hr : Model.Ntt.ntt o mode (hp.block D) (hp.block Sx) N NC nphase.toNat nblock.toNat inverse extend with
    | error e => rw [hr] at h; exact h
    | ok v =>
      obtain ⟨d, s⟩ := v
      rw [hr] at h
      exact ⟨_, h, by simp, Heap.block_setBlock_same _ _ _ hD, fun c hc _ => Heap.block_setBlock_other _ _ _ _ hc,
        fun B hB => by cases hB⟩
  | some B =>
    obtain ⟨hB, hB0, hDB, hSB, hfrB, hbsz⟩ := hbuf B rfl
    have h := NTT_gen_buf_all fuel hp self o hrep hin D Sx B hD hSx hB hD0 hB0 hDB hSB hfrD hfrB mode hmode dst hdst K N NC nphase
      nblock inverse extend hK hN hKs hos hNC1 hNNC8 hext31 hcache hf hdsz hbsz
    cases hr : Model.Ntt.ntt o mode (hp.block D) (hp.block Sx) N NC nphase.toNat nblock.toNat inverse extend with
    | error e => rw [hr] at h; exact h
    | ok v =>
      obtain ⟨d, s⟩ := v
      rw [hr] at h
      obtain ⟨X', h1, h2⟩ := h
      refine ⟨_, h1, by simp, ?_, ?_, ?_⟩
      · rw [Heap.block_setBlock_other _ _ _ _ hDB, Heap.block_setBlock_same _ _ _ hD]
      · intro c hc hcB
        have : c ≠ B := fun e => hcB (by rw [e])
        rw [Heap.block_setBlock_other _ _ _ _ this, Heap.block_setBlock_other _ _ _ _ hc]
      · intro B' hB'
        rw [← Option.some.inj hB', Heap.block_setBlock_same _ _ _ (by simp; exact hB), h2]

theorem INTT_gen_opt (fuel : Nat) (hp : Heap) (self : NTT_Goldilocks) (o : Model.Ntt.Obj)
    (hrep : ObjRep hp self o) (hin : ObjIn hp self) (D Sx : Nat) (buf : Option Nat) (hD : D < hp.size) (hSx : Sx < hp.size)
    (hD0 : D ≠ 0) (hfrD : ObjFrame self D) (mode : Model.Ntt.DstMode) (hmode : mode = .other ↔ D ≠ Sx)
    (dst : Ptr) (hdst : (if (dst == Ptr.null) = true then (⟨Sx, 0⟩ : Ptr) else dst) = ⟨D, 0⟩)
    (K N NC : Nat) (nphase nblock : BitVec 64) (extend : Bool)
    (hK : K ≤ 30) (hN : N = 2 ^ K) (hKs : K ≤ o.s) (hos : o.s ≤ 32) (hNC1 : 1 ≤ NC)
    (hNNC8 : N * NC * 8 < 2 ^ 64) (hext31 : o.extension < 2 ^ 31) (hcache : extend = true → o.rcache ≠ none)
    (hf : itersFuel self K NC ≤ fuel) (hdsz : N * NC ≤ (hp.block D).size) (hbuf : ScratchOk hp self buf D Sx (N * NC)) :
    match Model.Ntt.intt o mode (hp.block D) (hp.block Sx) N NC nphase.toNat nblock.toNat extend with
    | .ok (d, _) => ∃ hp', NTT_INTT fuel hp self dst ⟨Sx, 0⟩ (bv N) (bv NC) (optPtr buf) nphase nblock extend = some hp' ∧
        HeapUpd hp hp' D buf d
    | .error _ => NTT_INTT fuel hp self dst ⟨Sx, 0⟩ (bv N) (bv NC) (optPtr buf) nphase nblock extend = none := by
  obtain ⟨hN1, hN64, hNC64, hNCle⟩ := sizes_ok hK hN hNNC8
  rw [Model.Ntt.intt_eq_ntt, INTT_eq_NTT fuel hp self dst ⟨Sx, 0⟩ ⟨D, 0⟩ hdst N NC hN1 hN64 hNC1 hNC64]
  exact NTT_gen_opt fuel hp self o hrep hin D Sx buf hD hSx hD0 hfrD _ (mode_intt hmode) ⟨D, 0⟩ (sel_self D hD0 _) K N NC nphase
    nblock true extend hK hN hKs hos hNC1 hNNC8 hext31 hcache hf hdsz hbuf

end GoldilocksVerif.BridgeNtt
