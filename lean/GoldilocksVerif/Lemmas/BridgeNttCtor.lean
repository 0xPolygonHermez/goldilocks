/-
  Bridge theorem: the TRANSLATED constructor `NTT_Goldilocks::NTT_Goldilocks(maxDomainSize, nThreads, extension)`
  (Gen/NttGen.lean; the GMP calls by their results, Model/TrHeap.lean `Gmp`) builds, in two new heap blocks, exactly the
  tables `roots`, `powTwoInv` of the hand model's `mkObj` (Model/Ntt.lean) and sets `s` as the model does; the constructor
  throws iff the model returns `none`; the assert `roots[nRoots-1] * roots[1] == 1` holds.
-/
import GoldilocksVerif.Lemmas.BridgeNttComputeR
import GoldilocksVerif.Lemmas.BridgeNttItersG
import GoldilocksVerif.Lemmas.BridgeNttComm
import GoldilocksVerif.Lemmas.NttTop
import GoldilocksVerif.Model.Inv

namespace GoldilocksVerif.BridgeNtt
open GoldilocksVerif Gen.NttGen Gen.Scalar

/-- (p − 1) / 2 and p as GMP integers of the constructor -/
def Q2 : Nat := 9223372034707292160
def Pn : Nat := 18446744069414584321

theorem gmp_negone : (18446744069414584320#64 : BitVec 64).toNat = 18446744069414584320 := by decide
theorem gmp_q : 18446744069414584320 + 1 = Pn := by decide
theorem gmp_q2 : Gmp.fdiv_q_2exp 18446744069414584320 1 = Q2 := by decide +kernel
/-- the search of the quadratic non-residue: 2 … 6 are residues, 7 is not -/
theorem gmp_nqr : Loop.whileM (NTT_ctor_loop1 Q2 Pn) 6 (2, Gmp.powm 2 Q2 Pn) = some (7, Gmp.powm 7 Q2 Pn) := by
  decide +kernel
theorem gmp_half : Gen.Scalar.fromU64__rE (Gmp.get_ui (Gmp.invert 2 Pn)) = 9223372034707292161#64 := by decide +kernel
theorem q2_bits : ∀ j : Fin 31, Nat.testBit Q2 j.val = false := by decide +kernel

theorem q2_bit (j : Nat) (hj : j < 31) : Gmp.tstbit (Gmp.fdiv_q_2exp Q2 j) 0 = 0 := by
  unfold Gmp.tstbit Gmp.fdiv_q_2exp
  have : (Q2 / 2 ^ j).testBit 0 = Q2.testBit j := by
    rw [Nat.testBit_div_two_pow]; simp
  rw [this, q2_bits ⟨j, hj⟩]
  rfl

theorem q2_shift (j : Nat) : Gmp.fdiv_q_2exp (Gmp.fdiv_q_2exp Q2 j) 1 = Gmp.fdiv_q_2exp Q2 (j + 1) := by
  unfold Gmp.fdiv_q_2exp
  rw [Nat.div_div_eq_div_mul, ← Nat.pow_succ]

def mkS (D : Nat) : Nat := if D ≤ 1 then 1 else min D 32

theorem mkS_range (D : Nat) : 1 ≤ mkS D ∧ mkS D ≤ 32 ∧ (2 ≤ mkS D → mkS D ≤ D) := by
  unfold mkS
  split <;> omega

theorem q2_bit31 : Gmp.tstbit (Gmp.fdiv_q_2exp Q2 31) 0 = 1 := by decide +kernel

/-- the loop that counts `s` up to min(domainPow, 32) (at least 1): from `s = 1 + j` -/
theorem sloop (D : Nat) (hD : D < 64) (dp : BitVec 32) (hdp : dp.toNat = D) :
    ∀ (n j : Nat) (self : NTT_Goldilocks) (fuel : Nat), 1 + j + n = mkS D → n < fuel → self.s.toNat = 1 + j →
    Loop.whileM (NTT_ctor_loop2 dp) fuel (Gmp.fdiv_q_2exp Q2 j, self) =
      some (Gmp.fdiv_q_2exp Q2 (j + n), { self with s := BitVec.ofNat 32 (mkS D) }) := by
  obtain ⟨_, hS32, hSD⟩ := mkS_range D
  intro n
  induction n with
  | zero =>
    intro j self fuel h1 h2 hs
    obtain ⟨f, rfl⟩ : ∃ f, fuel = f + 1 := ⟨fuel - 1, by omega⟩
    have hstep : NTT_ctor_loop2 dp (Gmp.fdiv_q_2exp Q2 j, self) = some (false, (Gmp.fdiv_q_2exp Q2 j, self)) := by
      unfold NTT_ctor_loop2
      by_cases hDS : D ≤ mkS D
      · have hlt : decide (self.s < dp) = false := by
          rw [decide_eq_false_iff_not, BitVec.lt_def, hs, hdp]; omega
        simp only [hlt, Bool.and_false, Bool.false_eq_true, if_false]
      · -- domainPow > 32: the loop stops at the first set bit of (p − 1) / 2, s = 32
        have h32 : mkS D = 32 := by
          unfold mkS at hDS ⊢; by_cases h : D ≤ 1
          · rw [if_pos h] at hDS; omega
          · rw [if_neg h] at hDS ⊢; omega
        have hj : j = 31 := by omega
        subst hj
        simp only [q2_bit31]
        rfl
    rw [Loop.whileM_stop _ _ _ _ hstep]
    have : self = { self with s := BitVec.ofNat 32 (mkS D) } := by
      have e : self.s = BitVec.ofNat 32 (mkS D) := by
        apply BitVec.eq_of_toNat_eq
        rw [hs, BitVec.toNat_ofNat, Nat.mod_eq_of_lt (by omega)]; omega
      cases self; simp at e ⊢; exact e
    rw [← this]; rfl
  | succ n ih =>
    intro j self fuel h1 h2 hs
    obtain ⟨f, rfl⟩ : ∃ f, fuel = f + 1 := ⟨fuel - 1, by omega⟩
    have hj : j < 31 := by omega
    have hlt : decide (self.s < dp) = true := by
      rw [decide_eq_true_eq, BitVec.lt_def, hs, hdp]
      have := hSD (by omega); omega
    have hs1 : (self.s + 1#32).toNat = 1 + (j + 1) := by
      rw [BitVec.toNat_add, hs]
      have : (1#32 : BitVec 32).toNat = 1 := rfl
      rw [this]; exact Nat.mod_eq_of_lt (by omega)
    have hstep : NTT_ctor_loop2 dp (Gmp.fdiv_q_2exp Q2 j, self) =
        some (true, (Gmp.fdiv_q_2exp Q2 (j + 1), { self with s := self.s + 1#32 })) := by
      unfold NTT_ctor_loop2
      simp only [q2_bit j hj, hlt, q2_shift]
      rfl
    rw [Loop.whileM_next _ _ _ _ hstep, ih (j + 1) { self with s := self.s + 1#32 } f (by omega) (by omega) hs1]
    have : j + 1 + n = j + (n + 1) := by omega
    rw [this]

/-! ### the two power tables: `T[i] = T[i-1] * T[1]` in a pre-allocated block = the model's `push` loop -/

def tabStep (i : Nat) (A : Block) : Block := A.setIfInBounds i (mul__rEE (A.getD (i - 1) 0#64) (A.getD 1 0#64))
def tabHand (r1 : BitVec 64) (i : Nat) (a : Array (BitVec 64)) : Array (BitVec 64) := a.push (mul__rEE (a.getD (i + 1) 0#64) r1)

theorem tab_step (r1 : BitVec 64) (N i : Nat) (H : Array (BitVec 64)) (h2 : H.getD 1 0#64 = r1) (h1 : H.size = i + 2)
    (hN : i + 2 < N) :
    tabStep (i + 2) (pad H N) = pad (tabHand r1 i H) N ∧ (tabHand r1 i H).getD 1 0#64 = r1 ∧
    (tabHand r1 i H).size = i + 1 + 2 := by
  refine ⟨?_, ?_, by unfold tabHand; rw [Array.size_push, h1]⟩
  · unfold tabStep tabHand
    rw [pad_getD, pad_getD, h2]
    have : i + 2 - 1 = i + 1 := by omega
    rw [this, ← h1]
    exact pad_set _ _ _ (by omega)
  · unfold tabHand
    rw [Array.getD_eq_getD_getElem?, Array.getElem?_push, if_neg (by omega), ← Array.getD_eq_getD_getElem?]
    exact h2

theorem tab_full (t0 r1 : BitVec 64) (N : Nat) (hN : 2 ≤ N) :
    Loop.rangeAux 1 tabStep (N - 2) 2 (((Array.replicate N 0#64).setIfInBounds 0 t0).setIfInBounds 1 r1) =
      Loop.rangeAux 1 (tabHand r1) (N - 2) 0 #[t0, r1] := by
  have e0 : ((Array.replicate N 0#64).setIfInBounds 0 t0).setIfInBounds 1 r1 = pad #[t0, r1] N := by
    rw [← pad_empty]
    have h1 := pad_set #[] N t0 (by show 0 < N; omega)
    have h2 := pad_set #[t0] N r1 (by show 1 < N; omega)
    have e1 : (pad #[] N).setIfInBounds 0 t0 = pad #[t0] N := by simpa using h1
    have e2 : (pad #[t0] N).setIfInBounds 1 r1 = pad #[t0, r1] N := by simpa using h2
    rw [e1, e2]
  rw [e0]
  obtain ⟨a, _, b⟩ := fill_grow (fun H => pad H N) Array.size (fun H => H.getD 1 0#64 = r1) 2 N tabStep (tabHand r1)
    (tab_step r1 N) (N - 2) 0 #[t0, r1] rfl rfl (by omega)
  rw [a, pad_full _ _ (by rw [b]; omega)]

theorem tab_body (b : Nat) (ptr : Ptr) (hptr : ptr = ⟨b, 0⟩) (body : Nat → Heap → Option Heap)
    (hbody : ∀ i X, body i X = some (Heap.set X ptr i (mul__rEE (Heap.get X ptr (i - 1)) (Heap.get X ptr 1))))
    (i : Nat) (X : Heap) : body i X = some (X.setBlock b (tabStep i (X.block b))) := by
  rw [hbody, hptr]
  simp only [Heap.set_eq, Heap.get_def, Nat.zero_add]
  rfl

theorem tabStep_one (i : Nat) (hi : 2 ≤ i) (A : Block) : (tabStep i A).getD 1 0#64 = A.getD 1 0#64 := by
  unfold tabStep
  rw [Array.getD_eq_getD_getElem?, Array.getElem?_setIfInBounds_ne (by omega), ← Array.getD_eq_getD_getElem?]

/-- the `for (i = 2; i <= s; i++)` loop of `powTwoInv`, for an ARBITRARY step function: it makes one `tabStep` while
    `i ≤ s` (hypothesis `hnext`; the step may rely on entry 1 of the table, 2^-1, being what it was before the loop — the
    loop writes entries ≥ 2 only — so reading it once into a local is as good as reading it in every iteration) and
    stops at `i = s + 1` (`hstop`) -/
theorem ptiloop_g (b S : Nat) (hS32 : S ≤ 32) (h1 : BitVec 64)
    (step : Heap × BitVec 64 → Option (Bool × (Heap × BitVec 64)))
    (hnext : ∀ (i : Nat) (X : Heap), 2 ≤ i → i ≤ S → (X.block b).getD 1 0#64 = h1 →
      step (X, bv i) = some (true, (X.setBlock b (tabStep i (X.block b)), bv (i + 1))))
    (hstop : ∀ (X : Heap), step (X, bv (S + 1)) = some (false, (X, bv (S + 1)))) :
    ∀ (n i : Nat) (X : Heap) (fuel : Nat), i + n = S + 1 → 2 ≤ i → n < fuel → (X.block b).getD 1 0#64 = h1 →
    Loop.whileM step fuel (X, bv i) =
      some (X.setBlock b (Loop.rangeAux 1 tabStep n i (X.block b)), bv (S + 1)) := by
  intro n
  induction n with
  | zero =>
    intro i X fuel h1' h2 h3 _
    obtain ⟨f, rfl⟩ : ∃ f, fuel = f + 1 := ⟨fuel - 1, by omega⟩
    have : i = S + 1 := by omega
    subst this
    rw [Loop.whileM_stop _ _ _ _ (hstop X)]
    show some (X, bv (S + 1)) = some (X.setBlock b (X.block b), bv (S + 1))
    rw [Heap.setBlock_block]
  | succ n ih =>
    intro i X fuel h1' h2 h3 hinv
    obtain ⟨f, rfl⟩ : ∃ f, fuel = f + 1 := ⟨fuel - 1, by omega⟩
    by_cases hbX : b < X.size
    · rw [Loop.whileM_next _ _ _ _ (hnext i X h2 (by omega) hinv),
        ih (i + 1) _ f (by omega) (by omega) (by omega)
          (by rw [Heap.block_setBlock_same _ _ _ hbX, tabStep_one i h2]; exact hinv)]
      rw [Heap.block_setBlock_same _ _ _ hbX, Heap.setBlock_setBlock]
      rfl
    · -- the block does not exist: nothing is written
      have e : ∀ Y, X.setBlock b Y = X := Heap.setBlock_absent X b hbX
      rw [Loop.whileM_next _ _ _ _ (hnext i X h2 (by omega) hinv), e,
        ih (i + 1) X f (by omega) (by omega) (by omega) hinv, e, e]

/-! ### the hand model's constructor, unfolded -/

def mkRoots (D : Nat) : Array (BitVec 64) :=
  Loop.rangeAux 1 (tabHand (w__rE (BitVec.ofNat 64 D))) (2 ^ mkS D - 2) 0 #[one__r, w__rE (BitVec.ofNat 64 D)]
def mkPti (D : Nat) : Array (BitVec 64) :=
  Loop.rangeAux 1 (tabHand 9223372034707292161#64) (mkS D - 1) 0 #[one__r, 9223372034707292161#64]

theorem mkObj_unfold (m e : Nat) (o : Model.Ntt.Obj) (hm : m ≠ 0) (h : Model.Ntt.mkObj m e = some o) :
    ¬ (mkS (Model.Ntt.log2 m) < Model.Ntt.log2 m) ∧
    o = ⟨mkS (Model.Ntt.log2 m), mkRoots (Model.Ntt.log2 m), mkPti (Model.Ntt.log2 m), e, none⟩ := by
  unfold Model.Ntt.mkObj at h
  rw [if_neg hm] at h
  dsimp only at h
  generalize Model.Ntt.log2 m = D at h ⊢
  by_cases h1 : (if D ≤ 1 then 1 else min D 32) < D
  · rw [if_pos h1] at h; cases h
  · rw [if_neg h1] at h
    have ho := Option.some.inj h
    refine ⟨h1, ?_⟩
    rw [← ho]
    unfold mkS mkRoots mkPti Model.Ntt.iter Loop.range mkS
    simp only [Nat.sub_zero, Nat.add_sub_cancel, Nat.div_one]
    rfl

theorem mkObj_none_iff (m e : Nat) (hm : m ≠ 0) :
    Model.Ntt.mkObj m e = none ↔ mkS (Model.Ntt.log2 m) < Model.Ntt.log2 m := by
  unfold Model.Ntt.mkObj
  rw [if_neg hm]
  dsimp only
  unfold mkS
  by_cases h1 : (if Model.Ntt.log2 m ≤ 1 then 1 else min (Model.Ntt.log2 m) 32) < Model.Ntt.log2 m
  · rw [if_pos h1]; simp [h1]
  · rw [if_neg h1]; simp [h1]

/-- the constructor's `assert(Goldilocks::toU64(roots[nRoots - 1] * roots[1]) == 1)` holds for the model's table -/
theorem assert_ok (m e : Nat) (o : Model.Ntt.Obj) (hm : m ≠ 0) (h : Model.Ntt.mkObj m e = some o) :
    toU64__rE (mul__rEE (o.roots.getD (2 ^ o.s - 1) 0#64) (o.roots.getD 1 0#64)) = 1#64 := by
  open GoldilocksVerif.NttSpec in
  have key : den (mul__rEE (o.roots.getD (2 ^ o.s - 1) 0#64) (o.roots.getD 1 0#64)) = 1 := by
    obtain ⟨hns, ho⟩ := mkObj_unfold m e o hm h
    obtain ⟨hD32, _, _, h4, _⟩ := Model.Ntt.mkObj_spec m e o hm h
    generalize Model.Ntt.log2 m = D at *
    rw [den_mul_r]
    by_cases hD : 1 ≤ D
    · have hs : o.s = D := by
        rw [ho]; show mkS D = D
        obtain ⟨h1, _, h2⟩ := mkS_range D
        omega
      have hr : ∀ idx, idx < 2 ^ D → den (o.roots.getD idx 0#64) = omega D ^ idx := by
        intro idx hidx
        have := h4 D idx hD (Nat.le_refl _) hidx
        unfold Model.Ntt.root at this
        rw [hs, Nat.sub_self, Nat.pow_zero, Nat.mul_one] at this
        exact this
      have h2 : 2 ≤ 2 ^ D := by
        calc 2 = 2 ^ 1 := rfl
          _ ≤ 2 ^ D := Nat.pow_le_pow_right (by omega) hD
      rw [hs, hr _ (by omega), hr 1 (by omega), ← pow_add]
      have : 2 ^ D - 1 + 1 = 2 ^ D := by omega
      rw [this]
      exact (omega_prim D hD32).pow_n
    · have hD0 : D = 0 := by omega
      subst hD0
      rw [ho]
      show den ((mkRoots 0).getD (2 ^ mkS 0 - 1) 0#64) * den ((mkRoots 0).getD 1 0#64) = 1
      have e1 : mkS 0 = 1 := rfl
      have e2 : mkRoots 0 = #[one__r, w__rE (BitVec.ofNat 64 0)] := rfl
      rw [e1, e2]
      show den (w__rE (BitVec.ofNat 64 0)) * den (w__rE (BitVec.ofNat 64 0)) = 1
      rw [Model.Ntt.mkObj_aux_den_w 0 (by omega), omega_zero, one_mul]
  apply BitVec.eq_of_toNat_eq
  rw [Model.toU64_r_toNat]
  have h1 : den (1#64 : BitVec 64) = 1 := by simp [den]
  rw [← h1, den_eq_iff] at key
  rw [key]
  rfl

theorem roots_range (S D : Nat) (hS : mkS D = S) (h2S2 : 2 ≤ 2 ^ S) :
    Loop.range 2 (2 ^ S) 1 (((Array.replicate (2 ^ S) 0#64).setIfInBounds 0 one__r).setIfInBounds 1
      (w__rE (BitVec.ofNat 64 D))) tabStep = mkRoots D := by
  unfold Loop.range mkRoots
  have : (2 ^ S - 2 + 1 - 1) / 1 = 2 ^ S - 2 := by
    rw [Nat.div_one, Nat.add_sub_cancel]
  rw [this, tab_full _ _ _ h2S2, hS]

theorem pti_range (S D : Nat) (hS : mkS D = S) (hS1 : 1 ≤ S) :
    Loop.rangeAux 1 tabStep (S - 1) 2 (((Array.replicate (S + 1) 0#64).setIfInBounds 0 one__r).setIfInBounds 1
      9223372034707292161#64) = mkPti D := by
  have := tab_full one__r 9223372034707292161#64 (S + 1) (by omega)
  have e : S + 1 - 2 = S - 1 := by omega
  rw [e] at this
  rw [this]
  unfold mkPti
  rw [hS]

/-- **constructor**: for `maxDomainSize ≠ 0`; `none` iff the model's constructor throws ("Domain size too big") -/
theorem ctor_gen (fuel : Nat) (hf : 64 ≤ fuel) (hp : Heap) (self0 : NTT_Goldilocks)
    (m : BitVec 64) (thr : BitVec 32) (e : Nat) (hm0 : m ≠ 0#64) :
    match Model.Ntt.mkObj m.toNat e with
    | none => NTT_ctor fuel hp self0 m thr (e : Int) = none
    | some o => ∃ self', NTT_ctor fuel hp self0 m thr (e : Int) = some ((hp.push o.roots).push o.powTwoInv, self') ∧
        self'.s.toNat = o.s ∧ self'.roots = ⟨hp.size, 0⟩ ∧ self'.powTwoInv = ⟨hp.size + 1, 0⟩ ∧ self'.r = Ptr.null ∧
        self'.r_ = Ptr.null ∧ self'.extension = (e : Int) ∧ self'.r_N = self0.r_N := by
  have hmn : m.toNat ≠ 0 := fun h => hm0 (BitVec.eq_of_toNat_eq (by simpa using h))
  have hlog := log2_gen_eq fuel (by unfold log2Fuel; omega) m hm0
  generalize hD : Model.Ntt.log2 m.toNat = D at hlog
  have hD64 : D < 64 := by
    rw [← hD]; simp only [Model.Ntt.log2]; rw [Nat.log2_lt hmn]; exact m.isLt
  have hm0' : (m == 0#64) = false := by simp [hm0]
  have hdpn : (BitVec.ofNat 32 D).toNat = D := by rw [BitVec.toNat_ofNat]; exact Nat.mod_eq_of_lt (by omega)
  have hnqr := Loop.whileM_mono (NTT_ctor_loop1 Q2 Pn) 6 _ _ fuel gmp_nqr (by omega)
  obtain ⟨hS1, hS32, _⟩ := mkS_range D
  have hQ0 : Q2 = Gmp.fdiv_q_2exp Q2 0 := by simp [Gmp.fdiv_q_2exp]
  have hsl := sloop D hD64 (BitVec.ofNat 32 D) hdpn (mkS D - 1) 0
    ({ s := 1#32, nThreads := (if (thr == 0#32) = true then I32.toU32 Omp.maxThreads else thr), nqr := self0.nqr, roots := self0.roots, powTwoInv := self0.powTwoInv, r := Ptr.null, r_ := Ptr.null, r_N := self0.r_N, extension := (e : Int) } : NTT_Goldilocks)
    fuel (by omega) (by omega) rfl
  rw [← hQ0] at hsl
  unfold NTT_ctor
  simp only [hm0', Bool.false_eq_true, if_false, hlog, Option.bind_some, gmp_negone, gmp_q, gmp_q2, hnqr]
  rw [hsl]
  simp only [Option.bind_some]
  generalize hS : mkS D = S at hS32 hS1
  have hSn : (BitVec.ofNat 32 S).toNat = S := by rw [BitVec.toNat_ofNat]; exact Nat.mod_eq_of_lt (by omega)
  have hlt : decide (BitVec.ofNat 32 S < BitVec.ofNat 32 D) = decide (S < D) := by
    rw [decide_eq_decide, BitVec.lt_def, hSn, hdpn]
  rw [hlt]
  by_cases hSD : S < D
  · have hn : Model.Ntt.mkObj m.toNat e = none := by
      rw [mkObj_none_iff _ _ hmn, hD, hS]; exact hSD
    rw [hn]
    simp only [hSD, decide_true, if_true]
  · cases hobj : Model.Ntt.mkObj m.toNat e with
    | none =>
      rw [mkObj_none_iff _ _ hmn, hD, hS] at hobj
      exact absurd hobj hSD
    | some o =>
      obtain ⟨_, ho⟩ := mkObj_unfold m.toNat e o hmn hobj
      rw [hD, hS] at ho
      have hassert := assert_ok m.toNat e o hmn hobj
      have hos : o.s = S := by rw [ho]
      have hor : o.roots = mkRoots D := by rw [ho]
      have hop : o.powTwoInv = mkPti D := by rw [ho]
      rw [hos, hor] at hassert
      simp only [hSD, decide_false, Bool.false_eq_true, if_false, hSn]
      have h2S : 2 ^ S < 2 ^ 33 := Nat.pow_lt_pow_right (by omega) (by omega)
      have h2S2 : 2 ≤ 2 ^ S := by
        calc 2 = 2 ^ 1 := rfl
          _ ≤ 2 ^ S := Nat.pow_le_pow_right (by omega) hS1
      have e1 : (1#64 : BitVec 64) <<< S = bv (2 ^ S) := one_shl S (by omega)
      have e2 : (bv (2 ^ S) * 8#64).toNat / 8 = 2 ^ S := words_bv _ (by omega)
      have e3 : BitVec.setWidth 64 (BitVec.ofNat 32 S + 1#32) = bv (S + 1) := by
        apply BitVec.eq_of_toNat_eq
        rw [BitVec.toNat_setWidth, BitVec.toNat_add, hSn, bv_toNat _ (by omega)]
        have : (1#32 : BitVec 32).toNat = 1 := rfl
        rw [this, Nat.mod_eq_of_lt (a := S + 1) (by omega), Nat.mod_eq_of_lt (by omega)]
      have e4 : (bv (S + 1) * 8#64).toNat / 8 = S + 1 := words_bv _ (by omega)
      have e5 : decide (bv (2 ^ S) > 1#64) = true := by
        rw [decide_eq_true_eq]; show bv 1 < bv (2 ^ S); rw [lt_bv _ _ (by omega) (by omega)]; omega
      have e6 : (bv (2 ^ S)).toNat = 2 ^ S := bv_toNat _ (by omega)
      have e7 : (bv (2 ^ S) - 1#64).toNat = 2 ^ S - 1 := by
        rw [bv_one, bv_sub _ _ (by omega) (by omega), bv_toNat _ (by omega)]
      have e8 : BitVec.setWidth 64 (BitVec.ofNat 32 D) = BitVec.ofNat 64 D := setWidth_ofNat32 D (by omega)
      simp only [e1, e2, e3, e4, e5, e6, e7, e8, if_true, gmp_half, Heap.alloc_fst, Heap.alloc_snd, Heap.size_push]
      -- the heap with the two table blocks, in representation form
      rw [Heap.push_push_R2]
      have hHs : ((hp.push #[]).push #[]).size = hp.size + 2 := by simp
      generalize hH : (hp.push #[]).push #[] = H at hHs ⊢
      generalize hb : hp.size = b at hHs ⊢
      have hbc : b ≠ b + 1 := by omega
      simp only [Heap.set_eq, Heap.get_def, Nat.zero_add]
      rw [Heap.R2_block_fst _ _ _ _ hbc (by omega), Heap.R2_setBlock_fst _ _ _ _ _ hbc,
        Heap.R2_block_snd _ _ _ _ (by omega), Heap.R2_setBlock_snd,
        Heap.R2_block_fst _ _ _ _ hbc (by omega), Heap.R2_setBlock_fst _ _ _ _ _ hbc,
        Heap.R2_block_snd _ _ _ _ (by omega), Heap.R2_setBlock_snd]
      dsimp only
      rw [Loop.rangeM_rep (R := fun A => Heap.R2 H b (b + 1) (A, _)) (f := tabStep) _ 2 (2 ^ S)
        (fun i A _ _ => by
          unfold_loops
          simp only [Heap.set_eq, Heap.get_def, Nat.zero_add]
          rw [Heap.R2_block_fst _ _ _ _ hbc (by omega), Heap.R2_setBlock_fst _ _ _ _ _ hbc]
          rfl)]
      rw [Option.bind_some, roots_range S D hS h2S2, Heap.R2_block_fst _ _ _ _ hbc (by omega), hassert, beq_self_eq_true,
        if_pos rfl]
      -- the powTwoInv loop: its step function, whatever its parameter list (2^-1 read in every iteration or once before)
      have h1pti : (((Array.replicate (S + 1) 0#64).setIfInBounds 0 one__r).setIfInBounds 1 9223372034707292161#64).getD 1 0#64 =
          9223372034707292161#64 := by
        rw [Array.getD_eq_getD_getElem?, Array.getElem?_setIfInBounds_self_of_lt (by simp; omega)]
        rfl
      try simp only [Heap.get_def, Nat.zero_add, Heap.R2_block_snd _ _ _ _ (show b + 1 < H.size by omega), h1pti]
      name_while step with hstepdef
      have hsw : BitVec.setWidth 64 (BitVec.ofNat 32 S) = bv S := setWidth_ofNat32 S (by omega)
      have hnext : ∀ (i : Nat) (X : Heap), 2 ≤ i → i ≤ S → (X.block (b + 1)).getD 1 0#64 = 9223372034707292161#64 →
          step (X, bv i) = some (true, (X.setBlock (b + 1) (tabStep i (X.block (b + 1))), bv (i + 1))) := by
        intro i X h2i hiS hinv
        subst hstepdef
        have hc : decide (bv i ≤ bv S) = true := by
          rw [decide_eq_true_eq, le_bv _ _ (by omega) (by omega)]; exact hiS
        unfold_loops
        unfold tabStep
        simp only [hsw, hc, if_true, Heap.set_eq, Heap.get_def, Nat.zero_add, bv_one]
        simp (disch := bv_side) only [bv_sub, bv_add, bv_toNat, hinv]
        close_shape
      have hstop : ∀ (X : Heap), step (X, bv (S + 1)) = some (false, (X, bv (S + 1))) := by
        intro X
        subst hstepdef
        have hc : decide (bv (S + 1) ≤ bv S) = false := by
          rw [decide_eq_false_iff_not, le_bv _ _ (by omega) (by omega)]; omega
        unfold_loops
        simp only [hsw, hc, Bool.false_eq_true, if_false]
      clear hstepdef
      have hpl := ptiloop_g (b + 1) S hS32 9223372034707292161#64 step hnext hstop (S - 1) 2
        (Heap.R2 H b (b + 1) (mkRoots D, ((Array.replicate (S + 1) 0#64).setIfInBounds 0 one__r).setIfInBounds 1
          9223372034707292161#64)) fuel (by omega) (by omega) (by omega)
        (by rw [Heap.R2_block_snd _ _ _ _ (by omega)]; exact h1pti)
      have h2 : (2#64 : BitVec 64) = bv 2 := rfl
      rw [h2, hpl]
      simp only [Option.bind_some]
      rw [Heap.R2_block_snd _ _ _ _ (by omega), Heap.R2_setBlock_snd]
      dsimp only
      rw [pti_range S D hS hS1, ← hH, ← hb, ← Heap.push_push_R2, hor, hop]
      exact ⟨_, rfl, by rw [hos]; exact hSn, rfl, rfl, rfl, rfl, rfl, rfl⟩

theorem ctor_rep (fuel : Nat) (hf : 64 ≤ fuel) (hp : Heap) (self0 : NTT_Goldilocks)
    (m : BitVec 64) (thr : BitVec 32) (e : Nat) (hm0 : m ≠ 0#64) (o : Model.Ntt.Obj)
    (hobj : Model.Ntt.mkObj m.toNat e = some o) :
    ∃ self', NTT_ctor fuel hp self0 m thr (e : Int) = some ((hp.push o.roots).push o.powTwoInv, self') ∧
      ObjRep ((hp.push o.roots).push o.powTwoInv) self' o ∧ ObjIn ((hp.push o.roots).push o.powTwoInv) self' ∧
      self'.roots = ⟨hp.size, 0⟩ ∧ self'.powTwoInv = ⟨hp.size + 1, 0⟩ ∧ self'.r = Ptr.null ∧ self'.r_ = Ptr.null := by
  have h := ctor_gen fuel hf hp self0 m thr e hm0
  rw [hobj] at h
  obtain ⟨self', h1, h2, h3, h4, h5, h6, h7, _⟩ := h
  have hmn : m.toNat ≠ 0 := fun h => hm0 (BitVec.eq_of_toNat_eq (by simpa using h))
  obtain ⟨_, ho⟩ := mkObj_unfold m.toNat e o hmn hobj
  have hext : o.extension = e := by rw [ho]
  have hrc : o.rcache = none := by rw [ho]
  refine ⟨self', h1, ⟨h2, ?_, ?_, ?_, ?_, ?_, ?_⟩, ?_, h3, h4, h5, h6⟩
  · rw [h3]
    show ((hp.push o.roots).push o.powTwoInv).block hp.size = o.roots
    rw [Heap.block_push_lt _ _ _ (by simp), Heap.block_push_last _ _ _ rfl]
  · rw [h3]
  · rw [h4]
    show ((hp.push o.roots).push o.powTwoInv).block (hp.size + 1) = o.powTwoInv
    rw [Heap.block_push_last _ _ _ (by simp)]
  · rw [h4]
  · rw [h7, hext]
  · rw [hrc]; exact h5
  · refine ⟨?_, ?_, ?_, ?_⟩
    · rw [h3]; simp
    · rw [h4]; simp
    · rw [h5]; show 0 < _; simp
    · rw [h6]; show 0 < _; simp

/-- what the constructor leaves of the heap it ran on: the new object's tables are not its (absent) cache blocks, it owns none of
    the old blocks `D ≠ 0`, and every old block keeps its content -/
theorem ctor_frame (fuel : Nat) (hf : 64 ≤ fuel) (hp : Heap) (self0 : NTT_Goldilocks)
    (m : BitVec 64) (thr : BitVec 32) (e : Nat) (hm0 : m ≠ 0#64) (o : Model.Ntt.Obj)
    (hobj : Model.Ntt.mkObj m.toNat e = some o) :
    ∃ self', NTT_ctor fuel hp self0 m thr (e : Int) = some ((hp.push o.roots).push o.powTwoInv, self') ∧
      ObjRep ((hp.push o.roots).push o.powTwoInv) self' o ∧ ObjIn ((hp.push o.roots).push o.powTwoInv) self' ∧
      (0 < hp.size → ObjDisj self') ∧ (∀ D, D < hp.size → D ≠ 0 → ObjFrame self' D) ∧
      (∀ c, c < hp.size → ((hp.push o.roots).push o.powTwoInv).block c = hp.block c) := by
  obtain ⟨self', hc, hrep, hin, f1, f2, f3, f4⟩ := ctor_rep fuel hf hp self0 m thr e hm0 o hobj
  refine ⟨self', hc, hrep, hin, fun hpos => ?_, fun D hD hD0 => ?_, fun c hc' => ?_⟩
  · unfold ObjDisj
    rw [f1, f2, f3, f4]
    exact ⟨by show hp.size ≠ 0; omega, by show hp.size ≠ 0; omega, by show hp.size + 1 ≠ 0; omega,
      by show hp.size + 1 ≠ 0; omega⟩
  · unfold ObjFrame
    rw [f1, f2, f3, f4]
    exact ⟨by show D ≠ hp.size; omega, by show D ≠ hp.size + 1; omega, hD0, hD0⟩
  · rw [Heap.block_push_lt _ _ _ (by simp; omega), Heap.block_push_lt _ _ _ hc']

end GoldilocksVerif.BridgeNtt
