/-
  IN-BOUNDS ACCESSES of the generated `extendPol` (`NTT_extendPol.Safe`, derived from the generated definition):
  the local object `ntt_extension(N_Extended, nThreads, N_Extended / N)` (constructor: Lemmas/HeapSafeCtorLoops.lean; its
  tables are the two new last blocks), the scratch `tmp` (malloc of N_Extended·ncols words, or the caller's buffer), the cache
  refresh (`delete[] r; delete[] r_;` release starts of live blocks of the object's own, `computeR(N)`:
  Lemmas/HeapSafeComputeR.lean) in all three cache states, `INTT(output, input, N, ncols, tmp, …, extend = true)` on the
  object (reads `r_[0 … N)`), `ntt_extension.NTT(output, output, N_Extended, ncols, tmp, …)` (in place: zero fill of the rows
  beyond N inside `reversePermutation`), `free(tmp)`, the destructor of the local object.
-/
import GoldilocksVerif.Lemmas.HeapSafeNtt
import GoldilocksVerif.Lemmas.HeapSafeCtorLoops
import GoldilocksVerif.Lemmas.HeapSafeCtor
import GoldilocksVerif.Lemmas.HeapSafeDtor
open GoldilocksVerif Gen.NttGen GoldilocksVerif.BridgeNtt
namespace GoldilocksVerif.HeapSafe

/-- the cache of the object (`r`, `r_`, `r_N`) is absent (`r == NULL`) or consists of two distinct live blocks of the
    object's own — their starts are stored, they are not one of the blocks `K` (the caller's buffers, the object's
    tables, …) — and `r_` has (at least) `r_N` words -/
def CacheInv (H : Heap) (self : NTT_Goldilocks) (K : Nat → Prop) : Prop :=
  self.r ≠ Ptr.null → self.r.off = 0 ∧ 0 < H.ext self.r.blk ∧ self.r_.off = 0 ∧ 0 < H.ext self.r_.blk ∧
    self.r.blk ≠ self.r_.blk ∧ (∀ b, K b → self.r.blk ≠ b ∧ self.r_.blk ≠ b) ∧ self.r_N.toNat ≤ H.ext self.r_.blk

theorem CacheInv.mono {H H' : Heap} {self : NTT_Goldilocks} {K K' : Nat → Prop} (h : CacheInv H self K)
    (hK : ∀ b, K' b → K b) (he1 : H'.ext self.r.blk = H.ext self.r.blk) (he2 : H'.ext self.r_.blk = H.ext self.r_.blk) :
    CacheInv H' self K' := by
  intro hr
  obtain ⟨a, b, c, d, e, f, g⟩ := h hr
  exact ⟨a, by rw [he1]; exact b, c, by rw [he2]; exact d, e, fun x hx => f x (hK x hx), by rw [he2]; exact g⟩

theorem ptr_eq_null_of_not_bne {p : Ptr} (h : ¬ (p != Ptr.null) = true) : p = Ptr.null :=
  eq_of_not_bne h

/-- **the cache refresh** `if (r == NULL || r_N != N) { if (r != NULL) { delete[] r; delete[] r_; } computeR(N); }`:
    every access and both releases are in bounds; afterwards the blocks `K` have the extents they had, the tables of the
    object are the same, and the cache is present, valid for `N` and again of the object's own -/
theorem ep_refresh (fuel : Nat) (hf : 64 ≤ fuel) (H2 : Heap) (self : NTT_Goldilocks) (N dn : Nat) (K : Nat → Prop)
    (hN : N = 2 ^ dn) (hdn : dn ≤ 30) (hsK : dn ≤ self.s.toNat)
    (hpti : self.powTwoInv.off + self.s.toNat + 1 ≤ H2.ext self.powTwoInv.blk) (hKp : K self.powTwoInv.blk)
    (hlive : ∀ b, K b → 0 < H2.ext b) (hc : CacheInv H2 self K) :
    ((self.r == Ptr.null || self.r_N != bv N) = true →
      ((self.r != Ptr.null) = true → H2.FreeOK self.r ∧ (H2.free self.r).FreeOK self.r_) ∧
        NTT_computeR.Safe fuel (if (self.r != Ptr.null) = true then (H2.free self.r).free self.r_ else H2) self
          (I32.ofU64 (bv N))) ∧
    ∀ (y : Heap × NTT_Goldilocks),
      (if (self.r == Ptr.null || self.r_N != bv N) = true then
            (NTT_computeR fuel (if (self.r != Ptr.null) = true then (H2.free self.r).free self.r_ else H2) self
                  (I32.ofU64 (bv N))).bind
              fun rt_3 => some (rt_3.1, rt_3.2)
          else some (H2, self)) = some y →
        (∀ b, K b → y.1.ext b = H2.ext b) ∧ y.2.s = self.s ∧ y.2.roots = self.roots ∧ y.2.powTwoInv = self.powTwoInv ∧
        y.2.extension = self.extension ∧ y.2.nThreads = self.nThreads ∧ CacheInv y.1 y.2 K ∧ y.2.r ≠ Ptr.null ∧
        y.2.r_N = bv N := by
  have hN0 : 0 < N := pow2_pos hN
  have hN30 : N ≤ 2 ^ 30 := pow2_le hN hdn
  have hN31 : N < 2 ^ 31 := by omega
  have hlogN : Model.Ntt.log2 N = dn := by rw [hN]; exact Nat.log2_two_pow
  have hNt : (bv N).toNat = N := bv_toNat N (by omega)
  have hk' : ∀ b, K b → (if (self.r != Ptr.null) = true then (H2.free self.r).free self.r_ else H2).ext b = H2.ext b := by
    intro b hb
    by_cases hr : (self.r != Ptr.null) = true
    · rw [if_pos hr]
      obtain ⟨_, _, _, _, _, f, _⟩ := hc ((bne_true _ _).1 hr)
      obtain ⟨f1, f2⟩ := f b hb
      rw [ext_free_ne _ _ _ (fun x => f2 x.symm), ext_free_ne _ _ _ (fun x => f1 x.symm)]
    · rw [if_neg hr]
  rw [ofU64_bv N hN31]
  refine ⟨fun _ => ⟨fun hrn => ?_, ?_⟩, fun y hy => ?_⟩
  · obtain ⟨a, b, c, d, e, _, _⟩ := hc ((bne_true _ _).1 hrn)
    exact ⟨Or.inr ⟨a, b⟩, Or.inr ⟨c, by rw [ext_free_ne _ _ _ (fun x => e x.symm)]; exact d⟩⟩
  · exact computeR_safe fuel hf _ self N hN0 hN31 (by rw [hlogN]; exact hsK) (by rw [hk' _ hKp]; exact hpti)
  · by_cases hcond : (self.r == Ptr.null || self.r_N != bv N) = true
    · rw [if_pos hcond, Option.bind_eq_some_iff] at hy
      obtain ⟨y', hy', e⟩ := hy
      injection e with e
      have ey : y = y' := by rw [← e]
      subst ey
      obtain ⟨e2, hsame⟩ := computeR_shape fuel _ self (N : Int) y hy'
      rw [toU64_nat, hNt] at e2 hsame
      generalize (if (self.r != Ptr.null) = true then (H2.free self.r).free self.r_ else H2) = H2' at hk' e2 hsame hy'
      obtain ⟨x1, x2, x3, _⟩ := ext_alloc_two H2' N N
      have hlt : ∀ b, K b → b < H2'.size := fun b hb => Heap.lt_size_of_live H2' b (by rw [hk' b hb]; exact hlive b hb)
      have hsz : H2'.size ≠ 0 := by have := hlt _ hKp; omega
      have er : y.2.r = ⟨H2'.size, 0⟩ := by rw [e2]; rfl
      have er_ : y.2.r_ = ⟨H2'.size + 1, 0⟩ := by
        rw [e2]; show ((H2'.alloc N).1.alloc N).2 = _; rw [Heap.alloc_snd, Heap.size_alloc]
      refine ⟨fun b hb => ?_, by rw [e2], by rw [e2], by rw [e2], by rw [e2], by rw [e2], ?_, ?_, by rw [e2]⟩
      · rw [hsame.2, x3 b (hlt b hb), hk' b hb]
      · intro _
        rw [er, er_]
        refine ⟨rfl, ?_, rfl, ?_, ?_, fun b hb => ?_, ?_⟩
        · show 0 < y.1.ext H2'.size; rw [hsame.2, x1]; exact hN0
        · show 0 < y.1.ext (H2'.size + 1); rw [hsame.2, x2]; exact hN0
        · show H2'.size ≠ H2'.size + 1; omega
        · have := hlt b hb
          exact ⟨by show H2'.size ≠ b; omega, by show H2'.size + 1 ≠ b; omega⟩
        · show y.2.r_N.toNat ≤ y.1.ext (H2'.size + 1)
          rw [hsame.2, x2, e2]; show (bv N).toNat ≤ N; omega
      · rw [er]; exact ptr_ne_null_of_blk hsz
    · rw [if_neg hcond] at hy
      injection hy with hy
      rw [← hy]
      rw [Bool.or_eq_true, not_or] at hcond
      have hr : self.r ≠ Ptr.null := by
        intro e; exact hcond.1 (by rw [e]; rfl)
      exact ⟨fun _ _ => rfl, rfl, rfl, rfl, rfl, rfl, hc, hr, eq_of_not_bne hcond.2⟩

theorem srcRows_le (obj : NTT_Goldilocks) (n : Nat) (hn : n < 2 ^ 64) : srcRows obj (bv n) ≤ n := by
  unfold srcRows
  by_cases h : obj.extension ≤ 1
  · rw [if_pos h, bv_toNat n hn]
  · rw [if_neg h, BitVec.toNat_udiv, bv_toNat n hn]; exact Nat.div_le_self _ _

/-- the documented shape of an `extendPol(output, input, N_Extended, N, ncols, buffer, nphase, nblock)` call on the object
    `obj`: `N = 2^dn ≤ N_Extended = 2^de ≤ 2^30`, `ncols ≥ 1`; `output` (not NULL) has N_Extended·ncols words, `input` N·ncols words
    (`output == input`, or another block); a caller buffer has N_Extended·ncols words and is another block than `output` and
    `input`; the object was built for a domain of at least N points (its tables have the extents the constructor gave them);
    its cache is absent or two live blocks of its own (not the caller's, not the tables), `r_` of `r_N` words -/
structure EPShape (hp : Heap) (obj : NTT_Goldilocks) (output input buffer : Ptr) (N NE NC dn de : Nat) : Prop where
  hdn : dn ≤ de
  hde : de ≤ 30
  hN : N = 2 ^ dn
  hNE : NE = 2 ^ de
  hNC : 0 < NC
  hbytes : NE * NC * 8 < 2 ^ 64
  hout0 : output ≠ Ptr.null
  hout : output.off + NE * NC ≤ hp.ext output.blk
  hin : input.off + N * NC ≤ hp.ext input.blk
  hio : output ≠ input → output.blk ≠ input.blk
  hbuf : buffer ≠ Ptr.null → buffer.off + NE * NC ≤ hp.ext buffer.blk ∧ buffer.blk ≠ output.blk ∧ buffer.blk ≠ input.blk
  hsK : dn ≤ obj.s.toNat
  hs32 : obj.s.toNat ≤ 32
  hroots : obj.roots.off + 2 ^ obj.s.toNat ≤ hp.ext obj.roots.blk
  hpti : obj.powTwoInv.off + obj.s.toNat + 1 ≤ hp.ext obj.powTwoInv.blk
  hcache : CacheInv hp obj (fun b => b = output.blk ∨ b = input.blk ∨ (buffer ≠ Ptr.null ∧ b = buffer.blk) ∨
    b = obj.roots.blk ∨ b = obj.powTwoInv.blk)

/-- the blocks `extendPol` does not release before its last two statements: every block that is live when it is called,
    except the blocks of a cache that is present; the scratch buffer; the two tables of the local object (the two new
    blocks after the last block of the heap `extendPol` was called with) -/
def EPK (hp : Heap) (self : NTT_Goldilocks) (tmp : Ptr) (b : Nat) : Prop :=
  (0 < hp.ext b ∧ ¬ (self.r ≠ Ptr.null ∧ (b = self.r.blk ∨ b = self.r_.blk))) ∨ b = tmp.blk ∨ b = hp.size ∨ b = hp.size + 1

/-- the heap `H2` in front of the cache refresh: the local object `ext` (its tables are the two blocks after the last
    block of `hp`), the scratch `tmp` (a third new block, or the caller's buffer), the blocks of `hp` with their extents -/
structure EPMid (hp : Heap) (output input buffer : Ptr) (NE NC de : Nat) (ext : NTT_Goldilocks) (tmp : Ptr) (H2 : Heap) :
    Prop where
  eroots : ext.roots = ⟨hp.size, 0⟩
  epti : ext.powTwoInv = ⟨hp.size + 1, 0⟩
  esK : de ≤ ext.s.toNat
  es32 : ext.s.toNat ≤ 32
  es0 : ext.s ≠ 0#32
  er : ext.r = Ptr.null
  er_ : ext.r_ = Ptr.null
  xr : H2.ext hp.size = 2 ^ ext.s.toNat
  xp : H2.ext (hp.size + 1) = ext.s.toNat + 1
  hold : ∀ b, b < hp.size → H2.ext b = hp.ext b
  text : tmp.off + NE * NC ≤ H2.ext tmp.blk
  tmp_eq : ((buffer == Ptr.null) = true ∧ tmp = ⟨hp.size + 2, 0⟩) ∨ (buffer ≠ Ptr.null ∧ tmp = buffer ∧ buffer.blk < hp.size)

theorem EPMid.intro (fuel : Nat) (hf : 64 ≤ fuel) (hp : Heap) (output input buffer : Ptr)
    (NE NC de : Nat) (thr : BitVec 32) (e : Nat) (hNE : NE = 2 ^ de) (hde : de ≤ 30)
    (hbuf : buffer ≠ Ptr.null → buffer.off + NE * NC ≤ hp.ext buffer.blk ∧ 0 < NE * NC)
    (y1 : Heap × NTT_Goldilocks) (hy1 : NTT_ctor fuel hp NTT_Goldilocks.init (bv NE) thr (e : Int) = some y1)
    (t : Ptr × Heap)
    (ht : (if (buffer == Ptr.null) = true then ((y1.1.alloc (NE * NC)).2, (y1.1.alloc (NE * NC)).1) else (buffer, y1.1)) = t) :
    EPMid hp output input buffer NE NC de y1.2 t.1 t.2 := by
  have hNE30 : NE ≤ 2 ^ 30 := pow2_le hNE hde
  have hNE0 : 0 < NE := pow2_pos hNE
  have hNEt : (bv NE).toNat = NE := bv_toNat NE (by omega)
  have hNEne : bv NE ≠ 0#64 := bv_ne_zero NE hNE0 (by omega)
  obtain ⟨H1, ext⟩ := y1
  obtain ⟨t1, t2, t3, t4, t5, t6, t7, t8, _⟩ := ctor_tables fuel hf hp H1 _ ext (bv NE) thr e hNEne hy1
  have hlogE : Model.Ntt.log2 (bv NE).toNat = de := by rw [hNEt, hNE]; exact Nat.log2_two_pow
  rw [hlogE] at t1
  obtain ⟨es0, er, er_⟩ : CtorInv ext := ctor_inv hNEne hy1
  obtain ⟨a1, a2, a3⟩ := alloc_or_keep ht
  have hold : ∀ b, b < hp.size → t.2.ext b = hp.ext b := fun b hb => by
    rw [a1 b (by show b < H1.size; omega)]; exact t8 b hb
  have hbl : ∀ hbn : buffer ≠ Ptr.null, buffer.blk < hp.size := fun hbn =>
    Heap.lt_size_of_live hp _ (Nat.lt_of_lt_of_le (hbuf hbn).2 (Nat.le_of_add_left_le (hbuf hbn).1))
  refine ⟨t3, t4, t1, t2, es0, er, er_, by rw [a1 _ (by show _ < H1.size; omega)]; exact t5,
    by rw [a1 _ (by show _ < H1.size; omega)]; exact t6, hold, ?_, ?_⟩
  · by_cases hb : (buffer == Ptr.null) = true
    · obtain ⟨e1, e2, _⟩ := a2 hb
      rw [e1, e2]; exact Nat.le_of_eq (Nat.zero_add _)
    · obtain ⟨e1, _⟩ := a3 hb
      have hbn : buffer ≠ Ptr.null := by simpa using hb
      rw [e1, hold _ (hbl hbn)]; exact (hbuf hbn).1
  · by_cases hb : (buffer == Ptr.null) = true
    · exact Or.inl ⟨hb, by rw [(a2 hb).1]; show (⟨H1.size, 0⟩ : Ptr) = _; rw [t7]⟩
    · have hbn : buffer ≠ Ptr.null := by simpa using hb
      exact Or.inr ⟨hbn, (a3 hb).1, hbl hbn⟩

namespace EPMid
variable {hp : Heap} {self : NTT_Goldilocks} {output input buffer : Ptr} {N NE NC dn de : Nat} {ext : NTT_Goldilocks}
  {tmp : Ptr} {H2 : Heap}

theorem tne (m : EPMid hp output input buffer NE NC de ext tmp H2) :
    (tmp.blk ≠ hp.size ∧ tmp.blk ≠ hp.size + 1) ∧ ((buffer == Ptr.null) = true → tmp.off = 0 ∧ hp.size ≤ tmp.blk) := by
  rcases m.tmp_eq with ⟨_, e⟩ | ⟨hbn, e, hl⟩
  · rw [e]
    exact ⟨⟨by show hp.size + 2 ≠ hp.size; omega, by show hp.size + 2 ≠ hp.size + 1; omega⟩,
      fun _ => ⟨rfl, by show hp.size ≤ hp.size + 2; omega⟩⟩
  · rw [e]; exact ⟨⟨Nat.ne_of_lt hl, Nat.ne_of_lt (by omega)⟩, fun hb => absurd (by simpa using hb) hbn⟩

theorem tmp_ne (m : EPMid hp output input buffer NE NC de ext tmp H2) (b : Nat) (hb : 0 < hp.ext b)
    (hbuf : buffer ≠ Ptr.null → buffer.blk ≠ b) : tmp.blk ≠ b := by
  have := Heap.lt_size_of_live hp b hb
  rcases m.tmp_eq with ⟨_, e⟩ | ⟨hbn, e, _⟩
  · rw [e]; show hp.size + 2 ≠ b; omega
  · rw [e]; exact hbuf hbn

theorem live (m : EPMid hp output input buffer NE NC de ext tmp H2) (hNENC : 0 < NE * NC) (b : Nat)
    (hb : EPK hp self tmp b) : 0 < H2.ext b := by
  rcases hb with e | e | e | e
  · rw [m.hold _ (Heap.lt_size_of_live hp b e.1)]; exact e.1
  · rw [e]; exact Nat.lt_of_lt_of_le hNENC (Nat.le_of_add_left_le m.text)
  · rw [e, m.xr]; exact Nat.pow_pos (by decide)
  · rw [e, m.xp]; exact Nat.succ_pos _

theorem old_mem (hc : CacheInv hp self (fun b => b = output.blk ∨ b = input.blk ∨ (buffer ≠ Ptr.null ∧ b = buffer.blk) ∨
      b = self.roots.blk ∨ b = self.powTwoInv.blk)) (b : Nat)
    (hb : b = output.blk ∨ b = input.blk ∨ (buffer ≠ Ptr.null ∧ b = buffer.blk) ∨ b = self.roots.blk ∨ b = self.powTwoInv.blk)
    (hl : 0 < hp.ext b) : EPK hp self tmp b := by
  refine Or.inl ⟨hl, fun hx => ?_⟩
  obtain ⟨_, _, _, _, _, f, _⟩ := hc hx.1
  obtain ⟨f1, f2⟩ := f b hb
  rcases hx.2 with e | e
  · exact f1 e.symm
  · exact f2 e.symm

theorem cache (m : EPMid hp output input buffer NE NC de ext tmp H2)
    (hc : CacheInv hp self (fun b => b = output.blk ∨ b = input.blk ∨ (buffer ≠ Ptr.null ∧ b = buffer.blk) ∨
      b = self.roots.blk ∨ b = self.powTwoInv.blk)) : CacheInv H2 self (EPK hp self tmp) := by
  intro hr
  obtain ⟨a, b, c, d, e, f, g⟩ := hc hr
  have l1 : self.r.blk < hp.size := Heap.lt_size_of_live hp _ b
  have l2 : self.r_.blk < hp.size := Heap.lt_size_of_live hp _ d
  refine ⟨a, by rw [m.hold _ l1]; exact b, c, by rw [m.hold _ l2]; exact d, e, fun x hx => ?_, by rw [m.hold _ l2]; exact g⟩
  rcases hx with e | e | e | e
  · exact ⟨fun x => e.2 ⟨hr, Or.inl x.symm⟩, fun x => e.2 ⟨hr, Or.inr x.symm⟩⟩
  · rcases m.tmp_eq with ⟨_, e'⟩ | ⟨hbn, e', _⟩
    · rw [e, e']; exact ⟨Nat.ne_of_lt (by show _ < hp.size + 2; omega), Nat.ne_of_lt (by show _ < hp.size + 2; omega)⟩
    · exact f x (Or.inr (Or.inr (Or.inl ⟨hbn, by rw [e, e']⟩)))
  · rw [e]; exact ⟨Nat.ne_of_lt l1, Nat.ne_of_lt l2⟩
  · rw [e]; exact ⟨Nat.ne_of_lt (by omega), Nat.ne_of_lt (by omega)⟩

end EPMid

/-- what is known when the second transform of `extendPol` has returned (heap `y4`): the local object `ext`, the scratch
    pointer `tmp`, the object state `y.2` after the cache refresh -/
structure EPFacts (hp : Heap) (self : NTT_Goldilocks) (buffer : Ptr) (N : Nat) (ext : NTT_Goldilocks) (tmp : Ptr)
    (y : Heap × NTT_Goldilocks) (y4 : Heap) : Prop where
  eroots : ext.roots = ⟨hp.size, 0⟩
  epti : ext.powTwoInv = ⟨hp.size + 1, 0⟩
  es0 : ext.s ≠ 0#32
  er : ext.r = Ptr.null
  er_ : ext.r_ = Ptr.null
  toff : (buffer == Ptr.null) = true → tmp.off = 0 ∧ hp.size ≤ tmp.blk
  tne : tmp.blk ≠ hp.size ∧ tmp.blk ≠ hp.size + 1
  live : ∀ b, EPK hp self tmp b → 0 < y4.ext b
  keep : ∀ b, b < hp.size → EPK hp self tmp b → y4.ext b = hp.ext b
  obj : y.2.s = self.s ∧ y.2.roots = self.roots ∧ y.2.powTwoInv = self.powTwoInv ∧ y.2.extension = self.extension ∧
    y.2.nThreads = self.nThreads
  cache : CacheInv y4 y.2 (EPK hp self tmp)
  rnn : y.2.r ≠ Ptr.null
  rN : y.2.r_N = bv N

/-- the shape of the first transform (`INTT` of the object, `extend = true`) on a heap `X` in which the blocks `extendPol`
    keeps have their extents of `H2`; `obj` is the object state after the cache refresh -/
theorem EPMid.inttShape {hp : Heap} {self obj : NTT_Goldilocks} {output input buffer : Ptr} {N NE NC dn de : Nat}
    {ext : NTT_Goldilocks} {tmp : Ptr} {H2 X : Heap} (m : EPMid hp output input buffer NE NC de ext tmp H2)
    (sh : EPShape hp self output input buffer N NE NC dn de) (hX : ∀ b, EPK hp self tmp b → X.ext b = H2.ext b)
    (ho : obj.s = self.s ∧ obj.roots = self.roots ∧ obj.powTwoInv = self.powTwoInv)
    (hr_ : obj.r_.off + N ≤ X.ext obj.r_.blk) : NTTShape0 X obj output input tmp N NC dn true := by
  obtain ⟨hdn, hde, hN, hNE, hNC, hbytes, hout0, hout, hin, hio, hbuf, hsK, hs32, hroots, hpti, hcache⟩ := sh
  have hN0 : 0 < N := pow2_pos hN
  have hNNE : N ≤ NE := by rw [hN, hNE]; exact Nat.pow_le_pow_right (by decide) hdn
  have hNE30 : NE ≤ 2 ^ 30 := pow2_le hNE hde
  have hNNC : N * NC ≤ NE * NC := Nat.mul_le_mul_right _ hNNE
  have hNNC0 : 0 < N * NC := Nat.mul_pos hN0 hNC
  have hD0 : (if (output == Ptr.null) = true then input else output) = output := if_neg (by simpa using hout0)
  have hlo : 0 < hp.ext output.blk := by omega
  have hli : 0 < hp.ext input.blk := by omega
  have hKo : EPK hp self tmp output.blk := EPMid.old_mem hcache _ (Or.inl rfl) hlo
  have hKi : EPK hp self tmp input.blk := EPMid.old_mem hcache _ (Or.inr (Or.inl rfl)) hli
  have hlr : 0 < hp.ext self.roots.blk :=
    Nat.lt_of_lt_of_le (Nat.pow_pos (by decide)) (Nat.le_of_add_left_le hroots)
  have hlp : 0 < hp.ext self.powTwoInv.blk := Nat.lt_of_lt_of_le (Nat.succ_pos _) (Nat.le_of_add_left_le hpti)
  have hKr : EPK hp self tmp self.roots.blk := EPMid.old_mem hcache _ (Or.inr (Or.inr (Or.inr (Or.inl rfl)))) hlr
  have hKp : EPK hp self tmp self.powTwoInv.blk := EPMid.old_mem hcache _ (Or.inr (Or.inr (Or.inr (Or.inr rfl)))) hlp
  have hold : ∀ b, 0 < hp.ext b → EPK hp self tmp b → X.ext b = hp.ext b := fun b hl hk => by
    rw [hX b hk, m.hold b (Heap.lt_size_of_live hp b hl)]
  have hyO := hold _ hlo hKo
  have hyI := hold _ hli hKi
  have hyT : X.ext tmp.blk = H2.ext tmp.blk := hX _ (Or.inr (Or.inl rfl))
  have htext := m.text
  refine ⟨by omega, hN, hNC, by omega, Heap.lt_size_of_live X output.blk (by rw [hyO]; exact hlo) |> Nat.lt_of_le_of_lt (Nat.zero_le _),
    by rw [hD0, hyO]; omega, ?_, Heap.lt_size_of_live X _ (by rw [hyI]; exact hli), by rw [hD0]; exact hio, fun _ => ?_,
    by rw [ho.1]; exact hsK, by rw [ho.1]; exact hs32, ?_, ?_, fun _ => hr_⟩
  · have := Nat.mul_le_mul_right NC (srcRows_le obj N (by omega))
    rw [hyI]; omega
  · rw [hD0]
    exact ⟨by rw [hyT]; omega, m.tmp_ne _ hlo (fun h => (hbuf h).2.1), m.tmp_ne _ hli (fun h => (hbuf h).2.2)⟩
  · rw [ho.1, ho.2.1, hold _ hlr hKr]; exact hroots
  · rw [ho.1, ho.2.2, hold _ hlp hKp]; exact hpti

/-- the shape of the second transform (`NTT` of the local object, in place on `output`) -/
theorem EPMid.nttShape {hp : Heap} {self : NTT_Goldilocks} {output input buffer : Ptr} {N NE NC dn de : Nat}
    {ext : NTT_Goldilocks} {tmp : Ptr} {H2 X : Heap} (m : EPMid hp output input buffer NE NC de ext tmp H2)
    (sh : EPShape hp self output input buffer N NE NC dn de) (hX : ∀ b, EPK hp self tmp b → X.ext b = H2.ext b) :
    NTTShape0 X ext output output tmp NE NC de false := by
  obtain ⟨hdn, hde, hN, hNE, hNC, hbytes, hout0, hout, hin, hio, hbuf, hsK, hs32, hroots, hpti, hcache⟩ := sh
  have hNE0 : 0 < NE := pow2_pos hNE
  have hNE30 : NE ≤ 2 ^ 30 := pow2_le hNE hde
  have hNENC0 : 0 < NE * NC := Nat.mul_pos hNE0 hNC
  have hlo : 0 < hp.ext output.blk := by omega
  have hyO : X.ext output.blk = hp.ext output.blk := by
    rw [hX _ (EPMid.old_mem hcache _ (Or.inl rfl) hlo), m.hold _ (Heap.lt_size_of_live hp _ hlo)]
  have hyT : X.ext tmp.blk = H2.ext tmp.blk := hX _ (Or.inr (Or.inl rfl))
  have hD1 : (if (output == Ptr.null) = true then output else output) = output := ite_self _
  have htO := m.tmp_ne _ hlo (fun h => (hbuf h).2.1)
  have hlX : output.blk < X.size := Heap.lt_size_of_live X _ (by rw [hyO]; exact hlo)
  refine ⟨hde, hNE, hNC, hbytes, Nat.lt_of_le_of_lt (Nat.zero_le _) hlX, by rw [hD1, hyO]; exact hout, ?_, hlX,
    fun h => absurd hD1 h, fun _ => ?_, m.esK, m.es32, ?_, ?_, fun h => by cases h⟩
  · have := Nat.mul_le_mul_right NC (srcRows_le ext NE (by omega))
    rw [hyO]; omega
  · rw [hD1]; exact ⟨by rw [hyT]; exact m.text, htO, htO⟩
  · rw [m.eroots]; show 0 + 2 ^ ext.s.toNat ≤ X.ext hp.size
    rw [hX _ (Or.inr (Or.inr (Or.inl rfl))), m.xr]; exact Nat.le_of_eq (Nat.zero_add _)
  · rw [m.epti]; show 0 + ext.s.toNat + 1 ≤ X.ext (hp.size + 1)
    rw [hX _ (Or.inr (Or.inr (Or.inr rfl))), m.xp, Nat.zero_add]

theorem pow_div_pow (dn de : Nat) (h : dn ≤ de) : 2 ^ de / 2 ^ dn = 2 ^ (de - dn) := by
  have : 2 ^ de = 2 ^ dn * 2 ^ (de - dn) := by rw [← Nat.pow_add]; congr 1; omega
  rw [this, Nat.mul_div_cancel_left _ (Nat.pow_pos (by decide))]

/-- `extendPol` up to the return of its second transform: every access is in bounds, and `EPFacts` holds there
    (continuation form: `Q` is what remains to be shown about the rest — `free(tmp)` and the destructor of the local
    object for `extendPol_safe`, the state after the call for `extendPol_post`) -/
theorem extendPol_chain (fuel : Nat) (hf : 64 ≤ fuel) (hp : Heap) (self : NTT_Goldilocks) (output input buffer : Ptr)
    (N NE NC dn de : Nat) (nphase nblock : BitVec 64) (sh : EPShape hp self output input buffer N NE NC dn de)
    (Q : NTT_Goldilocks → Ptr → Heap × NTT_Goldilocks → Heap → Prop)
    (hQ : ∀ ext tmp y y4, EPFacts hp self buffer N ext tmp y y4 → Q ext tmp y y4)
    (y1 : Heap × NTT_Goldilocks)
    (hy1 : NTT_ctor fuel hp NTT_Goldilocks.init (bv NE) self.nThreads (I32.ofU64 (bv NE / bv N)) = some y1)
    (t : Ptr × Heap)
    (ht : (if (buffer == Ptr.null) = true then
        ((y1.1.alloc ((bv NE * bv NC * 8#64).toNat / 8)).2, (y1.1.alloc ((bv NE * bv NC * 8#64).toNat / 8)).1)
      else (buffer, y1.1)) = t) :
    ((self.r == Ptr.null || self.r_N != bv N) = true →
      ((self.r != Ptr.null) = true → t.2.FreeOK self.r ∧ (t.2.free self.r).FreeOK self.r_) ∧
        NTT_computeR.Safe fuel (if (self.r != Ptr.null) = true then (t.2.free self.r).free self.r_ else t.2) self
          (I32.ofU64 (bv N))) ∧
    ∀ (y : Heap × NTT_Goldilocks),
      (if (self.r == Ptr.null || self.r_N != bv N) = true then
            (NTT_computeR fuel (if (self.r != Ptr.null) = true then (t.2.free self.r).free self.r_ else t.2) self
                  (I32.ofU64 (bv N))).bind
              fun rt_3 => some (rt_3.1, rt_3.2)
          else some (t.2, self)) = some y →
        NTT_INTT.Safe fuel y.1 y.2 output input (bv N) (bv NC) t.1 nphase nblock true ∧
          ∀ (y3 : Heap), NTT_INTT fuel y.1 y.2 output input (bv N) (bv NC) t.1 nphase nblock true = some y3 →
            NTT_NTT.Safe fuel y3 y1.2 output output (bv NE) (bv NC) t.1 nphase nblock false false ∧
              ∀ (y4 : Heap), NTT_NTT fuel y3 y1.2 output output (bv NE) (bv NC) t.1 nphase nblock false false = some y4 →
                Q y1.2 t.1 y y4 := by
  have hN0 : 0 < N := pow2_pos sh.hN
  have hNE0 : 0 < NE := pow2_pos sh.hNE
  have hNE30 : NE ≤ 2 ^ 30 := pow2_le sh.hNE sh.hde
  have hNNE : N ≤ NE := by rw [sh.hN, sh.hNE]; exact Nat.pow_le_pow_right (by decide) sh.hdn
  have hNENC0 : 0 < NE * NC := Nat.mul_pos hNE0 sh.hNC
  have hbytes := sh.hbytes
  have hpos : 0 < hp.size := Nat.lt_of_le_of_lt (Nat.zero_le _) (Heap.lt_size_of_live hp output.blk
    (Nat.lt_of_lt_of_le hNENC0 (Nat.le_of_add_left_le sh.hout)))
  have hE31 : 2 ^ (de - dn) < 2 ^ 31 := Nat.pow_lt_pow_right (by decide) (by have := sh.hde; omega)
  have hdivE : I32.ofU64 (bv NE / bv N) = ((2 ^ (de - dn) : Nat) : Int) := by
    rw [bv_div _ _ (by omega) (by omega), sh.hNE, sh.hN, pow_div_pow dn de sh.hdn, ofU64_bv _ hE31]
  have hwords : (bv NE * bv NC * 8#64).toNat / 8 = NE * NC := by rw [bv_mul]; exact words_bv _ hbytes
  rw [hdivE] at hy1
  rw [hwords] at ht
  have m := EPMid.intro fuel hf hp output input buffer NE NC de self.nThreads _ sh.hNE sh.hde
    (fun h => ⟨(sh.hbuf h).1, hNENC0⟩) y1 hy1 t ht
  generalize t.1 = tmp at *
  generalize t.2 = H2 at *
  generalize y1.2 = ext at *
  have hlp : 0 < hp.ext self.powTwoInv.blk := Nat.lt_of_lt_of_le (Nat.succ_pos _) (Nat.le_of_add_left_le sh.hpti)
  have hKp : EPK hp self tmp self.powTwoInv.blk := EPMid.old_mem sh.hcache _ (Or.inr (Or.inr (Or.inr (Or.inr rfl)))) hlp
  have hplive : self.powTwoInv.blk < hp.size := Heap.lt_size_of_live hp _ hlp
  obtain ⟨hsafeR, hpostR⟩ := ep_refresh fuel hf H2 self N dn (EPK hp self tmp) sh.hN (by have := sh.hdn; have := sh.hde; omega)
    sh.hsK (by rw [m.hold _ hplive]; exact sh.hpti) hKp (m.live hNENC0) (m.cache sh.hcache)
  refine ⟨hsafeR, fun y hy => ?_⟩
  obtain ⟨k1, k2, k3, k4, k5, k6, k7, k8, k9⟩ := hpostR y hy
  obtain ⟨_, _, c3, _, _, _, c7⟩ := k7 k8
  have hypos : 0 < y.1.size := (m.inttShape sh k1 ⟨k2, k3, k4⟩ (by
    rw [k9, bv_toNat N (by omega)] at c7; omega)).hpos
  refine ⟨INTT_safe_all fuel hf y.1 y.2 output input tmp N NC dn nphase nblock true
    (m.inttShape sh k1 ⟨k2, k3, k4⟩ (by rw [k9, bv_toNat N (by omega)] at c7; omega)), fun y3 hy3 => ?_⟩
  have hs3 : Heap.Same y.1 y3 :=
    INTT_same fuel y.1 y.2 output input (bv N) (bv NC) tmp nphase nblock true hypos y3 hy3
  have h3 : ∀ b, EPK hp self tmp b → y3.ext b = H2.ext b := fun b hb => by rw [hs3.2, k1 b hb]
  refine ⟨NTT_safe_all fuel hf y3 ext output output tmp NE NC de nphase nblock false false (m.nttShape sh h3),
    fun y4 hy4 => ?_⟩
  have hs4 : Heap.Same y3 y4 :=
    NTT_same fuel y3 ext output output (bv NE) (bv NC) tmp nphase nblock false false (hs3.size_pos hypos) y4 hy4
  have h4 : ∀ b, EPK hp self tmp b → y4.ext b = H2.ext b := fun b hb => by rw [hs4.2, h3 b hb]
  exact hQ ext tmp y y4 ⟨m.eroots, m.epti, m.es0, m.er, m.er_, m.tne.2, m.tne.1,
    fun b hb => by rw [h4 b hb]; exact m.live hNENC0 b hb, fun b hb hk => by rw [h4 b hk, m.hold b hb], ⟨k2, k3, k4, k5, k6⟩,
    k7.mono (fun _ h => h) (by rw [hs4.2, hs3.2]) (by rw [hs4.2, hs3.2]), k8, k9⟩

/-- `computeR` overwrites `r`, `r_` before it uses them: the in-bounds condition does not depend on their values at the call
    (the source may or may not reset them to NULL after `delete[]`) -/
theorem computeR_Safe_irrel (fuel : Nat) (X : Heap) (self : NTT_Goldilocks) (a b : Ptr) (N : Int) :
    NTT_computeR.Safe fuel X { self with r := a, r_ := b } N = NTT_computeR.Safe fuel X self N := by
  unfold NTT_computeR.Safe
  rfl

/-- evaluates the cache refresh of `extendPol` — its text in the goal (HOWEVER the source writes it) and the canonical text of
    `extendPol_chain` in `h` — in the four cases `r == NULL` × `r_N == N`, where the two coincide, and closes the goal with `h` -/
macro "refresh_cases " h:ident " : " self:term ", " n:term : tactic => `(tactic| (
  cases hr0 : (($self).r == Ptr.null) <;> cases hn0 : (($self).r_N == $n) <;>
    simp only [hr0, hn0, bne, Bool.not_true, Bool.not_false, Bool.true_or, Bool.false_or, Bool.or_true, Bool.or_false,
      Bool.true_and, Bool.false_and, Bool.and_true, Bool.and_false, if_true, if_false, Bool.false_eq_true, true_implies,
      false_implies, true_and, and_true, and_assoc, beq_self_eq_true, computeR_irrel, computeR_Safe_irrel] at $h:ident ⊢ <;>
    exact $h))

/-- **in-bounds accesses of `extendPol`** — every `nblock`, with or without caller buffer, in place or not, every state
    of the cache, sizes 1 ≤ N ≤ N_Extended ≤ 2^30 -/
theorem extendPol_safe (fuel : Nat) (hf : 64 ≤ fuel) (hp : Heap) (self : NTT_Goldilocks) (output input buffer : Ptr)
    (N NE NC dn de : Nat) (nphase nblock : BitVec 64) (sh : EPShape hp self output input buffer N NE NC dn de) :
    NTT_extendPol.Safe fuel hp self output input (bv NE) (bv N) (bv NC) buffer nphase nblock := by
  unfold NTT_extendPol.Safe
  zeta_goal
  refine ⟨ctor_safe _ _ _ _ _ _, fun y1 hy1 => ?_⟩
  have hch := extendPol_chain fuel hf hp self output input buffer N NE NC dn de nphase nblock sh
    (fun ext tmp _ y4 => ((buffer == Ptr.null) = true → y4.FreeOK tmp) ∧
      NTT_dtor.Safe (if (buffer == Ptr.null) = true then y4.free tmp else y4) ext) ?hQ y1 hy1 _ rfl
  case hQ =>
    intro ext tmp y y4 F
    obtain ⟨t3, t4, es0, er, er_, toff, htA, hlive, _, _, _, _, _⟩ := F
    refine ⟨fun hb => Or.inr ⟨(toff hb).1, hlive _ (Or.inr (Or.inl rfl))⟩, ?_⟩
    have h5 : ∀ b, b ≠ tmp.blk → (if (buffer == Ptr.null) = true then y4.free tmp else y4).ext b = y4.ext b := by
      intro b hb
      by_cases hbn : (buffer == Ptr.null) = true
      · rw [if_pos hbn, ext_free_ne _ _ _ hb]
      · rw [if_neg hbn]
    refine dtor_safe _ ext ⟨fun _ => ?_, fun h => absurd er h, fun h => absurd er_ h⟩
    rw [t3, t4]
    refine ⟨rfl, ?_, rfl, ?_, by show hp.size ≠ hp.size + 1; omega⟩
    · show 0 < Heap.ext _ hp.size
      rw [h5 _ (fun x => htA.1 x.symm)]; exact hlive _ (Or.inr (Or.inr (Or.inl rfl)))
    · show 0 < Heap.ext _ (hp.size + 1)
      rw [h5 _ (fun x => htA.2 x.symm)]; exact hlive _ (Or.inr (Or.inr (Or.inr rfl)))
  refresh_cases hch : self, bv N

theorem dtor_tables_only (H : Heap) (ext : NTT_Goldilocks) (es0 : ext.s ≠ 0#32) (er : ext.r = Ptr.null) (er_ : ext.r_ = Ptr.null) :
    NTT_dtor H ext = (H.free ext.roots).free ext.powTwoInv := by
  unfold NTT_dtor
  rw [er, er_, if_pos ((bne_true _ _).2 es0)]
  rfl

/-- the blocks that are live when `extendPol` is called and are not blocks of a cache that is present -/
def EPOld (hp : Heap) (self : NTT_Goldilocks) (b : Nat) : Prop :=
  0 < hp.ext b ∧ ¬ (self.r ≠ Ptr.null ∧ (b = self.r.blk ∨ b = self.r_.blk))

/-- **the state `extendPol` leaves**: every block that was live and is not a block of the old cache has the extent it had
    (the local object's tables and the scratch buffer are gone); the object has the same tables; its cache is present,
    valid for `N`, and consists of two live blocks that are none of those blocks -/
theorem extendPol_post (fuel : Nat) (hf : 64 ≤ fuel) (hp : Heap) (self : NTT_Goldilocks) (output input buffer : Ptr)
    (N NE NC dn de : Nat) (nphase nblock : BitVec 64) (sh : EPShape hp self output input buffer N NE NC dn de)
    (r : Heap × NTT_Goldilocks)
    (h : NTT_extendPol fuel hp self output input (bv NE) (bv N) (bv NC) buffer nphase nblock = some r) :
    (∀ b, EPOld hp self b → r.1.ext b = hp.ext b) ∧
    (r.2.s = self.s ∧ r.2.roots = self.roots ∧ r.2.powTwoInv = self.powTwoInv ∧ r.2.extension = self.extension ∧
      r.2.nThreads = self.nThreads) ∧
    CacheInv r.1 r.2 (EPOld hp self) ∧ r.2.r ≠ Ptr.null ∧ r.2.r_N = bv N := by
  revert r
  show OInv _ _
  unfold NTT_extendPol
  heap_steps
  refine OInv.bind_eq _ _ (fun y1 hy1 => ?_)
  heap_steps
  generalize hd : (if (buffer == Ptr.null) = true then
      have al_2 := y1.1.alloc ((bv NE * bv NC * 8#64).toNat / 8); have hp := al_2.1; have tmp := al_2.2; (tmp, hp)
    else have tmp := buffer; (tmp, y1.1)) = d
  have ht : (if (buffer == Ptr.null) = true then
        ((y1.1.alloc ((bv NE * bv NC * 8#64).toNat / 8)).2, (y1.1.alloc ((bv NE * bv NC * 8#64).toNat / 8)).1)
      else (buffer, y1.1)) = d := hd
  have hch := extendPol_chain fuel hf hp self output input buffer N NE NC dn de nphase nblock sh
    (fun ext tmp y y4 =>
      (∀ b, EPOld hp self b → (NTT_dtor (if (buffer == Ptr.null) = true then y4.free tmp else y4) ext).ext b = hp.ext b) ∧
      (y.2.s = self.s ∧ y.2.roots = self.roots ∧ y.2.powTwoInv = self.powTwoInv ∧ y.2.extension = self.extension ∧
        y.2.nThreads = self.nThreads) ∧
      CacheInv (NTT_dtor (if (buffer == Ptr.null) = true then y4.free tmp else y4) ext) y.2 (EPOld hp self) ∧
      y.2.r ≠ Ptr.null ∧ y.2.r_N = bv N) ?hQ y1 hy1 d ht
  case hQ =>
    intro ext tmp y y4 F
    obtain ⟨t3, t4, es0, er, er_, toff, htA, hlive, hkeep, hobj, hcache, rnn, rN⟩ := F
    rw [dtor_tables_only _ ext es0 er er_, t3, t4]
    have hfin : ∀ b, b ≠ hp.size → b ≠ hp.size + 1 → ((buffer == Ptr.null) = true → b ≠ tmp.blk) →
        (((if (buffer == Ptr.null) = true then y4.free tmp else y4).free ⟨hp.size, 0⟩).free ⟨hp.size + 1, 0⟩).ext b = y4.ext b := by
      intro b h1 h2 h3
      rw [ext_free_ne _ _ _ h2, ext_free_ne _ _ _ h1]
      by_cases hbn : (buffer == Ptr.null) = true
      · rw [if_pos hbn, ext_free_ne _ _ _ (h3 hbn)]
      · rw [if_neg hbn]
    have hold : ∀ b, EPOld hp self b → b ≠ hp.size ∧ b ≠ hp.size + 1 ∧ ((buffer == Ptr.null) = true → b ≠ tmp.blk) := by
      intro b hb
      have hl := Heap.lt_size_of_live hp b hb.1
      exact ⟨by omega, by omega, fun hbn => by have := (toff hbn).2; omega⟩
    refine ⟨fun b hb => ?_, hobj, ?_, rnn, rN⟩
    · obtain ⟨o1, o2, o3⟩ := hold b hb
      rw [hfin b o1 o2 o3]
      exact hkeep b (Heap.lt_size_of_live hp b hb.1) (Or.inl hb)
    · obtain ⟨_, _, _, _, _, f, _⟩ := hcache rnn
      have n1 := f tmp.blk (Or.inr (Or.inl rfl))
      have n2 := f hp.size (Or.inr (Or.inr (Or.inl rfl)))
      have n3 := f (hp.size + 1) (Or.inr (Or.inr (Or.inr rfl)))
      exact hcache.mono (fun b hb => Or.inl hb) (hfin _ n2.1 n3.1 (fun _ => n1.1)) (hfin _ n2.2 n3.2 (fun _ => n1.2))
  refine OInv.bind_eq _ _ (fun y hy => ?_)
  have hy' : (if (self.r == Ptr.null || self.r_N != bv N) = true then
        (NTT_computeR fuel (if (self.r != Ptr.null) = true then (d.2.free self.r).free self.r_ else d.2) self
          (I32.ofU64 (bv N))).bind fun rt_3 => some (rt_3.1, rt_3.2)
      else some (d.2, self)) = some y := by
    refresh_cases hy : self, bv N
  heap_steps
  refine OInv.bind_eq _ _ (fun y3 hy3 => ?_)
  heap_steps
  refine OInv.bind_eq _ _ (fun y4 hy4 => ?_)
  exact OInv.some _ _ (((hch.2 y hy').2 y3 hy3).2 y4 hy4)

end GoldilocksVerif.HeapSafe
