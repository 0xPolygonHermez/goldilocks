/-
  Order independence for the GENERATED `Goldilocks::parSetZero` (Gen/ParZeroGen.lean, heap mode; goldilocks_base_field.cpp:93),
  per-iteration part — the sibling of Lemmas/ParGenCopy.lean.  The translator renders
  `#pragma omp parallel for  for (i = 0; i < size; i += components_thread)` as a fuel-bounded `Loop.whileM` whose state is
  `(heap, i)`: the lifted body `parSetZero_loop1` tests `i < size`, zeroes the chunk that starts at `i` and steps `i`.
  As there, with `zChunkBody`, `zeroChunk` = `memset` of `ParCopy.len` words, and `BridgeNtt.parSetZero_step` to read the
  lifted body.
-/
import GoldilocksVerif.Lemmas.ParGenCopy
import GoldilocksVerif.Lemmas.BridgeParcpyZero

namespace GoldilocksVerif.ParGen
open GoldilocksVerif Gen.ParZeroGen GoldilocksVerif.BridgeNtt GoldilocksVerif.ParCopy

def zChunkBody (dst : Ptr) (size ct : BitVec 64) (i : Nat) (hp : Heap) : Option Heap :=
  (parSetZero_loop1 dst size ct (hp, BitVec.ofNat 64 i)).map (fun r => r.2.1)

/-- the hand model's chunk on block contents: `memset(&dst[i], 0, len)` (the first argument, the "source" of a `Par.Writer`, is
    not used) -/
def zeroChunk (size : Nat) (nt : Int) (i : Nat) (_s d : Block) : Block :=
  Model.Ntt.zeroRow d i (len size nt i)

section seq
variable (hp : Heap) (D : Nat) (hD : D < hp.size) (size : BitVec 64) (nt : Int)
variable (hnt : nt < 2 ^ 31) (hs8 : size.toNat * 8 < 2 ^ 64)

include hD in
theorem zero_rep (i n : Nat) (B : Block) :
    (hp.setBlock D B).zero (Ptr.add ⟨D, 0⟩ i) n = hp.setBlock D (Model.Ntt.zeroRow B i n) := by
  simp only [Heap.zero_eq, Ptr.add_blk, Ptr.add_off, Nat.zero_add, zeroRow_eq]
  rw [Heap.block_setBlock_same _ _ _ hD, Heap.setBlock_setBlock]

include hD hnt hs8 in
theorem zchunk_rep (s : Block) : ∀ i, i ∈ starts size.toNat nt → ∀ B : Block,
    zChunkBody ⟨D, 0⟩ size (genChunk size nt) i (hp.setBlock D B) =
      some (hp.setBlock D (zeroChunk size.toNat nt i s B)) := by
  intro i hi B
  obtain ⟨_, _, _, hlt⟩ := (mem_starts size.toNat nt i).mp hi
  have hct := chunkBV_toNat size nt (by omega) (by omega)
  have e0 : (BitVec.ofNat 64 i).toNat = i := ofNat_toNat_lt i (by omega)
  unfold zChunkBody
  rw [genChunk_eq, parSetZero_step _ _ _ _ _ hs8 (by rw [hct]; exact chunk_le _ _),
    if_pos (by rw [BitVec.lt_def, e0]; exact hlt), e0, hct, ← len_eq_min, Option.map_some, zero_rep hp D hD]
  rfl

include hD hnt hs8 in
theorem parSetZero_seq (s : Block) (fuel : Nat) (hfuel : (starts size.toNat nt).length < fuel) :
    parSetZero fuel hp ⟨D, 0⟩ size nt =
      some (hp.setBlock D ((starts size.toNat nt).foldl (fun B i => zeroChunk size.toNat nt i s B) (hp.block D))) := by
  rw [parSetZero_heap_seq fuel hp _ size nt (by omega) hs8 hfuel]
  have h := foldl_rep (hp.setBlock D) (fun i B => zeroChunk size.toNat nt i s B)
    (fun X i => X.zero (Ptr.add ⟨D, 0⟩ i) (len size.toNat nt i)) (starts size.toNat nt)
    (fun i B => zero_rep hp D hD i _ B) (hp.block D)
  rw [Heap.setBlock_block] at h
  rw [h]

end seq

theorem zeroChunk_writer (size : Nat) (nt : Int) (i : Nat) :
    Par.Writer (zeroChunk size nt i) (fun _ => False) (fun j => i ≤ j ∧ j < i + len size nt i) :=
  Par.zeroRow_writer _ i (len size nt i)

end GoldilocksVerif.ParGen
