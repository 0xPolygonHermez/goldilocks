/-
  IN-BOUNDS ACCESSES of the generated `NTT_iters`: one lemma per lifted loop body, innermost first (the columns of a
  butterfly, a butterfly, a stage, the three copies that end a batch, a batch, a pass), then the pass loop with its pointer
  ping-pong (every reachable state) and `reversePermutation` into the buffer the phase parity selects.  Pointers may have
  any offset; the buffers must be distinct blocks.  The predicates `*.Safe` are DERIVED from the generated definitions
  (Lemmas/HeapSafeDefs.lean); the index arithmetic re-uses the `bv` lemmas of the bridge theorems (Lemmas/BridgeNtt*.lean).
-/
import GoldilocksVerif.Lemmas.HeapSafeRevPerm
import GoldilocksVerif.Lemmas.BridgeNttItersTop
open GoldilocksVerif Gen.NttGen GoldilocksVerif.BridgeNtt
namespace GoldilocksVerif.HeapSafe

/-- the extents `NTT_iters` works with: two distinct buffers of `N` rows of `NC` words (`N = 2^K`, `1 ≤ K ≤ 30`), the
    tables of the object (`roots`: 2^s words, `powTwoInv`: s+1 words, `K ≤ s ≤ 32`; `r_`: N words when `extend`) -/
structure IShape (st : Heap) (obj : NTT_Goldilocks) (a a2 : Ptr) (N NC K : Nat) (extend : Bool) : Prop where
  hK : K ≤ 30
  hN : N = 2 ^ K
  hbytes : N * NC * 8 < 2 ^ 64
  ha : a.off + N * NC ≤ st.ext a.blk
  ha2 : a2.off + N * NC ≤ st.ext a2.blk
  hne : a.blk ≠ a2.blk
  hsK : K ≤ obj.s.toNat
  hs32 : obj.s.toNat ≤ 32
  hroots : obj.roots.off + 2 ^ obj.s.toNat ≤ st.ext obj.roots.blk
  hpti : obj.powTwoInv.off + obj.s.toNat + 1 ≤ st.ext obj.powTwoInv.blk
  hr_ : extend = true → obj.r_.off + N ≤ st.ext obj.r_.blk

theorem IShape.same {st st' : Heap} {self : NTT_Goldilocks} {a a2 : Ptr} {N NC K : Nat} {extend : Bool}
    (h : IShape st self a a2 N NC K extend) (hs : Heap.Same st st') : IShape st' self a a2 N NC K extend := by
  obtain ⟨h1, h2, h3, h4, h5, h6, h7, h8, h9, h10, h11⟩ := h
  refine ⟨h1, h2, h3, ?_, ?_, h6, h7, h8, ?_, ?_, ?_⟩
  · rw [hs.2]; exact h4
  · rw [hs.2]; exact h5
  · rw [hs.2]; exact h9
  · rw [hs.2]; exact h10
  · rw [hs.2]; exact h11

theorem IShape.swap {st : Heap} {self : NTT_Goldilocks} {a a2 : Ptr} {N NC K : Nat} {extend : Bool}
    (h : IShape st self a a2 N NC K extend) : IShape st self a2 a N NC K extend := by
  obtain ⟨h1, h2, h3, h4, h5, h6, h7, h8, h9, h10, h11⟩ := h
  exact ⟨h1, h2, h3, h5, h4, fun e => h6 e.symm, h7, h8, h9, h10, h11⟩

/-- the generated `root(domainPow, idx)` reads inside `roots` (2^s words) -/
theorem root_safe (st : Heap) (self : NTT_Goldilocks) (dp j : Nat) (hdp : dp ≤ self.s.toNat) (hs32 : self.s.toNat ≤ 32)
    (hj : j < 2 ^ dp) (hroots : self.roots.off + 2 ^ self.s.toNat ≤ st.ext self.roots.blk) :
    NTT_root.Safe st self (BitVec.setWidth 32 (bv dp)) (bv j) := by
  have hp : 2 ^ dp ≤ 2 ^ 32 := Nat.pow_le_pow_right (by decide) (by omega)
  have edp := setWidth32_bv dp (by omega)
  have hlt := root_idx_lt self.s.toNat dp j hdp hj
  have h3 : 2 ^ self.s.toNat ≤ 2 ^ 32 := Nat.pow_le_pow_right (by decide) hs32
  have hJ64 : j < 2 ^ 64 := by omega
  unfold NTT_root.Safe
  zeta_goal
  rw [root_idx self.s _ (bv j) (by rw [edp]; exact hdp) (by rw [edp, bv_toNat _ hJ64]; omega), edp, bv_toNat _ hJ64]
  exact InB_base (by omega)

/-- the columns of one butterfly: words `o1 + k`, `o2 + k` of the buffer -/
theorem butterfly_col_safe (st : Heap) (a : Ptr) (o1 o2 NC k : Nat) (w : BitVec 64) (hk : k < NC)
    (h1 : a.off + o1 + NC ≤ st.ext a.blk) (h2 : a.off + o2 + NC ≤ st.ext a.blk) (ho1 : o1 + NC < 2 ^ 64)
    (ho2 : o2 + NC < 2 ^ 64) : NTT_NTT_iters_loop1.Safe a (bv o1) (bv o2) w k st := by
  unfold NTT_NTT_iters_loop1.Safe
  zeta_goal
  rw [bv_add, bv_add, bv_toNat _ (by omega), bv_toNat _ (by omega)]
  refine ⟨InB_base (by omega), InB_base (by omega), InB_base (by omega), InB_base ?_⟩
  rw [Heap.ext_set]; omega

/-- the index `j % mdiv2` of a twiddle factor, whatever `j` is -/
theorem root_safe_mod (st : Heap) (self : NTT_Goldilocks) (dp M : Nat) (j : BitVec 64) (hdp : dp ≤ self.s.toNat)
    (hs32 : self.s.toNat ≤ 32) (hM0 : 0 < M) (hM : M ≤ 2 ^ dp)
    (hroots : self.roots.off + 2 ^ self.s.toNat ≤ st.ext self.roots.blk) :
    NTT_root.Safe st self (BitVec.setWidth 32 (bv dp)) (j % bv M) := by
  have hp : 2 ^ dp ≤ 2 ^ 32 := Nat.pow_le_pow_right (by decide) (Nat.le_trans hdp hs32)
  rw [bv_self j, bv_mod _ _ j.isLt (by omega)]
  exact root_safe st self dp _ hdp hs32 (Nat.lt_of_lt_of_le (Nat.mod_lt _ hM0) hM) hroots

/-- one butterfly of stage `S + si` of a batch: the twiddle factor (index reduced modulo `M ≤ 2^(S + si)`) is a word of
    `roots`, the two rows lie in the buffer -/
theorem butterfly_safe {st : Heap} {self : NTT_Goldilocks} {a a2 : Ptr} {N NC K : Nat} {extend : Bool}
    (sh : IShape st self a a2 N NC K extend) (S sInc si b i M : Nat) (rs re rb rm : BitVec 64) (hSK : S + si ≤ K)
    (hM0 : 0 < M) (hM : M ≤ 2 ^ (S + si)) (hsi : si < sInc) (hb : b * 2 ^ sInc + 2 ^ sInc ≤ N) (hi : i < 2 ^ sInc / 2) :
    NTT_NTT_iters_loop2.Safe (bv NC) self a (bv S) rs re rb rm (bv (2 ^ sInc)) b si (bv M) (bv (2 ^ si)) (bv (2 ^ si * 2))
      i st := by
  obtain ⟨hK, hN, hbytes, ha, _, _, hsK, hs32, hroots, _, _⟩ := sh
  have hrow := butterfly_rows N sInc si b i hsi hi hb
  have hr1 := mul_le_of_lt _ _ NC hrow
  have hr2 := mul_le_of_lt _ _ NC (Nat.lt_of_le_of_lt (Nat.le_add_right _ (2 ^ si)) hrow)
  have hN30 : N ≤ 2 ^ 30 := pow2_le hN hK
  have hp2 : 2 ^ si < 2 ^ 64 := Nat.lt_of_le_of_lt (Nat.le_add_left _ _) (Nat.lt_of_lt_of_le hrow (by omega))
  unfold NTT_NTT_iters_loop2.Safe
  zeta_goal
  rw [bv_add S si]
  refine ⟨root_safe_mod st self _ M _ (by omega) hs32 hM0 hM hroots, ?_⟩
  generalize NTT_root st self _ _ = w
  simp (disch := omega) only [bv_add, bv_mul, bv_div, bv_mod, bv_toNat]
  refine Loop.RangeAll.of_same (fun k s _ => by loop_same) (fun k st3 _ hk hst3 => ?_)
  refine butterfly_col_safe st3 a _ _ NC k _ hk ?_ ?_ ?_ ?_
  · rw [hst3.2]; omega
  · rw [hst3.2]; omega
  · omega
  · omega

/-- one stage of a batch: its `2^sInc / 2` butterflies -/
theorem stage_safe {st : Heap} {self : NTT_Goldilocks} {a a2 : Ptr} {N NC K : Nat} {extend : Bool}
    (sh : IShape st self a a2 N NC K extend) (S sInc si b : Nat) (rs re rb rm : BitVec 64) (hS1 : 1 ≤ S)
    (hSK : S + sInc ≤ K + 1) (hsi : si < sInc) (hb : b * 2 ^ sInc + 2 ^ sInc ≤ N) :
    NTT_NTT_iters_loop3.Safe (bv NC) self a (bv S) rs re rb rm (bv (2 ^ sInc)) b si st := by
  have hK := sh.hK
  have hp1 : 2 ^ sInc < 2 ^ 64 := Nat.pow_lt_pow_right (by decide) (by omega)
  have hp2 : 2 ^ (S + si) < 2 ^ 64 := Nat.pow_lt_pow_right (by decide) (by omega)
  have hhalf : 0 < 2 ^ (S + si) / 2 := by
    rw [show S + si = S + si - 1 + 1 by omega, Nat.pow_succ, Nat.mul_div_cancel _ (by decide)]
    exact Nat.pow_pos (by decide)
  unfold NTT_NTT_iters_loop3.Safe
  zeta_goal
  simp (disch := omega) only [bv_add, bv_mul, bv_shr, bv_toNat, shl_one, Nat.pow_one]
  refine Loop.RangeAll.of_same (fun i s _ => by loop_same) (fun i st2 _ hi hst2 => ?_)
  exact butterfly_safe (sh.same hst2) S sInc si b i _ rs re rb rm (by omega) hhalf (Nat.div_le_self _ _) hsi hb hi

/-- the transposing copy of a batch: row `b*B + x` of `a` to row `x*nB + b` of `a2` -/
theorem transpose_safe {st : Heap} {self : NTT_Goldilocks} {a a2 : Ptr} {N NC K : Nat} {extend : Bool}
    (sh : IShape st self a a2 N NC K extend) (B nB b x : Nat) (hBN : B * nB = N) (hb : b < nB) (hx : x < B) :
    NTT_NTT_iters_loop4.Safe (bv NC) a a2 (bv B) (bv nB) b x st := by
  obtain ⟨_, _, hbytes, ha, ha2, hne, _, _, _, _, _⟩ := sh
  obtain ⟨_, _, h2, h1, _, _⟩ := copy_arith N NC B nB b x hBN hx hb
  unfold NTT_NTT_iters_loop4.Safe
  zeta_goal
  rw [bv_mul, bv_add, bv_mul, bv_mul, bv_add, bv_mul, bv_toNat _ (by omega), bv_toNat _ (by omega), words_bv NC (by omega)]
  exact ⟨RangeOK_add (by omega), RangeOK_add (by omega), Or.inr (Or.inl (fun e => hne e.symm))⟩

/-- one word of a scaling copy: `a2[od + k] = a[os + k] * q[qi]` -/
theorem scale_col_safe (st : Heap) (a a2 q : Ptr) (os od qi NC k : Nat) (hk : k < NC) (hs : a.off + os + NC ≤ st.ext a.blk)
    (hd : a2.off + od + NC ≤ st.ext a2.blk) (hq : q.off + qi < st.ext q.blk) (hos : os + NC < 2 ^ 64) (hod : od + NC < 2 ^ 64)
    (hqi : qi < 2 ^ 64) :
    (st.InB a (bv os + BitVec.ofNat 64 k).toNat ∧ st.InB q (bv qi).toNat) ∧ st.InB a2 (bv od + BitVec.ofNat 64 k).toNat := by
  rw [bv_add, bv_add, bv_toNat (os + k) (by omega), bv_toNat qi hqi, bv_toNat (od + k) (by omega)]
  exact ⟨⟨InB_base (by omega), InB_base hq⟩, InB_base (by omega)⟩

/-- the reflecting copy of the last inverse pass that scales with `r_[dsty]` -/
theorem scale_r_safe {st : Heap} {self : NTT_Goldilocks} {a a2 : Ptr} {N NC K : Nat}
    (sh : IShape st self a a2 N NC K true) (B nB b x : Nat) (hBN : B * nB = N) (hb : b < nB) (hx : x < B) :
    NTT_NTT_iters_loop6.Safe (bv N) (bv NC) self a a2 (bv B) (bv nB) b x st := by
  obtain ⟨hK, hN, hbytes, ha, ha2, _, _, _, _, _, hr_⟩ := sh
  have hN30 : N ≤ 2 ^ 30 := pow2_le hN hK
  obtain ⟨h3, _, _, h1, hd, h4⟩ := copy_arith N NC B nB b x hBN hx hb
  have hr := hr_ rfl
  unfold NTT_NTT_iters_loop6.Safe
  zeta_goal
  rw [dsty_eq x nB b _ N hx hb hBN hN30]
  simp (disch := omega) only [bv_add, bv_mul, bv_toNat]
  refine Loop.RangeAll.of_same (fun k s _ => by loop_same) (fun k st2 _ hk hst2 => ?_)
  exact scale_col_safe st2 a a2 self.r_ _ _ _ NC k hk (by rw [hst2.2]; omega) (by rw [hst2.2]; omega) (by rw [hst2.2]; omega)
    (by omega) (by omega) (by omega)

/-- the same with the factor `powTwoInv[domainPow]` -/
theorem scale_pti_safe {st : Heap} {self : NTT_Goldilocks} {a a2 : Ptr} {N NC K : Nat} {extend : Bool}
    (sh : IShape st self a a2 N NC K extend) (B nB b x : Nat) (hBN : B * nB = N) (hb : b < nB) (hx : x < B) :
    NTT_NTT_iters_loop8.Safe (bv N) (bv NC) self a a2 (bv K) (bv B) (bv nB) b x st := by
  obtain ⟨hK, hN, hbytes, ha, ha2, _, hsK, _, _, hpti, _⟩ := sh
  have hN30 : N ≤ 2 ^ 30 := pow2_le hN hK
  obtain ⟨h3, _, _, h1, _, h4⟩ := copy_arith N NC B nB b x hBN hx hb
  unfold NTT_NTT_iters_loop8.Safe
  zeta_goal
  rw [dsty_eq x nB b _ N hx hb hBN hN30]
  simp (disch := omega) only [bv_add, bv_mul, bv_toNat]
  refine Loop.RangeAll.of_same (fun k s _ => by loop_same) (fun k st2 _ hk hst2 => ?_)
  exact scale_col_safe st2 a a2 self.powTwoInv _ _ K NC k hk (by rw [hst2.2]; omega) (by rw [hst2.2]; omega)
    (by rw [hst2.2]; omega) (by omega) (by omega) (by omega)

theorem passBatch_safe (st : Heap) (self : NTT_Goldilocks) (a a2 : Ptr) (N NC K MBP S sInc nB b : Nat) (inverse extend : Bool)
    (sh : IShape st self a a2 N NC K extend) (hS1 : 1 ≤ S) (hSK : S + sInc ≤ K + 1)
    (hnB : nB = N / 2 ^ sInc) (hb : b < nB) :
    NTT_NTT_iters_loop9.Safe (bv N) (bv NC) inverse extend self a a2 (bv K) (bv MBP) (bv S) (bv sInc) (bv (S - 1))
      (bv (K - 1)) (bv (2 ^ (S - 1))) (bv (2 ^ (K - S) - 1)) (bv (2 ^ sInc)) (bv nB) b st := by
  subst hnB
  have hK := sh.hK
  obtain ⟨_, hBN, hbB, hB64⟩ := batch_arith N K sInc b hK sh.hN (by omega) hb
  unfold NTT_NTT_iters_loop9.Safe
  zeta_goal
  rw [bv_toNat sInc (by omega), bv_toNat _ hB64]
  refine ⟨?_, fun y hy => ?_⟩
  · refine Loop.RangeAll.of_same (fun i s _ => by loop_same) (fun si st1 _ hsi hst1 => ?_)
    exact stage_safe (sh.same hst1) S sInc si b _ _ _ _ hS1 hSK hsi hbB
  have hsame : Heap.Same st y :=
    OInv.rangeM (P := Heap.Same st) _ _ _ _ _ (Heap.Same.refl _)
      (fun i s hs => OInv.of_same hs (by loop_same)) y hy
  refine ⟨fun _ => ?_, fun _ => ⟨fun hext => ?_, fun _ => ?_⟩⟩
  · refine Loop.RangeAll.of_same (fun x s _ => by loop_same) (fun x st1 _ hx hst1 => ?_)
    exact transpose_safe (sh.same (hsame.trans hst1)) _ _ b x hBN hb hx
  · subst hext
    refine Loop.RangeAll.of_same (fun x s _ => by loop_same) (fun x st1 _ hx hst1 => ?_)
    exact scale_r_safe (sh.same (hsame.trans hst1)) _ _ b x hBN hb hx
  · refine Loop.RangeAll.of_same (fun x s _ => by loop_same) (fun x st1 _ hx hst1 => ?_)
    exact scale_pti_safe (sh.same (hsame.trans hst1)) _ _ b x hBN hb hx

section passes
variable (self : NTT_Goldilocks) (N NC K res : Nat) (inverse extend : Bool)

/-- every access of one iteration of the pass loop is in bounds -/
theorem pass_safe (X : Heap) (a a2 tmp : Ptr) (sh : IShape X self a a2 N NC K extend) (mbp s count : Nat) (hs1 : 1 ≤ s)
    (hs64 : s < 2 ^ 63) (hm1 : 1 ≤ mbp) (hm : mbp ≤ 64) (hres : res ≤ 64) (hcount : count ≤ 128) :
    NTT_NTT_iters_loop10.Safe (bv N) (bv NC) inverse extend self (bv K) (bv res) (bv mbp, X, tmp, a2, a, bv s, bv count) := by
  unfold NTT_NTT_iters_loop10.Safe
  zeta_goal
  intro hle
  have hsK : s ≤ K := by
    have := of_decide_eq_true hle
    rwa [le_bv _ _ (by omega) (by have := sh.hK; omega)] at this
  obtain ⟨e1, e2, e3, e4, e5, e6, e7, e8, e9, _, hmb, hsi⟩ := sched_arith N K res mbp s count sh.hK sh.hN hs1 hsK hm1 hm hres hcount
  rw [e1, e2, e3, e4, e5, e6, e7, e8, e9]
  refine Loop.RangeAll.of_same (fun b st _ => by loop_same) (fun b st _ hb hst => ?_)
  exact passBatch_safe st self a a2 N NC K _ s _ _ b inverse extend (sh.same hst) hs1 hsi.1 rfl hb

/-- the next state of the pass loop: a heap of the same shape, the two buffers exchanged -/
theorem pass_next (X : Heap) (a a2 tmp : Ptr) (hK : K ≤ 30) (hN : N = 2 ^ K) (mbp s count : Nat) (hs1 : 1 ≤ s)
    (hs64 : s < 2 ^ 63) (hm1 : 1 ≤ mbp) (hm : mbp ≤ 64) (hres : res ≤ 64) (hcount : count ≤ 128)
    (st' : BitVec 64 × Heap × Ptr × Ptr × Ptr × BitVec 64 × BitVec 64)
    (h : NTT_NTT_iters_loop10 (bv N) (bv NC) inverse extend self (bv K) (bv res) (bv mbp, X, tmp, a2, a, bv s, bv count) =
      some (true, st')) :
    s ≤ K ∧ ∃ X', Heap.Same X X' ∧
      st' = (bv (stepMbp res count mbp), X', a2, a, a2, bv (s + stepMbp res count mbp), bv (count + 1)) := by
  unfold NTT_NTT_iters_loop10 at h
  dsimp only at h
  obtain ⟨hle, y, hr, rfl⟩ := Loop.guard_bind_true h
  have hsK : s ≤ K := by rwa [decide_eq_true_eq, le_bv _ _ (by omega) (by omega)] at hle
  obtain ⟨e1, _⟩ := sched_arith N K res mbp s count hK hN hs1 hsK hm1 hm hres hcount
  refine ⟨hsK, y, OInv.rangeM (P := Heap.Same X) _ _ _ _ _ (Heap.Same.refl _)
    (fun i s hs => OInv.of_same hs (by loop_same)) y hr, ?_⟩
  rw [e1, bv_add, bv_one, bv_add]

/-- the pass loop from its first state (`s = count = 1`): every state it reaches has a heap of the same shape, the two
    buffers in one order or the other, and a batch size within bounds; so every access of every pass is in bounds -/
theorem pass_loop_safe (y : Heap) (a a2 tmp : Ptr) (sh : IShape y self a a2 N NC K extend) (mbp : Nat) (hm1 : 1 ≤ mbp)
    (hm : mbp ≤ 64) (hres : res ≤ 64) :
    Loop.WhileAll (NTT_NTT_iters_loop10 (bv N) (bv NC) inverse extend self (bv K) (bv res)) (bv mbp, y, tmp, a2, a, 1#64, 1#64)
      (fun st => NTT_NTT_iters_loop10.Safe (bv N) (bv NC) inverse extend self (bv K) (bv res) st) := by
  have hK := sh.hK
  refine Loop.WhileAll.of_inv
    (fun st => ∃ (mbp s count : Nat) (X : Heap) (tmp a a2 : Ptr), st = (bv mbp, X, tmp, a2, a, bv s, bv count) ∧
      IShape X self a a2 N NC K extend ∧ 1 ≤ s ∧ s ≤ K + 64 ∧ 1 ≤ mbp ∧ mbp ≤ 64 ∧ count ≤ s) ?_ ?_ ?_
  · exact ⟨_, 1, 1, y, tmp, a, a2, rfl, sh, Nat.le_refl _, by omega, hm1, hm, Nat.le_refl _⟩
  · rintro st st' ⟨mbp, s, count, X, tmp, a, a2, rfl, shX, h1, h2, h3, h4, h5⟩ hstep
    obtain ⟨hsK, X', hsame, rfl⟩ := pass_next self N NC K res inverse extend X a a2 tmp hK sh.hN mbp s count h1 (by omega)
      h3 h4 hres (by omega) st' hstep
    have hmb : 1 ≤ stepMbp res count mbp ∧ stepMbp res count mbp ≤ 64 := by
      unfold stepMbp
      split <;> omega
    exact ⟨_, _, _, X', a2, a2, a, rfl, (shX.same hsame).swap, by omega, by omega, hmb.1, hmb.2, by omega⟩
  · rintro st ⟨mbp, s, count, X, tmp, a, a2, rfl, shX, h1, h2, h3, h4, h5⟩
    exact pass_safe self N NC K res inverse extend X a a2 tmp shX mbp s count h1 (by omega) h3 h4 hres (by omega)

end passes

/-- **in-bounds accesses of `NTT_iters`** (2 ≤ size = 2^K ≤ 2^30, any `nphase`): `reversePermutation` into the buffer the
    parity of the phase count selects, every butterfly, every twiddle read, every transposing / scaling copy of every pass
    stay inside the destination, the scratch buffer `aux`, the source and the object's tables -/
theorem NTT_iters_safe (fuel : Nat) (hf : 64 ≤ fuel) (hp : Heap) (self : NTT_Goldilocks) (dst src aux : Ptr) (N NC K : Nat)
    (oc nca nphase : BitVec 64) (inverse extend : Bool) (hK1 : 1 ≤ K) (hs : 0 < hp.size)
    (sh : IShape hp self (if (dst != Ptr.null) = true then dst else src) aux N NC K extend)
    (hNC : 0 < NC) (hcols : oc.toNat + NC ≤ nca.toNat) (hbytes : N * nca.toNat * 8 < 2 ^ 64)
    (hsrc : src.off + srcRows self (bv N) * nca.toNat ≤ hp.ext src.blk)
    (hd1 : (if (dst != Ptr.null) = true then dst else src) ≠ src → (if (dst != Ptr.null) = true then dst else src).blk ≠ src.blk)
    (hd2 : aux.blk ≠ src.blk) :
    NTT_NTT_iters.Safe fuel hp self dst src (bv N) oc (bv NC) nca nphase aux inverse extend := by
  have hK := sh.hK
  have hN := sh.hN
  have hN30 : N ≤ 2 ^ 30 := pow2_le hN hK
  have hNt : (bv N).toNat = N := bv_toNat N (by omega)
  obtain ⟨np, hnp, hnp1, hnpK, hlog, _, hdiv, hmod, hres0, hodd, hsize1, hmb1⟩ := iters_head fuel hf N K nphase hK1 hK hN
  have hmodlt : K % np < np := Nat.mod_lt _ (by omega)
  have hmbp0 := bv_succ_if (K / np) (K % np > 0)
  have hNCt : (bv NC).toNat = NC := bv_toNat _ (by
    have := sh.hbytes
    have : NC ≤ N * NC := Nat.le_mul_of_pos_left _ (pow2_pos hN)
    omega)
  -- the shape `reversePermutation` needs, for either first buffer
  have hrp : ∀ t : Ptr, t.off + N * NC ≤ hp.ext t.blk → (t ≠ src → t.blk ≠ src.blk) →
      RPShape hp self t src (bv N) oc (bv NC) nca K :=
    fun t ht hdj => ⟨by omega, by rw [hNt]; exact hN, by rw [hNCt]; exact hNC, by rw [hNCt]; exact hcols,
      by rw [hNt]; exact hbytes, by rw [hNt, hNCt]; exact ht, hsrc, hdj⟩
  unfold NTT_NTT_iters.Safe
  zeta_goal
  intro y hy
  rw [hlog] at hy
  cases hy
  simp only [setWidth_ofNat32 K (by omega), clamp_gen nphase K (by omega), hnp, hdiv, hmod, hres0, hmbp0, hodd]
  intro _
  generalize hD : (if (dst != Ptr.null) = true then dst else src) = D at *
  by_cases hpar : np % 2 = 1
  · simp only [hpar, decide_true, if_true, beq_self_eq_true]
    refine ⟨reversePermutation_safe fuel (by unfold log2Fuel; omega) hp self aux src (bv N) oc (bv NC) nca K hs
      (hrp aux sh.ha2 (fun _ => hd2)), fun y hy => ⟨?_, fun y1 _ _ hc => absurd hsize1 hc⟩⟩
    have hsame := reversePermutation_same fuel hp self aux src (bv N) oc (bv NC) nca hs y hy
    exact pass_loop_safe self N NC K _ inverse extend y aux D aux (sh.same hsame).swap _ hmb1.1 hmb1.2 (by omega)
  · have hparf : decide (np % 2 = 1) = false := by simp [hpar]
    simp only [hparf, Bool.false_eq_true, if_false, show ((true == false) = true) = False from by simp]
    refine ⟨reversePermutation_safe fuel (by unfold log2Fuel; omega) hp self D src (bv N) oc (bv NC) nca K hs
      (hrp D sh.ha hd1), fun y hy => ⟨?_, fun y1 _ _ hc => absurd hsize1 hc⟩⟩
    have hsame := reversePermutation_same fuel hp self D src (bv N) oc (bv NC) nca hs y hy
    exact pass_loop_safe self N NC K _ inverse extend y D aux D (sh.same hsame) _ hmb1.1 hmb1.2 (by omega)

end GoldilocksVerif.HeapSafe
