/-
  The constructor tables of the transform object (`mkObj` of Model/Ntt.lean) and the shift-power cache (`computeR`):
  `roots` holds the powers of the library's primitive root (`root o dp idx` denotes `omega dp ^ idx`),
  `powTwoInv[k]` denotes `2^-k`, `computeR` builds `r[i] = 7^i`, `r_[i] = 7^i · powTwoInv[log2 N]`.
-/
import GoldilocksVerif.Lemmas.NttSpec
import GoldilocksVerif.Lemmas.NttArr

namespace GoldilocksVerif.Model.Ntt
open GoldilocksVerif.NttSpec

theorem mkObj_aux_getD_push (a : Buf) (v : W) (j : Nat) :
    (a.push v).getD j 0#64 = if j < a.size then a.getD j 0#64 else if j = a.size then v else 0#64 := by
  rw [Array.getD_eq_getD_getElem?, Array.getD_eq_getD_getElem?, Array.getElem?_push]
  by_cases h1 : j < a.size
  · rw [if_pos h1, if_neg (by omega)]
  · rw [if_neg h1]
    by_cases h2 : j = a.size
    · rw [if_pos h2, if_pos h2]; rfl
    · rw [if_neg h2, if_neg h2]
      have : a[j]? = none := by simp; omega
      rw [this]; rfl

theorem mkObj_aux_getD_push_lt (a : Buf) (v : W) (j : Nat) (h : j < a.size) : (a.push v).getD j 0#64 = a.getD j 0#64 := by
  rw [mkObj_aux_getD_push, if_pos h]

theorem mkObj_aux_getD_push_eq (a : Buf) (v : W) : (a.push v).getD a.size 0#64 = v := by
  rw [mkObj_aux_getD_push, if_neg (by omega), if_pos rfl]

theorem mkObj_aux_den_one_r : den Gen.Scalar.one__r = 1 := den_one

/-- the table of powers built by `a.push (a[i+1] * r)` from `#[1, r]` -/
theorem mkObj_aux_powTable (r : W) (n : Nat) :
    (iter n (#[Gen.Scalar.one__r, r] : Array W) (fun i a => a.push (Gen.Scalar.mul__rEE (a.getD (i + 1) 0#64) r))).size = n + 2 ∧
    ∀ j, j < n + 2 →
      den ((iter n (#[Gen.Scalar.one__r, r] : Array W)
        (fun i a => a.push (Gen.Scalar.mul__rEE (a.getD (i + 1) 0#64) r))).getD j 0#64) = den r ^ j := by
  apply iter_ind (fun i (a : Array W) => a.size = i + 2 ∧ ∀ j, j < i + 2 → den (a.getD j 0#64) = den r ^ j)
  · refine ⟨rfl, ?_⟩
    intro j hj
    have : j = 0 ∨ j = 1 := by omega
    rcases this with rfl | rfl
    · have : (#[Gen.Scalar.one__r, r] : Array W).getD 0 0#64 = Gen.Scalar.one__r := rfl
      rw [this, mkObj_aux_den_one_r, pow_zero]
    · have : (#[Gen.Scalar.one__r, r] : Array W).getD 1 0#64 = r := rfl
      rw [this, pow_one]
  · intro i _ a ⟨hsz, hv⟩
    refine ⟨by rw [Array.size_push, hsz], ?_⟩
    intro j hj
    by_cases h : j < i + 2
    · rw [mkObj_aux_getD_push_lt _ _ _ (by omega)]
      exact hv j h
    · have hj' : j = a.size := by omega
      subst hj'
      rw [mkObj_aux_getD_push_eq, den_mul_r, hv (i + 1) (by omega), hsz, ← pow_succ]

theorem mkObj_aux_den_w (D : Nat) (hD : D ≤ 32) : den (Gen.Scalar.w__rE (BitVec.ofNat 64 D)) = omega D := by
  unfold omega wtab Gen.Scalar.w__rE Gen.Scalar.c_W
  rw [Region.ofList_apply, BitVec.toNat_ofNat, Nat.mod_eq_of_lt (Nat.lt_of_le_of_lt hD (by decide))]

/-- the clamp `s` of the constructor when it does not throw -/
theorem mkObj_s (D : Nat) (h : ¬ (if D ≤ 1 then 1 else min D 32) < D) :
    D ≤ 32 ∧ 1 ≤ (if D ≤ 1 then 1 else min D 32) ∧ D ≤ (if D ≤ 1 then 1 else min D 32) ∧
    (1 ≤ D → (if D ≤ 1 then 1 else min D 32) = D) ∧ (if D ≤ 1 then 1 else min D 32) ≤ 32 := by
  by_cases h1 : D ≤ 1
  · rw [if_pos h1] at h ⊢
    exact ⟨by omega, by omega, by omega, fun _ => by omega, by omega⟩
  · rw [if_neg h1] at h ⊢
    have : min D 32 = D := by omega
    rw [this]
    exact ⟨by omega, by omega, by omega, fun _ => rfl, by omega⟩

theorem mkObj_aux_idx_shift_lt (D dp idx : Nat) (h2 : dp ≤ D) (h3 : idx < 2 ^ dp) : idx * 2 ^ (D - dp) < 2 ^ D := by
  have e : 2 ^ D = 2 ^ dp * 2 ^ (D - dp) := by
    rw [← Nat.pow_add]; congr 1; omega
  rw [e]
  exact Nat.mul_lt_mul_of_pos_right h3 (Nat.pow_pos (by decide))

theorem mkObj_spec (m e : Nat) (o : Obj) (hm : m ≠ 0) (h : mkObj m e = some o) :
    log2 m ≤ 32 ∧ o.extension = e ∧ o.rcache = none ∧
    (∀ dp idx, 1 ≤ dp → dp ≤ log2 m → idx < 2 ^ dp → den (root o dp idx) = omega dp ^ idx) ∧
    (∀ k, k ≤ log2 m → den (o.powTwoInv.getD k 0#64) * (2 : F) ^ k = 1) := by
  unfold mkObj at h
  rw [if_neg hm] at h
  dsimp only at h
  generalize log2 m = D at h ⊢
  by_cases h1 : (if D ≤ 1 then 1 else min D 32) < D
  · rw [if_pos h1] at h; cases h
  · rw [if_neg h1] at h
    obtain ⟨hD, hs1, hsD, hsEq, _⟩ := mkObj_s D h1
    generalize (if D ≤ 1 then 1 else min D 32) = s at h hs1 hsD hsEq
    have ho := Option.some.inj h
    subst ho
    refine ⟨hD, rfl, rfl, ?_, ?_⟩
    · intro dp idx hdp1 hdp2 hidx
      have hs : s = D := hsEq (by omega)
      subst hs
      unfold root
      dsimp only
      have hlt : idx * 2 ^ (s - dp) < 2 ^ s - 2 + 2 := by
        have := mkObj_aux_idx_shift_lt s dp idx hdp2 hidx
        have : 2 ^ 1 ≤ 2 ^ s := Nat.pow_le_pow_right (by decide) hs1
        omega
      rw [(mkObj_aux_powTable (Gen.Scalar.w__rE (BitVec.ofNat 64 s)) (2 ^ s - 2)).2 _ hlt, mkObj_aux_den_w s hD, pow_mul']
      have := omega_pow_two_pow dp (s - dp) (by omega)
      have e : dp + (s - dp) = s := by omega
      rw [e] at this
      rw [this]
    · intro k hk
      dsimp only
      rw [(mkObj_aux_powTable 9223372034707292161#64 (s - 1)).2 k (by omega), ← mul_pow, den_half, one_pow]

theorem mkObj_s_val (m e : Nat) (o : Obj) (hm : m ≠ 0) (h : mkObj m e = some o) :
    log2 m ≤ o.s ∧ o.s ≤ 32 ∧ o.extension = e := by
  unfold mkObj at h
  rw [if_neg hm] at h
  dsimp only at h
  generalize log2 m = D at h ⊢
  by_cases h1 : (if D ≤ 1 then 1 else min D 32) < D
  · rw [if_pos h1] at h; cases h
  · rw [if_neg h1] at h
    obtain ⟨_, _, hsD, _, hs32⟩ := mkObj_s D h1
    cases Option.some.inj h
    exact ⟨hsD, hs32, rfl⟩

theorem mkObj_some (m e : Nat) (hm : log2 m ≤ 32) : ∃ o, mkObj m e = some o := by
  unfold mkObj
  by_cases h0 : m = 0
  · rw [if_pos h0]; exact ⟨_, rfl⟩
  · rw [if_neg h0]
    dsimp only
    have h1 : ¬ (if log2 m ≤ 1 then 1 else min (log2 m) 32) < log2 m := by
      by_cases h : log2 m ≤ 1
      · rw [if_pos h]; omega
      · rw [if_neg h]; omega
    rw [if_neg h1]
    exact ⟨_, rfl⟩

theorem computeR_spec (o : Obj) (N : Nat) (hN : 0 < N) :
    (computeR o N).1 = N ∧ (computeR o N).2.2.size = N ∧
    ∀ i, i < N → den ((computeR o N).2.2.getD i 0#64) = (7 : F) ^ i * den (o.powTwoInv.getD (log2 N) 0#64) := by
  unfold computeR
  dsimp only
  generalize o.powTwoInv.getD (log2 N) 0#64 = pinv
  have key := iter_ind
    (fun i (st : Array W × Array W) => st.1.size = i + 1 ∧ st.2.size = i + 1 ∧
      ∀ j, j < i + 1 → den (st.1.getD j 0#64) = (7 : F) ^ j ∧ den (st.2.getD j 0#64) = (7 : F) ^ j * den pinv)
    (N - 1) ((#[Gen.Scalar.one__r], #[pinv]) : Array W × Array W)
    (fun i st => (st.1.push (Gen.Scalar.mul__eEE (st.1.getD i 0#64) Gen.Scalar.shift__r),
      st.2.push (Gen.Scalar.mul__eEE (Gen.Scalar.mul__eEE (st.1.getD i 0#64) Gen.Scalar.shift__r) pinv)))
    (by
      refine ⟨rfl, rfl, ?_⟩
      intro j hj
      have hj0 : j = 0 := by omega
      subst hj0
      have e1 : (#[Gen.Scalar.one__r] : Array W).getD 0 0#64 = Gen.Scalar.one__r := rfl
      have e2 : (#[pinv] : Array W).getD 0 0#64 = pinv := rfl
      dsimp only
      rw [e1, e2, mkObj_aux_den_one_r, pow_zero, one_mul]
      exact ⟨rfl, rfl⟩)
    (by
      intro i _ st ⟨hs1, hs2, hv⟩
      dsimp only
      refine ⟨by rw [Array.size_push, hs1], by rw [Array.size_push, hs2], ?_⟩
      intro j hj
      by_cases h : j < i + 1
      · rw [mkObj_aux_getD_push_lt _ _ _ (by omega), mkObj_aux_getD_push_lt _ _ _ (by omega)]
        exact hv j h
      · have hj1 : j = st.1.size := by omega
        have hj2 : j = st.2.size := by omega
        have hji : j = i + 1 := by omega
        have e1 := mkObj_aux_getD_push_eq st.1 (Gen.Scalar.mul__eEE (st.1.getD i 0#64) Gen.Scalar.shift__r)
        have e2 := mkObj_aux_getD_push_eq st.2
          (Gen.Scalar.mul__eEE (Gen.Scalar.mul__eEE (st.1.getD i 0#64) Gen.Scalar.shift__r) pinv)
        rw [← hj1] at e1
        rw [← hj2] at e2
        have hri : den (Gen.Scalar.mul__eEE (st.1.getD i 0#64) Gen.Scalar.shift__r) = (7 : F) ^ j := by
          rw [den_mul, (hv i (by omega)).1, den_shift, hji, ← pow_succ]
        constructor
        · rw [e1, hri]
        · rw [e2, den_mul, hri])
  obtain ⟨_, k2, k3⟩ := key
  refine ⟨rfl, by rw [k2]; omega, ?_⟩
  intro i hi
  exact (k3 i (by omega)).2

end GoldilocksVerif.Model.Ntt
