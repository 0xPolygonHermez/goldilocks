/-
  IN-BOUNDS ACCESSES of a whole object LIFE in the generated model: the generated constructor on the default-initialised
  members, any list of `NTT` / `INTT` / `extendPol` calls (`HeapSafe.Call`, `runCalls`, `life`: Lemmas/HeapSafeOwn.lean), the
  generated destructor.  `life.Safe` is the conjunction of the derived predicates (`NTT_ctor.Safe`, `NTT_NTT.Safe`,
  `NTT_INTT.Safe`, `NTT_extendPol.Safe`, `NTT_dtor.Safe`) along the history, each on the state the history has reached.

  The caller's buffers are blocks that exist BEFORE the object is constructed (live in `h0`); the invariant `HS` between
  the calls says: they keep their extents; the object's tables are two other live blocks with the extents the
  constructor gave them; the cache is absent or two more live blocks of `r_N` words (`CacheInv`).  The invariant comes from
  the constructor (`ctor_tables`), is kept by `NTT` / `INTT` (allocation balance: `NTT_same`) and by `extendPol`
  (`extendPol_post`), and gives the hypotheses of `NTT_safe_all` / `INTT_safe_all` / `extendPol_safe` / `dtor_safe`.
-/
import GoldilocksVerif.Lemmas.HeapSafeExtend
open GoldilocksVerif Gen.NttGen GoldilocksVerif.BridgeNtt
namespace GoldilocksVerif.HeapSafe

def Call.Safe (fuel : Nat) (st : Heap × NTT_Goldilocks) : Call → Prop
  | .ntt dst src size ncols buffer nphase nblock inverse extend =>
    NTT_NTT.Safe fuel st.1 st.2 dst src size ncols buffer nphase nblock inverse extend
  | .intt dst src size ncols buffer nphase nblock extend =>
    NTT_INTT.Safe fuel st.1 st.2 dst src size ncols buffer nphase nblock extend
  | .extendPol output input NE N ncols buffer nphase nblock =>
    NTT_extendPol.Safe fuel st.1 st.2 output input NE N ncols buffer nphase nblock

def runCalls.Safe (fuel : Nat) : Heap × NTT_Goldilocks → List Call → Prop
  | _, [] => True
  | st, c :: cs => Call.Safe fuel st c ∧ ∀ st', runCall fuel st c = some st' → runCalls.Safe fuel st' cs

def life.Safe (fuel : Nat) (h0 : Heap) (maxDomainSize : BitVec 64) (nThreads : BitVec 32) (extension : Int) (cs : List Call) : Prop :=
  NTT_ctor.Safe fuel h0 NTT_Goldilocks.init maxDomainSize nThreads extension ∧
  ∀ st, NTT_ctor fuel h0 NTT_Goldilocks.init maxDomainSize nThreads extension = some st →
    runCalls.Safe fuel st cs ∧ ∀ st', runCalls fuel st cs = some st' → NTT_dtor.Safe st'.1 st'.2

/-- the buffers of an `NTT` / `INTT` call of `size = N = 2^K` rows of `ncols = NC` words, in the heap `h0` the caller had before
    the object was constructed: destination (`src` when `dst == NULL`) and source of N·NC words, another block when they
    are not the same pointer; a caller scratch buffer of N·NC words in a third block -/
structure BufOK (h0 : Heap) (dst src buffer : Ptr) (N NC K : Nat) : Prop where
  hK : K ≤ 30
  hN : N = 2 ^ K
  hNC : 0 < NC
  hbytes : N * NC * 8 < 2 ^ 64
  hD : (if (dst == Ptr.null) = true then src else dst).off + N * NC ≤ h0.ext (if (dst == Ptr.null) = true then src else dst).blk
  hsrc : src.off + N * NC ≤ h0.ext src.blk
  hds : (if (dst == Ptr.null) = true then src else dst) ≠ src → (if (dst == Ptr.null) = true then src else dst).blk ≠ src.blk
  hbuf : buffer ≠ Ptr.null → buffer.off + N * NC ≤ h0.ext buffer.blk ∧
    buffer.blk ≠ (if (dst == Ptr.null) = true then src else dst).blk ∧ buffer.blk ≠ src.blk

/-- the buffers of an `extendPol` call (the caller's part of `EPShape`), in `h0` -/
structure EPBuf (h0 : Heap) (output input buffer : Ptr) (N NE NC dn de : Nat) : Prop where
  hdn : dn ≤ de
  hde : de ≤ 30
  hN : N = 2 ^ dn
  hNE : NE = 2 ^ de
  hNC : 0 < NC
  hbytes : NE * NC * 8 < 2 ^ 64
  hout0 : output ≠ Ptr.null
  hout : output.off + NE * NC ≤ h0.ext output.blk
  hin : input.off + N * NC ≤ h0.ext input.blk
  hio : output ≠ input → output.blk ≠ input.blk
  hbuf : buffer ≠ Ptr.null → buffer.off + NE * NC ≤ h0.ext buffer.blk ∧ buffer.blk ≠ output.blk ∧ buffer.blk ≠ input.blk

/-- the documented preconditions of a call on an object built for a domain of 2^D points: sizes are powers of two up to
    2^D (and 2^30), buffers of the documented extents (`BufOK`, `EPBuf`); `extend` (internal to `extendPol`) is false -/
def CallOK (h0 : Heap) (D : Nat) : Call → Prop
  | .ntt dst src size ncols buffer _ _ _ extend =>
    extend = false ∧ ∃ N NC K, size = bv N ∧ ncols = bv NC ∧ K ≤ D ∧ BufOK h0 dst src buffer N NC K
  | .intt dst src size ncols buffer _ _ extend =>
    extend = false ∧ ∃ N NC K, size = bv N ∧ ncols = bv NC ∧ K ≤ D ∧ BufOK h0 dst src buffer N NC K
  | .extendPol output input NE N ncols buffer _ _ =>
    ∃ n ne nc dn de, NE = bv ne ∧ N = bv n ∧ ncols = bv nc ∧ dn ≤ D ∧ EPBuf h0 output input buffer n ne nc dn de

structure HS (h0 : Heap) (D : Nat) (st : Heap × NTT_Goldilocks) : Prop where
  keep : ∀ b, 0 < h0.ext b → st.1.ext b = h0.ext b
  hsD : D ≤ st.2.s.toNat
  hs32 : st.2.s.toNat ≤ 32
  hs0 : st.2.s ≠ 0#32
  roff : st.2.roots.off = 0
  poff : st.2.powTwoInv.off = 0
  rext : 2 ^ st.2.s.toNat ≤ st.1.ext st.2.roots.blk
  pext : st.2.s.toNat + 1 ≤ st.1.ext st.2.powTwoInv.blk
  rdead : h0.ext st.2.roots.blk = 0
  pdead : h0.ext st.2.powTwoInv.blk = 0
  rp : st.2.roots.blk ≠ st.2.powTwoInv.blk
  cache : CacheInv st.1 st.2 (fun b => 0 < h0.ext b ∨ b = st.2.roots.blk ∨ b = st.2.powTwoInv.blk)
  cok : st.2.r = Ptr.null → st.2.r_ = Ptr.null

theorem HS.pos {h0 : Heap} {D : Nat} {st : Heap × NTT_Goldilocks} (h : HS h0 D st) : 0 < st.1.size := by
  have := Heap.lt_size_of_live st.1 st.2.powTwoInv.blk (by have := h.pext; omega)
  omega

theorem HS.range {h0 : Heap} {D : Nat} {st : Heap × NTT_Goldilocks} (h : HS h0 D st) {p : Ptr} {n : Nat} (hn : 0 < n)
    (hp : p.off + n ≤ h0.ext p.blk) : p.off + n ≤ st.1.ext p.blk := by
  rw [h.keep _ (by omega)]; exact hp

theorem HS.roots_ok {h0 : Heap} {D : Nat} {st : Heap × NTT_Goldilocks} (h : HS h0 D st) :
    st.2.roots.off + 2 ^ st.2.s.toNat ≤ st.1.ext st.2.roots.blk := by
  rw [h.roff]; have := h.rext; omega

theorem HS.pti_ok {h0 : Heap} {D : Nat} {st : Heap × NTT_Goldilocks} (h : HS h0 D st) :
    st.2.powTwoInv.off + st.2.s.toNat + 1 ≤ st.1.ext st.2.powTwoInv.blk := by
  rw [h.poff]; have := h.pext; omega

theorem HS.ctor (fuel : Nat) (hf : 64 ≤ fuel) (h0 : Heap) (m : BitVec 64) (thr : BitVec 32) (e : Nat)
    (hm0 : m ≠ 0#64) (st : Heap × NTT_Goldilocks)
    (h : NTT_ctor fuel h0 NTT_Goldilocks.init m thr (e : Int) = some st) : HS h0 (Model.Ntt.log2 m.toNat) st := by
  obtain ⟨H1, obj⟩ := st
  obtain ⟨t1, t2, t3, t4, t5, t6, _, t8, _⟩ := ctor_tables fuel hf h0 H1 _ obj m thr e hm0 h
  obtain ⟨es0, er, er_⟩ : CtorInv obj := ctor_inv hm0 h
  refine ⟨fun b hb => t8 b (Heap.lt_size_of_live h0 b hb), t1, t2, es0, by rw [t3], by rw [t4], ?_, ?_, ?_, ?_, ?_,
    fun hr => absurd er hr, fun _ => er_⟩
  · show 2 ^ obj.s.toNat ≤ H1.ext obj.roots.blk
    rw [t3, t5]
  · show obj.s.toNat + 1 ≤ H1.ext obj.powTwoInv.blk
    rw [t4, t6]
  · show h0.ext obj.roots.blk = 0
    rw [t3]; exact Heap.ext_ge_size h0 _ (Nat.le_refl _)
  · show h0.ext obj.powTwoInv.blk = 0
    rw [t4]; exact Heap.ext_ge_size h0 _ (Nat.le_succ _)
  · show obj.roots.blk ≠ obj.powTwoInv.blk
    rw [t3, t4]; show h0.size ≠ h0.size + 1; omega

theorem HS.same {h0 : Heap} {D : Nat} {hp hp' : Heap} {self : NTT_Goldilocks} (h : HS h0 D (hp, self)) (hs : Heap.Same hp hp') :
    HS h0 D (hp', self) := by
  obtain ⟨a1, a2, a3, a4, a5, a6, a7, a8, a9, a10, a11, a12, a13⟩ := h
  exact ⟨fun b hb => by show hp'.ext b = _; rw [hs.2]; exact a1 b hb, a2, a3, a4, a5, a6, by show _ ≤ hp'.ext _; rw [hs.2]; exact a7,
    by show _ ≤ hp'.ext _; rw [hs.2]; exact a8, a9, a10, a11, CacheInv.mono a12 (fun _ x => x) (hs.2 _) (hs.2 _), a13⟩

theorem HS.nttShape {h0 : Heap} {D : Nat} {st : Heap × NTT_Goldilocks} (h : HS h0 D st) {dst src buffer : Ptr} {N NC K : Nat}
    (hKD : K ≤ D) (b : BufOK h0 dst src buffer N NC K) : NTTShape0 st.1 st.2 dst src buffer N NC K false := by
  obtain ⟨hK, hN, hNC, hbytes, hD, hsrc, hds, hbuf⟩ := b
  have hN0 : 0 < N := pow2_pos hN
  have hNNC0 : 0 < N * NC := Nat.mul_pos hN0 hNC
  have hN30 : N ≤ 2 ^ 30 := pow2_le hN hK
  have hsl : 0 < h0.ext src.blk := by omega
  refine ⟨hK, hN, hNC, hbytes, h.pos, h.range hNNC0 hD, ?_, ?_, hds, fun hb => ?_, Nat.le_trans hKD h.hsD, h.hs32, h.roots_ok,
    h.pti_ok, fun x => by cases x⟩
  · have := Nat.mul_le_mul_right NC (srcRows_le st.2 N (by omega))
    rw [h.keep _ hsl]; omega
  · exact Heap.lt_size_of_live st.1 _ (by rw [h.keep _ hsl]; exact hsl)
  · obtain ⟨b1, b2, b3⟩ := hbuf hb
    exact ⟨h.range hNNC0 b1, b2, b3⟩

theorem HS.epShape {h0 : Heap} {D : Nat} {st : Heap × NTT_Goldilocks} (h : HS h0 D st) {output input buffer : Ptr}
    {N NE NC dn de : Nat} (hdD : dn ≤ D) (b : EPBuf h0 output input buffer N NE NC dn de) :
    EPShape st.1 st.2 output input buffer N NE NC dn de := by
  obtain ⟨hdn, hde, hN, hNE, hNC, hbytes, hout0, hout, hin, hio, hbuf⟩ := b
  have hN0 : 0 < N := pow2_pos hN
  have hNE0 : 0 < NE := pow2_pos hNE
  have hNNC0 : 0 < N * NC := Nat.mul_pos hN0 hNC
  have hNENC0 : 0 < NE * NC := Nat.mul_pos hNE0 hNC
  refine ⟨hdn, hde, hN, hNE, hNC, hbytes, hout0, h.range hNENC0 hout, h.range hNNC0 hin, hio, fun hb => ?_,
    Nat.le_trans hdD h.hsD, h.hs32, h.roots_ok, h.pti_ok, ?_⟩
  · obtain ⟨b1, b2, b3⟩ := hbuf hb
    exact ⟨h.range hNENC0 b1, b2, b3⟩
  · refine CacheInv.mono h.cache (fun x hx => ?_) rfl rfl
    rcases hx with e | e | ⟨hb, e⟩ | e | e
    · rw [e]; exact Or.inl (by omega)
    · rw [e]; exact Or.inl (by omega)
    · rw [e]; exact Or.inl (by have := (hbuf hb).1; omega)
    · exact Or.inr (Or.inl e)
    · exact Or.inr (Or.inr e)

theorem call_safe (fuel : Nat) (hf : 64 ≤ fuel) (h0 : Heap) (D : Nat) (st : Heap × NTT_Goldilocks) (c : Call)
    (h : HS h0 D st) (hc : CallOK h0 D c) : Call.Safe fuel st c := by
  cases c with
  | ntt dst src size ncols buffer nphase nblock inverse extend =>
    obtain ⟨he, N, NC, K, e1, e2, hKD, b⟩ := hc
    subst he e1 e2
    exact NTT_safe_all fuel hf st.1 st.2 dst src buffer N NC K nphase nblock inverse false (h.nttShape hKD b)
  | intt dst src size ncols buffer nphase nblock extend =>
    obtain ⟨he, N, NC, K, e1, e2, hKD, b⟩ := hc
    subst he e1 e2
    exact INTT_safe_all fuel hf st.1 st.2 dst src buffer N NC K nphase nblock false (h.nttShape hKD b)
  | extendPol output input NE N ncols buffer nphase nblock =>
    obtain ⟨n, ne, nc, dn, de, e1, e2, e3, hdD, b⟩ := hc
    subst e1 e2 e3
    exact extendPol_safe fuel hf st.1 st.2 output input buffer n ne nc dn de nphase nblock (h.epShape hdD b)

/-- `runCall` on `.ntt` / `.intt`: the heap the transform returns, the object as it was -/
theorem transform_result {st st' : Heap × NTT_Goldilocks} {x : Option Heap} (hx : OInv (Heap.Same st.1) x)
    (hr : (x.bind fun h => some (h, st.2)) = some st') : ∃ y, Heap.Same st.1 y ∧ st' = (y, st.2) := by
  rw [Option.bind_eq_some_iff] at hr
  obtain ⟨y, hy, e⟩ := hr
  injection e with e
  exact ⟨y, hx y hy, e.symm⟩

theorem call_step (fuel : Nat) (hf : 64 ≤ fuel) (h0 : Heap) (D : Nat) (st st' : Heap × NTT_Goldilocks) (c : Call)
    (h : HS h0 D st) (hc : CallOK h0 D c) (hr : runCall fuel st c = some st') : HS h0 D st' := by
  cases c with
  | ntt dst src size ncols buffer nphase nblock inverse extend =>
    obtain ⟨y, hy, rfl⟩ :=
      transform_result (NTT_same fuel st.1 st.2 dst src size ncols buffer nphase nblock inverse extend h.pos) hr
    exact HS.same (self := st.2) h hy
  | intt dst src size ncols buffer nphase nblock extend =>
    obtain ⟨y, hy, rfl⟩ := transform_result (INTT_same fuel st.1 st.2 dst src size ncols buffer nphase nblock extend h.pos) hr
    exact HS.same (self := st.2) h hy
  | extendPol output input NE N ncols buffer nphase nblock =>
    obtain ⟨n, ne, nc, dn, de, e1, e2, e3, hdD, b⟩ := hc
    subst e1 e2 e3
    unfold runCall at hr
    obtain ⟨p1, ⟨q1, q2, q3, _, _⟩, p3, p4, _⟩ :=
      extendPol_post fuel hf st.1 st.2 output input buffer n ne nc dn de nphase nblock (h.epShape hdD b) st' hr
    have hold : ∀ x, (0 < h0.ext x ∨ x = st.2.roots.blk ∨ x = st.2.powTwoInv.blk) → EPOld st.1 st.2 x := by
      intro x hx
      refine ⟨?_, fun hcx => ?_⟩
      · rcases hx with e | e | e
        · rw [h.keep _ e]; exact e
        · rw [e]; have := h.rext; have : 0 < 2 ^ st.2.s.toNat := Nat.pow_pos (by decide); omega
        · rw [e]; have := h.pext; omega
      · obtain ⟨_, _, _, _, _, f, _⟩ := h.cache hcx.1
        obtain ⟨f1, f2⟩ := f x hx
        rcases hcx.2 with e | e
        · exact f1 e.symm
        · exact f2 e.symm
    have hr' := hold _ (Or.inr (Or.inl rfl))
    have hp' := hold _ (Or.inr (Or.inr rfl))
    refine ⟨fun x hx => by rw [p1 x (hold x (Or.inl hx))]; exact h.keep x hx, by rw [q1]; exact h.hsD, by rw [q1]; exact h.hs32,
      by rw [q1]; exact h.hs0, by rw [q2]; exact h.roff, by rw [q3]; exact h.poff, ?_, ?_, by rw [q2]; exact h.rdead,
      by rw [q3]; exact h.pdead, by rw [q2, q3]; exact h.rp, ?_, fun e => absurd e p4⟩
    · rw [q1, q2, p1 _ hr']; exact h.rext
    · rw [q1, q3, p1 _ hp']; exact h.pext
    · refine CacheInv.mono p3 (fun x hx => ?_) rfl rfl
      rw [q2, q3] at hx
      exact hold x hx

theorem runCalls_safe (fuel : Nat) (hf : 64 ≤ fuel) (h0 : Heap) (D : Nat) (cs : List Call) :
    ∀ (st : Heap × NTT_Goldilocks), HS h0 D st → (∀ c, c ∈ cs → CallOK h0 D c) →
      runCalls.Safe fuel st cs ∧ ∀ st', runCalls fuel st cs = some st' → HS h0 D st' := by
  induction cs with
  | nil =>
    intro st h _
    refine ⟨trivial, fun st' hr => ?_⟩
    unfold runCalls at hr
    injection hr with hr
    rw [← hr]; exact h
  | cons c cs ih =>
    intro st h hok
    have hc := hok c (List.mem_cons_self ..)
    have hrest : ∀ c', c' ∈ cs → CallOK h0 D c' := fun c' hc' => hok c' (List.mem_cons_of_mem _ hc')
    refine ⟨⟨call_safe fuel hf h0 D st c h hc, fun st1 h1 => (ih st1 (call_step fuel hf h0 D st st1 c h hc h1) hrest).1⟩,
      fun st' hr => ?_⟩
    unfold runCalls at hr
    rw [Option.bind_eq_some_iff] at hr
    obtain ⟨st1, h1, hr⟩ := hr
    exact (ih st1 (call_step fuel hf h0 D st st1 c h hc h1) hrest).2 st' hr

theorem HS.dtor {h0 : Heap} {D : Nat} {st : Heap × NTT_Goldilocks} (h : HS h0 D st) : NTT_dtor.Safe st.1 st.2 := by
  refine dtor_safe st.1 st.2 ⟨fun _ => ⟨h.roff, ?_, h.poff, ?_, h.rp⟩, fun hr => ?_, fun hr_ => ?_⟩
  · have := h.rext; have : 0 < 2 ^ st.2.s.toNat := Nat.pow_pos (by decide); omega
  · have := h.pext; omega
  · obtain ⟨a, b, _, _, _, f, _⟩ := h.cache hr
    exact ⟨a, b, fun _ => ⟨(f _ (Or.inr (Or.inl rfl))).1, (f _ (Or.inr (Or.inr rfl))).1⟩⟩
  · have hr : st.2.r ≠ Ptr.null := fun e => hr_ (h.cok e)
    obtain ⟨_, _, c, d, e, f, _⟩ := h.cache hr
    exact ⟨c, d, fun _ => ⟨(f _ (Or.inr (Or.inl rfl))).2, (f _ (Or.inr (Or.inr rfl))).2⟩, fun _ x => e x.symm⟩

/-- **in-bounds accesses of a whole object life**: the generated constructor (`maxDomainSize ≠ 0`) on any heap with its NULL
    block, any list of `NTT` / `INTT` / `extendPol` calls with documented arguments (`CallOK`: power-of-two sizes up to the
    domain the object was built for, the caller's buffers are blocks of `h0` of the documented extents), the generated
    destructor: every access, every `memcpy` / `memset` range and every release of the whole history is in bounds -/
theorem life_safe (fuel : Nat) (hf : 64 ≤ fuel) (h0 : Heap) (m : BitVec 64) (thr : BitVec 32) (e : Nat)
    (hm0 : m ≠ 0#64) (cs : List Call) (hok : ∀ c, c ∈ cs → CallOK h0 (Model.Ntt.log2 m.toNat) c) :
    life.Safe fuel h0 m thr (e : Int) cs := by
  refine ⟨ctor_safe _ _ _ _ _ _, fun st hst => ?_⟩
  have hs := HS.ctor fuel hf h0 m thr e hm0 st hst
  obtain ⟨s1, s2⟩ := runCalls_safe fuel hf h0 _ cs st hs hok
  exact ⟨s1, fun st' hr => (s2 st' hr).dtor⟩

end GoldilocksVerif.HeapSafe
