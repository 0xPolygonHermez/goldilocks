/-
  Bridge theorems: the small functions TRANSLATED from ntt_goldilocks.hpp / .cpp (Gen/NttGen.lean, heap mode) equal
  the corresponding pieces of the hand model Model/Ntt.lean:  log2, intt_idx, BR, root.
  Re-checked against the regenerated Gen/NttGen.lean on every run.
-/
import GoldilocksVerif.Gen.NttGen
import GoldilocksVerif.Model.Ntt
import GoldilocksVerif.Lemmas.HeapL

namespace GoldilocksVerif.BridgeNtt
open GoldilocksVerif Gen.NttGen

/-- fuel from which the `while (size != 1)` loop of `log2` cannot run out: 63 halvings + the last test -/
def log2Fuel : Nat := 64

theorem log2_loop (fuel : Nat) : ∀ (size : BitVec 64) (res : BitVec 32), size ≠ 0#64 → Nat.log2 size.toNat < fuel →
    res.toNat + Nat.log2 size.toNat < 2 ^ 32 →
    ∃ r : BitVec 32, Loop.whileM NTT_log2_loop1 fuel (size, res) = some (1#64, r) ∧
      r.toNat = res.toNat + Nat.log2 size.toNat := by
  induction fuel with
  | zero => intro size res _ h; omega
  | succ f ih =>
    intro size res hne hf hb
    by_cases h1 : size = 1#64
    · subst h1
      refine ⟨res, ?_, ?_⟩
      · rw [Loop.whileM_succ]; simp [NTT_log2_loop1]
      · have : Nat.log2 (1#64 : BitVec 64).toNat = 0 := by decide
        rw [this]; omega
    · have hn0 : size.toNat ≠ 0 := fun e => hne (BitVec.eq_of_toNat_eq (by simpa using e))
      have hn1 : size.toNat ≠ 1 := fun e => h1 (BitVec.eq_of_toNat_eq (by simpa using e))
      have h2 : 2 ≤ size.toNat := by omega
      have hl : Nat.log2 size.toNat = Nat.log2 (size.toNat / 2) + 1 := by
        rw [Nat.log2_def size.toNat]; simp [h2]
      have hsh : (size >>> 1).toNat = size.toNat / 2 := by
        rw [BitVec.toNat_ushiftRight, Nat.shiftRight_eq_div_pow]
      have hne' : size >>> 1 ≠ 0#64 := by
        intro e
        have := congrArg BitVec.toNat e
        rw [hsh] at this
        simp at this
        omega
      have hr : (res + 1#32).toNat = res.toNat + 1 := by
        rw [BitVec.toNat_add]
        have : (1#32 : BitVec 32).toNat = 1 := by decide
        rw [this]
        apply Nat.mod_eq_of_lt
        omega
      obtain ⟨r, hw, hrv⟩ := ih (size >>> 1) (res + 1#32) hne' (by rw [hsh]; omega) (by rw [hsh, hr]; omega)
      refine ⟨r, ?_, ?_⟩
      · rw [Loop.whileM_succ]
        have hstep : NTT_log2_loop1 (size, res) = some (true, (size >>> 1, res + 1#32)) := by
          simp [NTT_log2_loop1, h1]
        rw [hstep]
        exact hw
      · rw [hrv, hsh, hr, hl]; omega

theorem log2_gen_zero (fuel : Nat) : NTT_log2 fuel 0#64 = none := by
  unfold NTT_log2
  simp

/-- `size = 0` is the failed `assert(size != 0)` (`log2_gen_zero`) -/
theorem log2_gen_eq (fuel : Nat) (hf : log2Fuel ≤ fuel) (size : BitVec 64) (h : size ≠ 0#64) :
    NTT_log2 fuel size = some (BitVec.ofNat 32 (Model.Ntt.log2 size.toNat)) := by
  have hlt : Nat.log2 size.toNat < 64 := by
    have hn0 : size.toNat ≠ 0 := fun e => h (BitVec.eq_of_toNat_eq (by simpa using e))
    rw [Nat.log2_lt hn0]
    exact size.isLt
  obtain ⟨r, hw, hr⟩ := log2_loop fuel size 0#32 h (by unfold log2Fuel at hf; omega) (by simp; omega)
  have hb : (size != 0#64) = true := by simp [h]
  unfold NTT_log2
  rw [if_pos hb]
  simp only []
  rw [hw]
  show some r = _
  congr 1
  apply BitVec.eq_of_toNat_eq
  have h0 : (0#32 : BitVec 32).toNat = 0 := rfl
  rw [hr, h0, Nat.zero_add, BitVec.toNat_ofNat]
  simp only [Model.Ntt.log2]
  exact (Nat.mod_eq_of_lt (by omega)).symm

theorem intt_idx_gen (i N : Nat) (h : i ≤ N) : NTT_intt_idx (i : Int) (N : Int) = ((Model.Ntt.inttIdx i N : Nat) : Int) := by
  unfold NTT_intt_idx Model.Ntt.inttIdx
  by_cases h0 : i = 0
  · subst h0; simp
  · have h1 : ¬ ((N : Int) - (i : Int) = (N : Int)) := by omega
    have h2 : ¬ (N - i = N) := by omega
    simp [h1, h2]
    omega

theorem BR_gen (x dp : BitVec 64) (h : dp.toNat ≤ 32) : (BR x dp).toNat = Model.Ntt.br x.toNat dp.toNat := by
  have hs : (32#64 - dp).toNat = 32 - dp.toNat := by
    rw [BitVec.toNat_sub]
    have : (32#64 : BitVec 64).toNat = 32 := by decide
    rw [this]
    omega
  unfold BR Model.Ntt.br
  simp only [hs, BitVec.ofNat_toNat, BitVec.setWidth_eq]

/-- the word `root(domainPow, idx)` reads: `idx << (s - domainPow)`, on numbers -/
theorem root_idx (s dp : BitVec 32) (idx : BitVec 64) (hdp : dp.toNat ≤ s.toNat)
    (hidx : idx.toNat * 2 ^ (s.toNat - dp.toNat) < 2 ^ 64) :
    (idx <<< (s - dp).toNat).toNat = idx.toNat * 2 ^ (s.toNat - dp.toNat) := by
  have h1 : (s - dp).toNat = s.toNat - dp.toNat := by
    rw [BitVec.toNat_sub]
    have := dp.isLt
    have := s.isLt
    omega
  rw [h1, BitVec.toNat_shiftLeft, Nat.shiftLeft_eq]
  exact Nat.mod_eq_of_lt hidx

theorem root_gen (hp : Heap) (self : NTT_Goldilocks) (o : Model.Ntt.Obj) (dp : BitVec 32) (idx : BitVec 64)
    (hroots : hp.block self.roots.blk = o.roots) (hoff : self.roots.off = 0) (hs : self.s.toNat = o.s)
    (hdp : dp.toNat ≤ o.s) (hidx : idx.toNat * 2 ^ (o.s - dp.toNat) < 2 ^ 64) :
    NTT_root hp self dp idx = Model.Ntt.root o dp.toNat idx.toNat := by
  unfold NTT_root Model.Ntt.root
  rw [Heap.get_def, hroots, hoff, root_idx self.s dp idx (by rw [hs]; exact hdp) (by rw [hs]; exact hidx), hs, Nat.zero_add]

end GoldilocksVerif.BridgeNtt
