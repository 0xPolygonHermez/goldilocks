/-
  Order independence of the MODEL's parallel loops, generic part.

  `Lemmas/Bernstein.lean` works on memories `L → V`.  The hand model of the transforms (Model/Ntt.lean) works on
  buffers (`Array`) whose accesses are bounds-tolerant (`getD`, `setIfInBounds`), so here the same argument is made on
  states observed through a `View`: a shape (the buffer sizes) and the word at every location `(buffer, index)`, with
  the SAME predicate `Par.FootIndep` that the footprint theorems of Props/C12.lean establish.
  The footprints of the loop BODIES of Model/Ntt.lean are derived (Lemmas/NttParBatch.lean, Lemmas/NttParRev.lean)
  through two notions closed under the loops of the model (`iter`), `LocalB` and `Writer`; being bounds-tolerant they
  need no buffer-size hypotheses.
  Every loop is owner-computes (`FootIndep.of_writes`, Lemmas/Bernstein.lean), so the side condition of the any-order lemmas is the
  disjointness of the sets of words written (`DisjointOn`; for rows `rowsW_disj`); Props/C12.lean states Bernstein's conditions
  for the same sets over abstract buffers.  `fold_value`: what such a loop computes, location by location.
-/
import GoldilocksVerif.Lemmas.Bernstein
import GoldilocksVerif.Lemmas.NttArr

namespace GoldilocksVerif.Par
open GoldilocksVerif.Model.Ntt

/-- what the iterations of a parallel loop can observe of a state: the sizes of its buffers and the word at every
    location `(buffer, index)`; two states with the same shape and the same words are equal -/
structure View (S : Type) where
  shape : S → List Nat
  rd : S → Nat × Nat → W
  ext : ∀ s s', shape s = shape s' → (∀ l, rd s l = rd s' l) → s = s'

/-- `Par.Iter` on a view; the shape is kept, and every iteration may read it -/
structure PIter {S : Type} (V : View S) where
  run : S → S
  R : Nat × Nat → Prop
  W : Nat × Nat → Prop
  shape_eq : ∀ s, V.shape (run s) = V.shape s
  frame : ∀ s l, ¬ W l → V.rd (run s) l = V.rd s l
  dep : ∀ s s', V.shape s = V.shape s' → (∀ l, R l → V.rd s l = V.rd s' l) → ∀ l, W l → V.rd (run s) l = V.rd (run s') l

variable {S : Type} {V : View S}

theorem PIter.commute (f g : PIter V) (h : FootIndep f.R f.W g.R g.W) (s : S) : f.run (g.run s) = g.run (f.run s) := by
  obtain ⟨hww, hwr, hrw⟩ := h
  apply V.ext
  · rw [f.shape_eq, g.shape_eq, g.shape_eq, f.shape_eq]
  intro l
  by_cases hf : f.W l
  · have hg : ¬ g.W l := fun hg => hww l ⟨hf, hg⟩
    rw [g.frame _ l hg]
    exact f.dep _ _ (g.shape_eq s) (fun l' hr => g.frame s l' (fun hw => hrw l' ⟨hw, hr⟩)) l hf
  · rw [f.frame _ l hf]
    by_cases hg : g.W l
    · exact (g.dep _ _ (f.shape_eq s) (fun l' hr => f.frame s l' (fun hw => hwr l' ⟨hw, hr⟩)) l hg).symm
    · rw [g.frame _ l hg, g.frame _ l hg, f.frame _ l hf]

theorem any_order {ι : Type} (it : ι → PIter V) (l l' : List ι) (hp : l.Perm l')
    (hind : ∀ i ∈ l, ∀ j ∈ l, i ≠ j → FootIndep (it i).R (it i).W (it j).R (it j).W) (s : S) :
    l.foldl (fun s i => (it i).run s) s = l'.foldl (fun s i => (it i).run s) s :=
  foldl_perm_of_commute (fun i => (it i).run) l l' hp (fun i hi j hj hne => (it i).commute (it j) (hind i hi j hj hne)) s

/-- what a parallel loop computes, without a loop invariant: for pairwise independent iterations (each once), the words iteration
    `i` writes end up as iteration `i` ALONE leaves them when run on the initial state; the words nobody writes are untouched.
    Any order follows, and so does the specification of the sequential loop. -/
theorem fold_value {ι : Type} (it : ι → PIter V) (l : List ι) (hnd : l.Nodup)
    (hind : ∀ i ∈ l, ∀ j ∈ l, i ≠ j → FootIndep (it i).R (it i).W (it j).R (it j).W) (s : S) :
    V.shape (l.foldl (fun s i => (it i).run s) s) = V.shape s ∧
    (∀ i ∈ l, ∀ x, (it i).W x → V.rd (l.foldl (fun s i => (it i).run s) s) x = V.rd ((it i).run s) x) ∧
    ∀ x, (∀ i ∈ l, ¬ (it i).W x) → V.rd (l.foldl (fun s i => (it i).run s) s) x = V.rd s x := by
  induction l generalizing s with
  | nil => exact ⟨rfl, fun i hi => absurd hi List.not_mem_nil, fun _ _ => rfl⟩
  | cons a l ih =>
    obtain ⟨hal, hnd'⟩ := List.nodup_cons.1 hnd
    obtain ⟨i1, i2, i3⟩ := ih hnd' (fun i hi j hj => hind i (List.mem_cons_of_mem _ hi) j (List.mem_cons_of_mem _ hj))
      ((it a).run s)
    rw [List.foldl_cons]
    refine ⟨i1.trans ((it a).shape_eq s), fun i hi x hw => ?_, fun x hx => ?_⟩
    · rcases List.mem_cons.1 hi with rfl | hil
      · -- nobody after `i` writes `x`
        exact i3 x (fun j hj hwj =>
          (hind i List.mem_cons_self j (List.mem_cons_of_mem _ hj) (fun e => hal (e ▸ hj))).1 x ⟨hw, hwj⟩)
      · -- `a`, run before `i`, wrote nothing that `i` reads
        rw [i2 i hil x hw]
        exact (it i).dep _ _ ((it a).shape_eq s) (fun y hr => (it a).frame s y (fun hwa =>
          (hind i hi a List.mem_cons_self (fun e => hal (e ▸ hil))).2.2 y ⟨hwa, hr⟩)) x hw
    · rw [i3 x (fun i hi => hx i (List.mem_cons_of_mem _ hi)), (it a).frame s x (hx a List.mem_cons_self)]

theorem iter_eq_foldl {σ : Type} (n : Nat) (s : σ) (f : Nat → σ → σ) :
    iter n s f = (List.range n).foldl (fun s i => f i s) s := by
  induction n with
  | zero => rfl
  | succ n ih => rw [iter_succ, List.range_succ, List.foldl_append, ← ih]; rfl

/-- `fold_value` for a counted loop of the model -/
theorem PIter.iter_at {n : Nat} (it : Nat → PIter V)
    (hind : ∀ i j, i < n → j < n → i ≠ j → FootIndep (it i).R (it i).W (it j).R (it j).W) (s : S) :
    V.shape (Model.Ntt.iter n s (fun i s => (it i).run s)) = V.shape s ∧
    (∀ i, i < n → ∀ l, (it i).W l → V.rd (Model.Ntt.iter n s (fun i s => (it i).run s)) l = V.rd ((it i).run s) l) ∧
    ∀ l, (∀ i, i < n → ¬ (it i).W l) → V.rd (Model.Ntt.iter n s (fun i s => (it i).run s)) l = V.rd s l := by
  rw [iter_eq_foldl]
  obtain ⟨h1, h2, h3⟩ := fold_value it (List.range n) List.nodup_range
    (fun i hi j hj => hind i j (List.mem_range.1 hi) (List.mem_range.1 hj)) s
  exact ⟨h1, fun i hi => h2 i (List.mem_range.2 hi), fun l hl => h3 l (fun i hi => hl i (List.mem_range.1 hi))⟩

def view1 : View Buf where
  shape a := [a.size]
  rd a l := if l.1 = 0 then a.getD l.2 0#64 else 0#64
  ext := fun a a' hs h => buf_ext a a' (List.cons.inj hs).1 (fun j _ => h (0, j))

def view2 : View (Buf × Buf) where
  shape st := [st.1.size, st.2.size]
  rd st l := if l.1 = 0 then st.1.getD l.2 0#64 else if l.1 = 1 then st.2.getD l.2 0#64 else 0#64
  ext := fun _ _ hs h =>
    Prod.ext (buf_ext _ _ (List.cons.inj hs).1 (fun j _ => h (0, j)))
      (buf_ext _ _ (List.cons.inj (List.cons.inj hs).2).1 (fun j _ => h (1, j)))

def Agree (X : Nat → Prop) (a a' : Buf) : Prop := ∀ j, X j → a.getD j 0#64 = a'.getD j 0#64

/-- the same words of `X` are in bounds in both buffers (all the model's writes are `setIfInBounds`): what two runs on buffers of
    DIFFERENT sizes must share for their writes to `X` to agree -/
def InB (X : Nat → Prop) (a a' : Buf) : Prop := ∀ j, X j → (j < a.size ↔ j < a'.size)

theorem InB.of_eq {X : Nat → Prop} {a a' : Buf} (h : a.size = a'.size) : InB X a a' := fun _ _ => by rw [h]

theorem InB.of_le {X : Nat → Prop} {a a' : Buf} {n : Nat} (hX : ∀ j, X j → j < n) (h : n ≤ a.size) (h' : n ≤ a'.size) :
    InB X a a' := fun j hj => by have := hX j hj; constructor <;> intro <;> omega

theorem InB.sizes {X : Nat → Prop} {a a' b b' : Buf} (h : InB X a a') (e : b.size = a.size) (e' : b'.size = a'.size) :
    InB X b b' := fun j hj => by rw [e, e']; exact h j hj

theorem InB.mono {X Y : Nat → Prop} {a a' : Buf} (h : InB Y a a') (hXY : ∀ j, X j → Y j) : InB X a a' :=
  fun j hj => h j (hXY j hj)

/-- `f` touches only the words `X`, and its result on `X` depends only on the words `X` (and on the size) -/
structure Local (f : Buf → Buf) (X : Nat → Prop) : Prop where
  size : ∀ a, (f a).size = a.size
  frame : ∀ a j, ¬ X j → (f a).getD j 0#64 = a.getD j 0#64
  dep : ∀ a a', a.size = a'.size → Agree X a a' → Agree X (f a) (f a')

/-- `Local` for runs on buffers of different sizes: the result on `X` depends only on the words `X` and on which of them are in
    bounds.  The footprints of the model's bodies are proved in this form; `Local` is what it says of two buffers of one size. -/
structure LocalB (f : Buf → Buf) (X : Nat → Prop) : Prop where
  size : ∀ a, (f a).size = a.size
  frame : ∀ a j, ¬ X j → (f a).getD j 0#64 = a.getD j 0#64
  dep : ∀ a a', InB X a a' → Agree X a a' → Agree X (f a) (f a')

theorem LocalB.toLocal {f : Buf → Buf} {X : Nat → Prop} (h : LocalB f X) : Local f X :=
  ⟨h.size, h.frame, fun a a' hs => h.dep a a' (.of_eq hs)⟩

theorem Local.mono {f : Buf → Buf} {X Y : Nat → Prop} (h : Local f X) (hXY : ∀ j, X j → Y j) : Local f Y where
  size := h.size
  frame := fun a j hj => h.frame a j (fun hx => hj (hXY j hx))
  dep := by
    intro a a' hs hag j hj
    by_cases hx : X j
    · exact h.dep a a' hs (fun j' hj' => hag j' (hXY j' hj')) j hx
    · rw [h.frame a j hx, h.frame a' j hx]; exact hag j hj

theorem Local.id (X : Nat → Prop) : Local (fun a => a) X :=
  ⟨fun _ => rfl, fun _ _ _ => rfl, fun _ _ _ h => h⟩

/-- a loop whose every iteration is local to `X` is local to `X` -/
theorem Local.iter {X : Nat → Prop} (n : Nat) (f : Nat → Buf → Buf) (h : ∀ i, i < n → Local (f i) X) :
    Local (fun a => Model.Ntt.iter n a f) X := by
  induction n with
  | zero => exact Local.id X
  | succ n ih =>
    have ih := ih (fun i hi => h i (by omega))
    have hn := h n (by omega)
    simp only [iter_succ]
    exact ⟨fun a => by rw [hn.size, ih.size], fun a j hj => by rw [hn.frame _ j hj, ih.frame a j hj],
      fun a a' hs hag => hn.dep _ _ (by rw [ih.size, ih.size, hs]) (ih.dep a a' hs hag)⟩

theorem Local.ite {X : Nat → Prop} (c : Prop) [Decidable c] {f g : Buf → Buf} (hf : Local f X) (hg : Local g X) :
    Local (fun a => if c then f a else g a) X := by
  by_cases h : c
  · simp only [if_pos h]; exact hf
  · simp only [if_neg h]; exact hg

/-- `f src dst` writes only the words `Wr` of `dst`; what it writes depends only on the words `Rd` of `src` -/
structure Writer (f : Buf → Buf → Buf) (Rd Wr : Nat → Prop) : Prop where
  size : ∀ s d, (f s d).size = d.size
  frame : ∀ s d j, ¬ Wr j → (f s d).getD j 0#64 = d.getD j 0#64
  dep : ∀ s s' d d', InB Wr d d' → Agree Rd s s' → Agree Wr (f s d) (f s' d')

theorem LocalB.mono {f : Buf → Buf} {X Y : Nat → Prop} (h : LocalB f X) (hXY : ∀ j, X j → Y j) : LocalB f Y where
  size := h.size
  frame := fun a j hj => h.frame a j (fun hx => hj (hXY j hx))
  dep := by
    intro a a' hs hag j hj
    by_cases hx : X j
    · exact h.dep a a' (hs.mono hXY) (fun j' hj' => hag j' (hXY j' hj')) j hx
    · rw [h.frame a j hx, h.frame a' j hx]; exact hag j hj

theorem LocalB.comp {f g : Buf → Buf} {X : Nat → Prop} (hf : LocalB f X) (hg : LocalB g X) : LocalB (fun a => g (f a)) X where
  size := fun a => by rw [hg.size, hf.size]
  frame := fun a j hj => by rw [hg.frame _ j hj, hf.frame a j hj]
  dep := fun a a' hs hag => hg.dep _ _ (hs.sizes (hf.size a) (hf.size a')) (hf.dep a a' hs hag)

theorem LocalB.id (X : Nat → Prop) : LocalB (fun a => a) X :=
  ⟨fun _ => rfl, fun _ _ _ => rfl, fun _ _ _ h => h⟩

theorem LocalB.iter {X : Nat → Prop} (n : Nat) (f : Nat → Buf → Buf) (h : ∀ i, i < n → LocalB (f i) X) :
    LocalB (fun a => Model.Ntt.iter n a f) X := by
  induction n with
  | zero => exact LocalB.id X
  | succ n ih =>
    have := LocalB.comp (ih (fun i hi => h i (by omega))) (h n (by omega))
    have e : (fun a => Model.Ntt.iter (n + 1) a f) = (fun a => f n (Model.Ntt.iter n a f)) := by funext a; rw [iter_succ]
    rw [e]; exact this

theorem LocalB.ite {X : Nat → Prop} (c : Prop) [Decidable c] {f g : Buf → Buf} (hf : LocalB f X) (hg : LocalB g X) :
    LocalB (fun a => if c then f a else g a) X := by
  by_cases h : c
  · simp only [if_pos h]; exact hf
  · simp only [if_neg h]; exact hg

theorem Writer.monoR {f : Buf → Buf → Buf} {Rd Rd' Wr : Nat → Prop} (h : Writer f Rd Wr) (hR : ∀ j, Rd j → Rd' j) :
    Writer f Rd' Wr :=
  ⟨h.size, h.frame, fun s s' d d' hs hag => h.dep s s' d d' hs (fun j hj => hag j (hR j hj))⟩

theorem Writer.congrW {f : Buf → Buf → Buf} {Rd Wr Wr' : Nat → Prop} (h : Writer f Rd Wr) (hW : ∀ j, Wr' j ↔ Wr j) :
    Writer f Rd Wr' :=
  ⟨h.size, fun s d j hj => h.frame s d j (fun hw => hj ((hW j).2 hw)),
   fun s s' d d' hs hag j hj => h.dep s s' d d' (fun j hj => hs j ((hW j).2 hj)) hag j ((hW j).1 hj)⟩

theorem Writer.iter {Rd : Nat → Prop} (n : Nat) (f : Nat → Buf → Buf → Buf) (Wr : Nat → Nat → Prop)
    (h : ∀ x, x < n → Writer (f x) Rd (Wr x)) :
    Writer (fun s d => Model.Ntt.iter n d (fun x d => f x s d)) Rd (fun j => ∃ x, x < n ∧ Wr x j) := by
  induction n with
  | zero =>
    exact ⟨fun _ _ => rfl, fun _ _ _ _ => rfl, fun _ _ _ _ _ _ j hj => by obtain ⟨x, hx, _⟩ := hj; omega⟩
  | succ n ih =>
    have ih := ih (fun x hx => h x (by omega))
    have hn := h n (by omega)
    refine ⟨?_, ?_, ?_⟩
    · intro s d; simp only [iter_succ]; rw [hn.size]; exact ih.size s d
    · intro s d j hj
      simp only [iter_succ]
      rw [hn.frame _ _ j (fun hw => hj ⟨n, by omega, hw⟩)]
      exact ih.frame s d j (fun ⟨x, hx, hw⟩ => hj ⟨x, by omega, hw⟩)
    · intro s s' d d' hs hag j hj
      simp only [iter_succ]
      by_cases hw : Wr n j
      · exact hn.dep s s' _ _ ((hs.sizes (ih.size s d) (ih.size s' d')).mono (fun j hj => ⟨n, by omega, hj⟩)) hag j hw
      · rw [hn.frame _ _ j hw, hn.frame _ _ j hw]
        obtain ⟨x, hx, hxw⟩ := hj
        have hxn : x < n := by
          rcases Nat.lt_or_ge x n with h1 | h1
          · exact h1
          · have : x = n := by omega
            subst this; exact absurd hxw hw
        exact ih.dep s s' d d' (hs.mono (fun j ⟨x, hx, hw⟩ => ⟨x, by omega, hw⟩)) hag j ⟨x, hxn, hxw⟩

/-- with its source fixed, a writer is a step local to the words it writes -/
theorem Writer.local {f : Buf → Buf → Buf} {Rd Wr : Nat → Prop} (h : Writer f Rd Wr) (s : Buf) : LocalB (f s) Wr :=
  ⟨h.size s, h.frame s, fun d d' hs _ => h.dep s s d d' hs (fun _ _ => rfl)⟩

theorem Writer.ite {Rd Wr : Nat → Prop} (c : Prop) [Decidable c] {f g : Buf → Buf → Buf} (hf : Writer f Rd Wr)
    (hg : Writer g Rd Wr) : Writer (fun s d => if c then f s d else g s d) Rd Wr := by
  by_cases h : c
  · simp only [if_pos h]; exact hf
  · simp only [if_neg h]; exact hg

/-- a step local to `X` followed by a writer that reads the ORIGINAL buffer and writes into the result of the step, both
    inside `X`, is local to `X` (with the identity as the step: a writer applied to its own buffer) -/
theorem LocalB.thenWriter {f : Buf → Buf} {g : Buf → Buf → Buf} {Rd Wr X : Nat → Prop} (hf : LocalB f X) (hg : Writer g Rd Wr)
    (hR : ∀ j, Rd j → X j) (hW : ∀ j, Wr j → X j) : LocalB (fun d => g d (f d)) X where
  size := fun a => by rw [hg.size, hf.size]
  frame := fun a j hj => by rw [hg.frame a _ j (fun hw => hj (hW j hw)), hf.frame a j hj]
  dep := by
    intro a a' hs hag j hj
    by_cases hw : Wr j
    · exact hg.dep a a' _ _ ((hs.mono hW).sizes (hf.size a) (hf.size a')) (fun j' hj' => hag j' (hR j' hj')) j hw
    · rw [hg.frame a _ j hw, hg.frame a' _ j hw]; exact hf.dep a a' hs hag j hj

/-- `for (k = 0; k < n; k++) d[d0 + k] = g s k` (the shape of `copyRow`, `zeroRow`, `scaleRow`), the values `g s k` depending on
    the words `Rd` of the source `s` only -/
theorem fill_writer (Rd : Nat → Prop) (d0 n : Nat) (g : Buf → Nat → W)
    (hg : ∀ s s', Agree Rd s s' → ∀ k, k < n → g s k = g s' k) :
    Writer (fun s d => iter n d (fun k d => d.setIfInBounds (d0 + k) (g s k))) Rd (fun j => d0 ≤ j ∧ j < d0 + n) where
  size := fun s d => fill_size d d0 n _
  frame := fun s d j hj => by rw [fill_getD, if_neg (fun c => hj ⟨c.1, c.2.1⟩)]
  dep := by
    intro s s' d d' hs hag j hj
    rw [fill_getD, fill_getD]
    by_cases hb : j < d.size
    · rw [if_pos ⟨hj.1, hj.2, hb⟩, if_pos ⟨hj.1, hj.2, (hs j hj).1 hb⟩]
      exact hg s s' hag _ (by omega)
    · have hb' : ¬ j < d'.size := fun c => hb ((hs j hj).2 c)
      rw [if_neg (fun c => hb c.2.2), if_neg (fun c => hb' c.2.2), getD_ge d j (by omega), getD_ge d' j (by omega)]

/-- `memcpy(&dst[d0], &src[so], n)` -/
theorem copyRow_writer (d0 so n : Nat) :
    Writer (fun s d => copyRow d d0 s so n) (fun j => so ≤ j ∧ j < so + n) (fun j => d0 ≤ j ∧ j < d0 + n) :=
  fill_writer _ d0 n (fun s k => s.getD (so + k) 0#64) (fun _ _ hag k hk => hag _ ⟨by omega, by omega⟩)

theorem zeroRow_writer (Rd : Nat → Prop) (d0 n : Nat) :
    Writer (fun _ d => zeroRow d d0 n) Rd (fun j => d0 ≤ j ∧ j < d0 + n) :=
  fill_writer Rd d0 n (fun _ _ => 0#64) (fun _ _ _ _ _ => rfl)

/-- `for k: mul(a2[d0 + k], a[s0 + k], f)` -/
theorem scaleRow_writer (d0 s0 n : Nat) (fac : W) :
    Writer (fun s d => scaleRow d s d0 s0 n fac) (fun j => s0 ≤ j ∧ j < s0 + n) (fun j => d0 ≤ j ∧ j < d0 + n) :=
  fill_writer _ d0 n (fun s k => Gen.Scalar.mul__eEE (s.getD (s0 + k) 0#64) fac)
    (fun _ _ hag k hk => by rw [hag _ ⟨by omega, by omega⟩])

/-- the words of the rows `r` with `P r` of a row-major matrix with `nc` columns -/
def rowsW (nc : Nat) (P : Nat → Prop) : Nat → Prop := fun j => ∃ r, P r ∧ r * nc ≤ j ∧ j < r * nc + nc

theorem row_unique (nc r r' j : Nat) (h1 : r * nc ≤ j) (h2 : j < r * nc + nc) (h1' : r' * nc ≤ j) (h2' : j < r' * nc + nc) :
    r = r' := by
  rcases Nat.lt_trichotomy r r' with h | h | h
  · have : (r + 1) * nc ≤ r' * nc := Nat.mul_le_mul_right _ h
    rw [Nat.add_mul, Nat.one_mul] at this; omega
  · exact h
  · have : (r' + 1) * nc ≤ r * nc := Nat.mul_le_mul_right _ h
    rw [Nat.add_mul, Nat.one_mul] at this; omega

theorem rowsW_cell {nc : Nat} {P : Nat → Prop} {r k : Nat} (hk : k < nc) : rowsW nc P (r * nc + k) ↔ P r :=
  ⟨fun ⟨r', hr', h1, h2⟩ => row_unique nc r r' _ (by omega) (by omega) h1 h2 ▸ hr', fun h => ⟨r, h, by omega, by omega⟩⟩

theorem rowsW_disj {nc : Nat} {P Q : Nat → Prop} (h : ∀ r, P r → ¬ Q r) (w : Nat) (hp : rowsW nc P w) : ¬ rowsW nc Q w := by
  rintro ⟨r', hq, h1', h2'⟩
  obtain ⟨r, hr, h1, h2⟩ := hp
  exact h r hr (row_unique nc r r' w h1 h2 h1' h2' ▸ hq)

theorem FootIndep.congr {L : Type} {R1 W1 R2 W2 R1' W1' R2' W2' : L → Prop} (h : FootIndep R1 W1 R2 W2)
    (e1 : ∀ l, R1' l → R1 l) (e2 : ∀ l, W1' l → W1 l) (e3 : ∀ l, R2' l → R2 l) (e4 : ∀ l, W2' l → W2 l) :
    FootIndep R1' W1' R2' W2' :=
  ⟨fun l hl => h.1 l ⟨e2 l hl.1, e4 l hl.2⟩, fun l hl => h.2.1 l ⟨e2 l hl.1, e3 l hl.2⟩,
   fun l hl => h.2.2 l ⟨e4 l hl.1, e1 l hl.2⟩⟩

def PIter.ofLocal (f : Buf → Buf) (X : Nat → Prop) (h : Local f X) : PIter view1 where
  run := f
  R := fun l => l.1 = 0 ∧ X l.2
  W := fun l => l.1 = 0 ∧ X l.2
  shape_eq := fun a => congrArg (fun n => [n]) (h.size a)
  frame := by
    rintro a ⟨b, j⟩ hl
    cases b with
    | zero => exact h.frame a j (fun hx => hl ⟨rfl, hx⟩)
    | succ b => rfl
  dep := by
    rintro a a' hs hag ⟨b, j⟩ ⟨hb, hj⟩
    subst hb
    exact h.dep a a' (List.cons.inj hs).1 (fun j hj => hag (0, j) ⟨rfl, hj⟩) j hj

/-- the same for steps on one buffer local to pairwise disjoint sets of words -/
theorem LocalB.iter_at {n : Nat} {f : Nat → Buf → Buf} {X : Nat → Nat → Prop} (h : ∀ i, LocalB (f i) (X i))
    (hd : ∀ i j, i < n → j < n → i ≠ j → ∀ w, X i w → ¬ X j w) (a : Buf) :
    (Model.Ntt.iter n a f).size = a.size ∧ (∀ i, i < n → Agree (X i) (Model.Ntt.iter n a f) (f i a)) ∧
    ∀ w, (∀ i, i < n → ¬ X i w) → (Model.Ntt.iter n a f).getD w 0#64 = a.getD w 0#64 := by
  have hdis : ∀ i j, i < n → j < n → i ≠ j → ∀ l : Nat × Nat, ¬ ((l.1 = 0 ∧ X i l.2) ∧ (l.1 = 0 ∧ X j l.2)) :=
    fun i j hi hj hij l hl => hd i j hi hj hij l.2 hl.1.2 hl.2.2
  obtain ⟨h1, h2, h3⟩ := PIter.iter_at (n := n) (fun i => PIter.ofLocal (f i) (X i) (h i).toLocal)
    (fun i j hi hj hij => ⟨hdis i j hi hj hij, hdis i j hi hj hij, hdis j i hj hi (Ne.symm hij)⟩) a
  exact ⟨(List.cons.inj h1).1, fun i hi w hw => h2 i hi (0, w) ⟨rfl, hw⟩, fun w hw => h3 (0, w) (fun i hi hx => hw i hi hx.2)⟩

def PIter.ofWriter (f : Buf → Buf → Buf) (Rd Wr : Nat → Prop) (h : Writer f Rd Wr) : PIter view2 where
  run := fun st => (st.1, f st.1 st.2)
  R := fun l => l.1 = 0 ∧ Rd l.2
  W := fun l => l.1 = 1 ∧ Wr l.2
  shape_eq := fun st => congrArg (fun n => [st.1.size, n]) (h.size st.1 st.2)
  frame := by
    rintro st ⟨b, j⟩ hl
    match b with
    | 0 => rfl
    | 1 => exact h.frame _ _ j (fun hx => hl ⟨rfl, hx⟩)
    | b + 2 => rfl
  dep := by
    rintro st st' hs hag ⟨b, j⟩ ⟨hb, hj⟩
    subst hb
    exact h.dep _ _ _ _ (.of_eq (List.cons.inj (List.cons.inj hs).2).1) (fun j hj => hag (0, j) ⟨rfl, hj⟩) j hj

def PIter.ofLocalWriter (f : Buf → Buf) (g : Buf → Buf → Buf) (X Y : Nat → Prop) (hf : Local f X) (hg : Writer g X Y) :
    PIter view2 where
  run := fun st => (f st.1, g (f st.1) st.2)
  R := fun l => l.1 = 0 ∧ X l.2
  W := fun l => (l.1 = 0 ∧ X l.2) ∨ (l.1 = 1 ∧ Y l.2)
  shape_eq := fun st => by
    show [(f st.1).size, (g (f st.1) st.2).size] = [st.1.size, st.2.size]; rw [hf.size, hg.size]
  frame := by
    rintro st ⟨b, j⟩ hl
    match b with
    | 0 => exact hf.frame _ j (fun hx => hl (Or.inl ⟨rfl, hx⟩))
    | 1 => exact hg.frame _ _ j (fun hx => hl (Or.inr ⟨rfl, hx⟩))
    | b + 2 => rfl
  dep := by
    rintro st st' hs hag ⟨b, j⟩ hl
    have hfX := hf.dep _ _ (List.cons.inj hs).1 (fun j hj => hag (0, j) ⟨rfl, hj⟩)
    rcases hl with ⟨hb, hj⟩ | ⟨hb, hj⟩
    · subst hb; exact hfX j hj
    · subst hb; exact hg.dep _ _ _ _ (.of_eq (List.cons.inj (List.cons.inj hs).2).1) hfX j hj

theorem foldl_writer {ι : Type} (f : ι → Buf → Buf → Buf) (src : Buf) (l : List ι) (d : Buf) :
    l.foldl (fun (st : Buf × Buf) i => (st.1, f i st.1 st.2)) (src, d) = (src, l.foldl (fun d i => f i src d) d) := by
  induction l generalizing d with
  | nil => rfl
  | cons i rest ih => simp only [List.foldl_cons]; exact ih _

/-- pairwise disjointness of a family of word sets over the members of a list -/
def DisjointOn {ι : Type} (l : List ι) (X : ι → Nat → Prop) : Prop := ∀ i ∈ l, ∀ j ∈ l, i ≠ j → ∀ x, X i x → ¬ X j x

/-- writers from a source that is not written, into pairwise disjoint sets of words, in any order (what they read does not
    matter: the source is the other buffer) -/
theorem writers_any_order {ι : Type} (f : ι → Buf → Buf → Buf) (Rd Wr : ι → Nat → Prop)
    (h : ∀ i, Writer (f i) (Rd i) (Wr i)) (l l' : List ι) (hp : l.Perm l') (hW : DisjointOn l Wr) (src d : Buf) :
    l.foldl (fun d i => f i src d) d = l'.foldl (fun d i => f i src d) d := by
  have := any_order (fun i => PIter.ofWriter (f i) (Rd i) (Wr i) (h i)) l l' hp
    (fun i hi j hj hne => FootIndep.of_writes (fun w => w.1 = 0) (fun w hw => hW i hi j hj hne w.2 hw.1.2 hw.2.2)
      (fun _ hr => Or.inr hr.1) (fun _ hr => Or.inr hr.1)
      (fun w h0 => ⟨fun hw => absurd (h0.symm.trans hw.1) (by decide), fun hw => absurd (h0.symm.trans hw.1) (by decide)⟩))
    (src, d)
  exact congrArg Prod.snd ((foldl_writer f src l d).symm.trans (this.trans (foldl_writer f src l' d)))

/-- in-place steps on pairwise disjoint sets of words, in any order -/
theorem locals_any_order {ι : Type} (f : ι → Buf → Buf) (X : ι → Nat → Prop) (h : ∀ i, Local (f i) (X i))
    (l l' : List ι) (hp : l.Perm l') (hX : DisjointOn l X) (d : Buf) :
    l.foldl (fun d i => f i d) d = l'.foldl (fun d i => f i d) d :=
  any_order (fun i => PIter.ofLocal (f i) (X i) (h i)) l l' hp
    (fun i hi j hj hne => FootIndep.of_writes (fun _ => False) (fun w hw => hX i hi j hj hne w.2 hw.1.2 hw.2.2)
      (fun _ => Or.inl) (fun _ => Or.inl) (fun _ => False.elim)) d

end GoldilocksVerif.Par
