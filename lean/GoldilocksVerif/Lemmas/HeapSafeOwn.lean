/-
  Allocation balance of the GENERATED NTT model, part 2: the functions that allocate or release blocks the object
  keeps — constructor, `computeR`, destructor, `extendPol` — and whole histories  constructor → calls → destructor.

  `Fr base O hp`: the heap `hp` has the extents `base` outside the set `O` of block numbers, and every block number in `O`
  is dead in `base` (extent 0: never allocated, or released).  Read: "`hp` is `base` plus blocks allocated since, all of
  them listed in `O`; nothing that `base` had was released".  `Heap.alloc` adds the new block number to `O`, `Heap.free`
  of a block in `O` removes it, the shape-preserving functions of part 1 keep `Fr`.

  `Tables self` / `Cache self` / `Owned self`: the block numbers the object state `self` holds pointers to and releases
  in its destructor (`roots`, `powTwoInv` when `s != 0`;  `r`, `r_` when not NULL).
-/
import GoldilocksVerif.Lemmas.HeapSafeBal
import GoldilocksVerif.Lemmas.BridgeNttComputeR

namespace GoldilocksVerif.HeapSafe
open GoldilocksVerif Gen.NttGen

structure Fr (base : Nat → Nat) (O : Nat → Prop) (hp : Heap) : Prop where
  pos : 0 < hp.size
  dead : ∀ b, O b → base b = 0
  frame : ∀ b, ¬ O b → hp.ext b = base b

namespace Fr
variable {base : Nat → Nat} {O : Nat → Prop} {hp : Heap}

theorem refl (hp : Heap) (hs : 0 < hp.size) : Fr hp.ext (fun _ => False) hp :=
  ⟨hs, fun _ h => h.elim, fun _ _ => rfl⟩

/-- any heap, with the blocks in `O` counted as allocated since -/
theorem ofExt (hp : Heap) (hs : 0 < hp.size) (O : Nat → Prop) [DecidablePred O] :
    Fr (fun b => if O b then 0 else hp.ext b) O hp :=
  ⟨hs, fun _ hb => if_pos hb, fun _ hb => (if_neg hb).symm⟩

theorem same (h : Fr base O hp) {hp' : Heap} (hs : Heap.Same hp hp') : Fr base O hp' :=
  ⟨hs.size_pos h.pos, h.dead, fun b hb => (hs.2 b).trans (h.frame b hb)⟩

theorem mono (h : Fr base O hp) {O' : Nat → Prop} (hd : ∀ b, O' b → base b = 0) (hsub : ∀ b, O b → O' b) : Fr base O' hp :=
  ⟨h.pos, hd, fun b hb => h.frame b (fun x => hb (hsub b x))⟩

theorem iff (h : Fr base O hp) {O' : Nat → Prop} (hi : ∀ b, O' b ↔ O b) : Fr base O' hp :=
  h.mono (fun b hb => h.dead b ((hi b).1 hb)) (fun b hb => (hi b).2 hb)

theorem alloc (h : Fr base O hp) (n : Nat) : Fr base (fun b => O b ∨ b = hp.size) (hp.alloc n).1 := by
  refine ⟨by rw [Heap.size_alloc]; exact Nat.succ_pos _, ?_, ?_⟩
  · intro b hb
    rcases hb with hb | hb
    · exact h.dead b hb
    · by_cases ho : O b
      · exact h.dead b ho
      · rw [← h.frame b ho, hb]; exact Heap.ext_ge_size hp _ (Nat.le_refl _)
  · intro b hb
    rw [Heap.ext_alloc, if_neg (fun e => hb (Or.inr e))]
    exact h.frame b (fun x => hb (Or.inl x))

/-- releasing a block that `base` does not have (NULL: nothing happens) -/
theorem free (h : Fr base O hp) (p : Ptr) (hdead : p.blk ≠ 0 → base p.blk = 0) :
    Fr base (fun b => O b ∧ ¬ (b = p.blk ∧ p.blk ≠ 0)) (hp.free p) := by
  refine ⟨?_, fun b hb => h.dead b hb.1, ?_⟩
  · rw [Heap.size_free]
    have := h.pos
    split
    · rename_i hc; omega
    · exact this
  · intro b hb
    rw [Heap.ext_free]
    by_cases hc : b = p.blk ∧ p.blk ≠ 0
    · rw [if_pos hc, hc.1]
      exact (hdead hc.2).symm
    · rw [if_neg hc]
      exact h.frame b (fun x => hb ⟨x, hc⟩)

theorem free_if (h : Fr base O hp) (c : Prop) [Decidable c] (p : Ptr) (hdead : c → p.blk ≠ 0 → base p.blk = 0) :
    Fr base (fun b => O b ∧ ¬ (c ∧ b = p.blk ∧ b ≠ 0)) (if c then hp.free p else hp) := by
  by_cases hc : c
  · rw [if_pos hc]
    refine (h.free p (hdead hc)).mono (fun b hb => h.dead b hb.1) ?_
    intro b hb
    exact ⟨hb.1, fun x => hb.2 ⟨x.2.1, x.2.1 ▸ x.2.2⟩⟩
  · rw [if_neg hc]
    exact h.mono (fun b hb => h.dead b hb.1) (fun b hb => ⟨hb, fun x => hc x.1⟩)

theorem done (h : Fr base (fun _ => False) hp) : ∀ b, hp.ext b = base b := fun b => h.frame b (fun x => x)

end Fr

/-- `roots` and `powTwoInv` (the destructor releases them when `s != 0`) -/
def Tables (self : NTT_Goldilocks) (b : Nat) : Prop :=
  b ≠ 0 ∧ self.s ≠ 0#32 ∧ (b = self.roots.blk ∨ b = self.powTwoInv.blk)

/-- `r` and `r_` (released when not NULL, by the destructor and by a cache refresh of `extendPol`) -/
def Cache (self : NTT_Goldilocks) (b : Nat) : Prop :=
  b ≠ 0 ∧ ((self.r ≠ Ptr.null ∧ b = self.r.blk) ∨ (self.r_ ≠ Ptr.null ∧ b = self.r_.blk))

def Owned (self : NTT_Goldilocks) (b : Nat) : Prop := Tables self b ∨ Cache self b

theorem bne_true {α : Type} [BEq α] [LawfulBEq α] (a b : α) : ((a != b) = true) ↔ a ≠ b := by
  simp

theorem eq_of_not_bne {α : Type} [BEq α] [LawfulBEq α] {a b : α} (h : ¬ (a != b) = true) : a = b := by
  simpa using h

/-! ### destructor: releases exactly the blocks the object owns -/
theorem dtor_own {base : Nat → Nat} {O : Nat → Prop} {hp : Heap} (self : NTT_Goldilocks) (h : Fr base O hp)
    (hown : ∀ b, Owned self b → base b = 0) : Fr base (fun b => O b ∧ ¬ Owned self b) (NTT_dtor hp self) := by
  unfold NTT_dtor
  have h1 : Fr base (fun b => O b ∧ ¬ Tables self b)
      (if (self.s != 0#32) = true then (hp.free self.roots).free self.powTwoInv else hp) := by
    by_cases hs : (self.s != 0#32) = true
    · rw [if_pos hs]
      have hs' : self.s ≠ 0#32 := (bne_true _ _).1 hs
      have a := h.free self.roots (fun h0 => hown _ (Or.inl ⟨h0, hs', Or.inl rfl⟩))
      have b := a.free self.powTwoInv (fun h0 => hown _ (Or.inl ⟨h0, hs', Or.inr rfl⟩))
      refine b.mono (fun b hb => h.dead b hb.1) ?_
      intro b hb
      refine ⟨hb.1.1, fun ht => ?_⟩
      rcases ht.2.2 with e | e
      · exact hb.1.2 ⟨e, e ▸ ht.1⟩
      · exact hb.2 ⟨e, e ▸ ht.1⟩
    · rw [if_neg hs]
      have hs' : self.s = 0#32 := eq_of_not_bne hs
      exact h.mono (fun b hb => h.dead b hb.1) (fun b hb => ⟨hb, fun ht => ht.2.1 hs'⟩)
  have h2 := h1.free_if ((self.r != Ptr.null) = true) self.r
    (fun hc h0 => hown _ (Or.inr ⟨h0, Or.inl ⟨(bne_true _ _).1 hc, rfl⟩⟩))
  have h3 := h2.free_if ((self.r_ != Ptr.null) = true) self.r_
    (fun hc h0 => hown _ (Or.inr ⟨h0, Or.inr ⟨(bne_true _ _).1 hc, rfl⟩⟩))
  refine Fr.mono h3 (fun b hb => h.dead b hb.1) ?_
  intro b hb
  refine ⟨hb.1.1.1, fun ho => ?_⟩
  rcases ho with ht | hc
  · exact hb.1.1.2 ht
  · rcases hc.2 with e | e
    · exact hb.1.2 ⟨(bne_true _ _).2 e.1, e.2, hc.1⟩
    · exact hb.2 ⟨(bne_true _ _).2 e.1, e.2, hc.1⟩

/-- `computeR`: two new blocks of N words, stored in `r`, `r_`; nothing else changes shape -/
def ComputeRPost (hp : Heap) (self : NTT_Goldilocks) (N : Int) (r : Heap × NTT_Goldilocks) : Prop :=
  r.2 = { self with r := (hp.alloc (I32.toU64 N).toNat).2,
                    r_ := ((hp.alloc (I32.toU64 N).toNat).1.alloc (I32.toU64 N).toNat).2, r_N := I32.toU64 N } ∧
  Heap.Same ((hp.alloc (I32.toU64 N).toNat).1.alloc (I32.toU64 N).toNat).1 r.1

theorem computeR_shape (fuel : Nat) (hp : Heap) (self : NTT_Goldilocks) (N : Int) :
    OInv (ComputeRPost hp self N) (NTT_computeR fuel hp self N) := by
  unfold NTT_computeR
  repeat heap_step
  oinv_bind_same ((hp.alloc (I32.toU64 N).toNat).1.alloc (I32.toU64 N).toNat).1
  · repeat heap_step
  · heap_step
    heap_step
    exact ⟨rfl, by assumption⟩

theorem bv32_succ_ne_zero (s d : BitVec 32) (h : s < d) : s + 1#32 ≠ 0#32 := by
  intro e
  have h1 : s.toNat < d.toNat := BitVec.lt_def.mp h
  have h2 := d.isLt
  have h3 := congrArg BitVec.toNat e
  rw [BitVec.toNat_add] at h3
  simp at h3
  omega

/-- what the second `while` of the constructor (counting `s`) keeps: `s != 0`, the cache pointers stay NULL -/
def CtorInv (self : NTT_Goldilocks) : Prop := self.s ≠ 0#32 ∧ self.r = Ptr.null ∧ self.r_ = Ptr.null

theorem ctor_loop2_inv (dp : BitVec 32) (st : Nat × NTT_Goldilocks) (h : CtorInv st.2) :
    OInv (fun bs => CtorInv bs.2.2) (NTT_ctor_loop2 dp st) := by
  unfold NTT_ctor_loop2
  heap_steps
  · rename_i a hc b
    rw [Bool.and_eq_true] at hc
    exact ⟨bv32_succ_ne_zero _ _ (of_decide_eq_true hc.2), h.2.1, h.2.2⟩
  · exact h

/-- the constructor: either `maxDomainSize == 0` (nothing allocated, `s` untouched) or two new blocks stored in `roots`,
    `powTwoInv`, `s != 0`; in both cases the cache pointers are NULL -/
def CtorPost (hp : Heap) (self : NTT_Goldilocks) (m : BitVec 64) (r : Heap × NTT_Goldilocks) : Prop :=
  (m = 0#64 ∧ r.1 = hp ∧ r.2.s = self.s ∧ r.2.r = Ptr.null ∧ r.2.r_ = Ptr.null) ∨
  (m ≠ 0#64 ∧ CtorInv r.2 ∧ ∃ n1 n2, r.2.roots = (hp.alloc n1).2 ∧ r.2.powTwoInv = ((hp.alloc n1).1.alloc n2).2 ∧
    Heap.Same ((hp.alloc n1).1.alloc n2).1 r.1)

theorem ctor_shape (fuel : Nat) (hp : Heap) (self : NTT_Goldilocks) (m : BitVec 64) (thr : BitVec 32) (e : Int) :
    OInv (CtorPost hp self m) (NTT_ctor fuel hp self m thr e) := by
  unfold NTT_ctor
  heap_steps
  · exact Or.inl ⟨by simpa using ‹(m == 0#64) = true›, rfl, rfl, rfl, rfl⟩
  · oinv_bind (fun (y : Nat × NTT_Goldilocks) => CtorInv y.2)
    · heap_step
      · exact ⟨by show (1#32 : BitVec 32) ≠ 0#32; decide, rfl, rfl⟩
      · intro s hs; exact ctor_loop2_inv _ s hs
    · heap_steps
      rename_i st4 hst4 maux hlt nRoots
      oinv_bind_same ((hp.alloc ((nRoots * 8#64).toNat / 8)).1.alloc ((BitVec.setWidth 64 (st4.2.s + 1#32) * 8#64).toNat / 8)).1
      · heap_steps
      · heap_steps
        oinv_bind (fun (y : Heap × BitVec 64) => Heap.Same ((hp.alloc ((nRoots * 8#64).toNat / 8)).1.alloc ((BitVec.setWidth 64 (st4.2.s + 1#32) * 8#64).toNat / 8)).1 y.1)
        · heap_step
          · assumption
          · -- the body of the `powTwoInv` loop, whatever its parameter list
            intro s hs
            unfold_loops
            repeat heap_step
        · heap_steps
          refine Or.inr ⟨?_, hst4, _, _, rfl, rfl, by assumption⟩
          intro e0; subst e0; exact absurd rfl ‹¬(0#64 == 0#64) = true›

theorem ctor_inv {fuel : Nat} {hp : Heap} {self : NTT_Goldilocks} {m : BitVec 64} {thr : BitVec 32} {e : Int}
    {st : Heap × NTT_Goldilocks} (hm0 : m ≠ 0#64) (h : NTT_ctor fuel hp self m thr e = some st) : CtorInv st.2 := by
  rcases ctor_shape fuel hp self m thr e st h with ⟨e0, _⟩ | ⟨_, hinv, _⟩
  · exact absurd e0 hm0
  · exact hinv

theorem Fr.ctor {base : Nat → Nat} {O : Nat → Prop} {hp : Heap} (h : Fr base O hp) {self : NTT_Goldilocks} {m : BitVec 64}
    {r : Heap × NTT_Goldilocks} (hs : self.s = 0#32) (hpost : CtorPost hp self m r) :
    Fr base (fun b => O b ∨ Tables r.2 b) r.1 ∧ r.2.r = Ptr.null ∧ r.2.r_ = Ptr.null := by
  rcases hpost with ⟨_, e1, e2, e3, e4⟩ | ⟨_, hinv, n1, n2, e1, e2, hsame⟩
  · refine ⟨?_, e3, e4⟩
    rw [e1]
    refine h.iff (fun b => ⟨fun hb => ?_, fun hb => Or.inl hb⟩)
    rcases hb with hb | hb
    · exact hb
    · exact absurd (e2.trans hs) hb.2.1
  · refine ⟨?_, hinv.2.1, hinv.2.2⟩
    have h2 := (((h.alloc n1).alloc n2).same hsame)
    have hp0 := h.pos
    refine h2.iff (fun b => ?_)
    rw [Heap.size_alloc]
    unfold Tables
    rw [e1, e2, Heap.alloc_blk, Heap.alloc_blk, Heap.size_alloc]
    have := hinv.1
    grind

theorem Fr.computeR {base : Nat → Nat} {O : Nat → Prop} {hp : Heap} (h : Fr base O hp) {self : NTT_Goldilocks} {N : Int}
    {r : Heap × NTT_Goldilocks} (hpost : ComputeRPost hp self N r) :
    Fr base (fun b => O b ∨ b = hp.size ∨ b = hp.size + 1) r.1 ∧
    r.2.r = ⟨hp.size, 0⟩ ∧ r.2.r_ = ⟨hp.size + 1, 0⟩ ∧ r.2.s = self.s ∧ r.2.roots = self.roots ∧ r.2.powTwoInv = self.powTwoInv := by
  obtain ⟨e, hsame⟩ := hpost
  refine ⟨?_, by rw [e]; rfl, ?_, by rw [e], by rw [e], by rw [e]⟩
  rotate_left
  · rw [e]
    show ((hp.alloc (I32.toU64 N).toNat).fst.alloc (I32.toU64 N).toNat).snd = _
    rw [Heap.alloc_snd, Heap.size_alloc]
  have h2 := (((h.alloc (I32.toU64 N).toNat).alloc (I32.toU64 N).toNat).same hsame)
  refine h2.iff (fun b => ?_)
  rw [Heap.size_alloc]
  grind

def CacheOK (self : NTT_Goldilocks) : Prop := self.r = Ptr.null → self.r_ = Ptr.null

theorem ptr_ne_null_of_blk {p : Ptr} (h : p.blk ≠ 0) : p ≠ Ptr.null := by
  intro e; rw [e] at h; exact h rfl

/-- `computeR` overwrites `r`, `r_` before it reads them: their values at the call do not matter (the source may or may not
    reset them to NULL after `delete[]`) -/
theorem computeR_irrel (fuel : Nat) (X : Heap) (self : NTT_Goldilocks) (a b : Ptr) (N : Int) :
    NTT_computeR fuel X { self with r := a, r_ := b } N = NTT_computeR fuel X self N :=
  BridgeNtt.computeR_irrel fuel X self a b N

/-- the cache refresh of `extendPol`: `if (r == NULL || r_N != N) { if (r != NULL) { delete[] r; delete[] r_; } computeR(N); }` -/
theorem refresh_own {base : Nat → Nat} {O2 : Nat → Prop} (fuel : Nat) (hp2 : Heap) (self : NTT_Goldilocks) (N : BitVec 64)
    (h2 : Fr base (fun b => O2 b ∨ Cache self b) hp2) (hc : CacheOK self) :
    OInv (fun j => Fr base (fun b => O2 b ∨ Cache j.2 b) j.1 ∧ CacheOK j.2 ∧ j.2.s = self.s ∧ j.2.roots = self.roots ∧
        j.2.powTwoInv = self.powTwoInv)
      (if (self.r == Ptr.null || self.r_N != N) = true then
        (NTT_computeR fuel (if (self.r != Ptr.null) = true then (hp2.free self.r).free self.r_ else hp2) self (I32.ofU64 N)).bind
          fun rt_3 => some (rt_3.1, rt_3.2)
       else some (hp2, self)) := by
  refine OInv.ite _ _ (fun _ => ?_) (fun _ => ?_)
  · -- the old cache blocks are released (when there are any): what remains outstanding is O2
    have h3 : Fr base O2 (if (self.r != Ptr.null) = true then (hp2.free self.r).free self.r_ else hp2) := by
      by_cases hr : (self.r != Ptr.null) = true
      · rw [if_pos hr]
        have hr' := (bne_true _ _).1 hr
        have a := h2.free self.r (fun h0 => h2.dead _ (Or.inr ⟨h0, Or.inl ⟨hr', rfl⟩⟩))
        have b := a.free self.r_ (fun h0 => h2.dead _ (Or.inr ⟨h0, Or.inr ⟨ptr_ne_null_of_blk h0, rfl⟩⟩))
        refine b.mono (fun b hb => h2.dead b (Or.inl hb)) ?_
        intro b hb
        rcases hb.1.1 with ho | hcache
        · exact ho
        · rcases hcache.2 with e | e
          · exact absurd ⟨e.2, e.2 ▸ hcache.1⟩ hb.1.2
          · exact absurd ⟨e.2, e.2 ▸ hcache.1⟩ hb.2
      · rw [if_neg hr]
        have hr' : self.r = Ptr.null := eq_of_not_bne hr
        have hr_' := hc hr'
        refine h2.iff (fun b => ?_)
        unfold Cache
        grind
    refine OInv.bind (ComputeRPost _ self (I32.ofU64 N)) _ _ (computeR_shape _ _ _ _) (fun rt hrt => ?_)
    refine OInv.some _ _ ?_
    obtain ⟨f, e1, e2, e3, e4, e5⟩ := h3.computeR hrt
    have hz : (if (self.r != Ptr.null) = true then (hp2.free self.r).free self.r_ else hp2).size ≠ 0 := Nat.pos_iff_ne_zero.mp h3.pos
    refine ⟨?_, ?_, e3, e4, e5⟩
    · refine f.iff (fun b => ?_)
      show O2 b ∨ Cache rt.2 b ↔ _
      unfold Cache
      rw [e1, e2]
      constructor
      · rintro (hb | ⟨_, hb | hb⟩)
        · exact Or.inl hb
        · exact Or.inr (Or.inl hb.2)
        · exact Or.inr (Or.inr hb.2)
      · rintro (hb | hb | hb)
        · exact Or.inl hb
        · exact Or.inr ⟨hb ▸ hz, Or.inl ⟨ptr_ne_null_of_blk hz, hb⟩⟩
        · exact Or.inr ⟨hb ▸ Nat.succ_ne_zero _, Or.inr ⟨ptr_ne_null_of_blk (Nat.succ_ne_zero _), hb⟩⟩
    · show rt.2.r = Ptr.null → rt.2.r_ = Ptr.null
      intro e
      rw [e1] at e
      exact absurd e (ptr_ne_null_of_blk hz)
  · exact OInv.some _ _ ⟨h2, hc, rfl, rfl, rfl⟩

def ExtendPost (base : Nat → Nat) (O : Nat → Prop) (self : NTT_Goldilocks) (r : Heap × NTT_Goldilocks) : Prop :=
  Fr base (fun b => O b ∨ Cache r.2 b) r.1 ∧ CacheOK r.2 ∧ r.2.s = self.s ∧ r.2.roots = self.roots ∧ r.2.powTwoInv = self.powTwoInv

/-- `extendPol`: the local transform object is constructed and destroyed, the scratch buffer is allocated and released
    (when the caller gave none), the cache `r`, `r_` is kept or replaced (the replaced blocks are released); every other
    block number that is outstanding afterwards was outstanding before -/
theorem extendPol_own {base : Nat → Nat} {O : Nat → Prop} (fuel : Nat) (hp : Heap) (self : NTT_Goldilocks) (output input : Ptr)
    (NE N ncols : BitVec 64) (buffer : Ptr) (nphase nblock : BitVec 64)
    (h : Fr base (fun b => O b ∨ Cache self b) hp) (hc : CacheOK self) :
    OInv (ExtendPost base O self) (NTT_extendPol fuel hp self output input NE N ncols buffer nphase nblock) := by
  unfold NTT_extendPol
  heap_steps
  oinv_bind (CtorPost hp NTT_Goldilocks.init NE)
  · exact ctor_shape _ _ _ _ _ _
  · rename_i ext hext
    obtain ⟨h1, er, er_⟩ := h.ctor (self := NTT_Goldilocks.init) rfl hext
    heap_steps
    -- the scratch buffer: the caller's, or a new block
    generalize hd : (if (buffer == Ptr.null) = true then
        have al_2 := ext.1.alloc ((NE * ncols * 8#64).toNat / 8); have hp := al_2.1; have tmp := al_2.2; (tmp, hp)
      else have tmp := buffer; (tmp, ext.1)) = d
    have h2 : Fr base (fun b => (O b ∨ Tables ext.2 b ∨ ((buffer == Ptr.null) = true ∧ b = d.1.blk ∧ b ≠ 0)) ∨ Cache self b) d.2 := by
      by_cases hb : (buffer == Ptr.null) = true
      · rw [if_pos hb] at hd
        subst hd
        refine (h1.alloc _).iff (fun b => ?_)
        show _ ↔ ((O b ∨ Cache self b) ∨ Tables ext.2 b) ∨ b = ext.1.size
        have := h1.pos
        grind [Heap.alloc_blk]
      · rw [if_neg hb] at hd
        subst hd
        refine h1.iff (fun b => ?_)
        grind
    oinv_bind (fun (j : Heap × NTT_Goldilocks) =>
      Fr base (fun b => (O b ∨ Tables ext.2 b ∨ ((buffer == Ptr.null) = true ∧ b = d.1.blk ∧ b ≠ 0)) ∨ Cache j.2 b) j.1 ∧ CacheOK j.2 ∧
        j.2.s = self.s ∧ j.2.roots = self.roots ∧ j.2.powTwoInv = self.powTwoInv)
    · -- the cache refresh, HOWEVER the source writes it (one nested `if`, two sequential `if`s with the pointers reset to
      -- NULL, …): evaluated in the four cases `r == NULL` × `r_N == N` it is the canonical text of `refresh_own`
      have hcan := refresh_own fuel d.2 self N h2 hc
      cases hr0 : (self.r == Ptr.null) <;> cases hn0 : (self.r_N == N) <;>
        simp only [hr0, hn0, bne, Bool.not_true, Bool.not_false, Bool.true_or, Bool.false_or, Bool.or_true, Bool.or_false,
          Bool.true_and, Bool.false_and, Bool.and_true, Bool.and_false, if_true, if_false, Bool.false_eq_true, computeR_irrel,
          beq_self_eq_true] at hcan ⊢ <;>
        exact hcan
    · rename_i j hj
      obtain ⟨f, hcj, e3, e4, e5⟩ := hj
      have hpos := f.pos
      heap_steps
      oinv_bind_same j.1
      · heap_steps
      · heap_steps
        oinv_bind_same j.1
        · heap_steps
        · heap_steps
          rename_i h5 hs5
          refine ⟨?_, hcj, e3, e4, e5⟩
          have f5 := f.same hs5
          have f6 := f5.free_if ((buffer == Ptr.null) = true) d.1
            (fun hb h0 => f.dead _ (Or.inl (Or.inr (Or.inr ⟨hb, rfl, h0⟩))))
          have f7 := dtor_own ext.2 f6 (fun b hb => f.dead _ (by
            rcases hb with hb | hb
            · exact Or.inl (Or.inr (Or.inl hb))
            · rcases hb.2 with e | e
              · exact absurd er e.1
              · exact absurd er_ e.1))
          refine f7.mono ?_ ?_
          · rintro b (hb | hb)
            · exact h.dead b (Or.inl hb)
            · exact f.dead b (Or.inr hb)
          · intro b hb
            rcases hb.1.1 with (hx | hx | hx) | hx
            · exact Or.inl hx
            · exact absurd (Or.inl hx) hb.2
            · exact absurd hx hb.1.2
            · exact Or.inr hx

/-- a public call on a transform object, with its arguments (any pointers, any sizes) -/
inductive Call where
  | ntt (dst src : Ptr) (size ncols : BitVec 64) (buffer : Ptr) (nphase nblock : BitVec 64) (inverse extend : Bool)
  | intt (dst src : Ptr) (size ncols : BitVec 64) (buffer : Ptr) (nphase nblock : BitVec 64) (extend : Bool)
  | extendPol (output input : Ptr) (N_Extended N ncols : BitVec 64) (buffer : Ptr) (nphase nblock : BitVec 64)

def runCall (fuel : Nat) (st : Heap × NTT_Goldilocks) : Call → Option (Heap × NTT_Goldilocks)
  | .ntt dst src size ncols buffer nphase nblock inverse extend =>
    (NTT_NTT fuel st.1 st.2 dst src size ncols buffer nphase nblock inverse extend).bind fun h => some (h, st.2)
  | .intt dst src size ncols buffer nphase nblock extend =>
    (NTT_INTT fuel st.1 st.2 dst src size ncols buffer nphase nblock extend).bind fun h => some (h, st.2)
  | .extendPol output input NE N ncols buffer nphase nblock =>
    NTT_extendPol fuel st.1 st.2 output input NE N ncols buffer nphase nblock

def runCalls (fuel : Nat) : Heap × NTT_Goldilocks → List Call → Option (Heap × NTT_Goldilocks)
  | st, [] => some st
  | st, c :: cs => (runCall fuel st c).bind fun st' => runCalls fuel st' cs

/-- the life of an object: the generated constructor on the default-initialised members, the calls, the generated destructor -/
def life (fuel : Nat) (h0 : Heap) (maxDomainSize : BitVec 64) (nThreads : BitVec 32) (extension : Int) (cs : List Call) : Option Heap :=
  (NTT_ctor fuel h0 NTT_Goldilocks.init maxDomainSize nThreads extension).bind fun st =>
    (runCalls fuel st cs).bind fun st' => some (NTT_dtor st'.1 st'.2)

/-- what holds between the calls: the heap is the initial one plus the blocks the object owns -/
def HInv (h0 : Heap) (st : Heap × NTT_Goldilocks) : Prop :=
  Fr h0.ext (fun b => Tables st.2 b ∨ Cache st.2 b) st.1 ∧ CacheOK st.2

theorem runCall_inv (fuel : Nat) (h0 : Heap) (st : Heap × NTT_Goldilocks) (c : Call) (h : HInv h0 st) :
    OInv (HInv h0) (runCall fuel st c) := by
  cases c with
  | ntt dst src size ncols buffer nphase nblock inverse extend =>
    unfold runCall
    refine OInv.bind (Heap.Same st.1) _ _ (NTT_same _ _ _ _ _ _ _ _ _ _ _ _ h.1.pos) (fun y hy => OInv.some _ _ ?_)
    exact ⟨h.1.same hy, h.2⟩
  | intt dst src size ncols buffer nphase nblock extend =>
    unfold runCall
    refine OInv.bind (Heap.Same st.1) _ _ (INTT_same _ _ _ _ _ _ _ _ _ _ _ h.1.pos) (fun y hy => OInv.some _ _ ?_)
    exact ⟨h.1.same hy, h.2⟩
  | extendPol output input NE N ncols buffer nphase nblock =>
    unfold runCall
    refine (extendPol_own fuel st.1 st.2 output input NE N ncols buffer nphase nblock h.1 h.2).mono ?_
    intro r hr
    obtain ⟨f, hc, e1, e2, e3⟩ := hr
    refine ⟨f.iff (fun b => ?_), hc⟩
    unfold Tables
    rw [e1, e2, e3]

theorem runCalls_inv (fuel : Nat) (h0 : Heap) (cs : List Call) :
    ∀ (st : Heap × NTT_Goldilocks), HInv h0 st → OInv (HInv h0) (runCalls fuel st cs) := by
  induction cs with
  | nil => intro st h; exact OInv.some _ _ h
  | cons c cs ih =>
    intro st h
    unfold runCalls
    exact OInv.bind (HInv h0) _ _ (runCall_inv fuel h0 st c h) (fun y hy => ih y hy)

/-- allocation balance of a whole object life in the generated model: whatever the constructor arguments and the calls
    (any number, any kind, any arguments), when the history returns, every block has the extent it had before the
    constructor ran: every block allocated in between was released, no other block was released -/
theorem life_balance (fuel : Nat) (h0 : Heap) (m : BitVec 64) (thr : BitVec 32) (e : Int) (cs : List Call) (hs : 0 < h0.size) :
    OInv (fun h' => ∀ b, h'.ext b = h0.ext b) (life fuel h0 m thr e cs) := by
  unfold life
  refine OInv.bind (CtorPost h0 NTT_Goldilocks.init m) _ _ (ctor_shape _ _ _ _ _ _) (fun st hst => ?_)
  obtain ⟨f, er, er_⟩ := (Fr.refl h0 hs).ctor (self := NTT_Goldilocks.init) rfl hst
  have hinv : HInv h0 st := by
    refine ⟨f.iff (fun b => ?_), fun _ => er_⟩
    unfold Cache
    grind
  refine OInv.bind (HInv h0) _ _ (runCalls_inv fuel h0 cs st hinv) (fun st' hst' => OInv.some _ _ ?_)
  have fd := dtor_own st'.2 hst'.1 (fun b hb => hst'.1.dead b hb)
  exact Fr.done (fd.iff (fun b => ⟨fun x => x.elim, fun x => x.2 x.1⟩))

end GoldilocksVerif.HeapSafe
