/-
  BY-NAME forms (used by Props/C12.lean; the bridge theorems of C03 / C04 / C05 / C19 go through Lemmas/BridgeNttItersG.lean and
  Lemmas/BridgeNttItersTop.lean instead): one iteration of the pass loop `for (s = 1; s <= domainPow; s += maxBatchPow, ++count)` of
  the TRANSLATED `NTT_iters` (schedule arithmetic on 64-bit words, batch loop, pointer swap) is one step of the hand model's
  `schedule.go` followed by `pass`; the whole loop is the fold of `pass` over `schedule` (`passes_g` for this step function).
-/
import GoldilocksVerif.Lemmas.BridgeNttPass
import GoldilocksVerif.Lemmas.BridgeNttItersG

namespace GoldilocksVerif.BridgeNtt
open GoldilocksVerif Gen.NttGen

section passes
variable (H : Heap) (self : NTT_Goldilocks) (o : Model.Ntt.Obj) (hrep : ObjRep H self o)
variable (N NC K res : Nat) (inverse extend : Bool)
variable (hK : K ≤ 30) (hN : N = 2 ^ K) (hKs : K ≤ o.s) (hos : o.s ≤ 32)
variable (hNNC : N * NC < 2 ^ 64) (hNC8 : NC * 8 < 2 ^ 64) (hcache : extend = true → o.rcache ≠ none)

by_name_form include hrep hK hN hKs hos hNNC hNC8 hcache in
theorem pass_step (A A2 : Nat) (hne : A ≠ A2) (hA : A < H.size) (hA2 : A2 < H.size)
    (hfr : ObjFrame self A) (hfr2 : ObjFrame self A2)
    (mbp s count : Nat) (hs1 : 1 ≤ s) (hsK : s ≤ K) (hm1 : 1 ≤ mbp) (hm : mbp ≤ 64) (hres : res ≤ 64) (hcount : count ≤ 128)
    (tmp : Ptr) (st : Block × Block) :
    NTT_NTT_iters_loop10 (bv N) (bv NC) inverse extend self (bv K) (bv res)
        (bv mbp, Heap.R2 H A A2 st, tmp, ⟨A2, 0⟩, ⟨A, 0⟩, bv s, bv count) =
      some (true, (bv (stepMbp res count mbp),
        Heap.R2 H A A2 (Model.Ntt.iter (N / 2 ^ stepInc K s (stepMbp res count mbp)) st
          (Model.Ntt.passBatch o N K NC s (stepInc K s (stepMbp res count mbp))
            (!(decide (s + stepMbp res count mbp ≤ K) || !inverse)) extend)),
        ⟨A2, 0⟩, ⟨A, 0⟩, ⟨A2, 0⟩, bv (s + stepMbp res count mbp), bv (count + 1))) := by
  obtain ⟨e1, e2, e3, e4, e5, e6, e7, e8, e9, hle, hmb, hsS, _⟩ := sched_arith N K res mbp s count hK hN hs1 hsK hm1 hm hres hcount
  generalize stepMbp res count mbp = mbp' at *
  generalize stepInc K s mbp' = sInc at *
  unfold NTT_NTT_iters_loop10
  dsimp only
  rw [if_pos hle, e1, e2, e3, e4, e5, e6, e7, e8, e9]
  rw [Loop.rangeM_rep (R := Heap.R2 H A A2)
    (f := Model.Ntt.passBatch o N K NC s sInc (!(decide (s + mbp' ≤ K) || !inverse)) extend) _ 0 (N / 2 ^ sInc)
    (fun b st' _ hb => passBatch_gen H A A2 hne hA hA2 self o hrep hfr hfr2 N NC K mbp' s sInc (N / 2 ^ sInc) b inverse extend
      hK hN hs1 hsK hsS hKs hos rfl hb hNNC hNC8 (by omega) hcache st') st]
  simp only [Option.bind_some, bv_add, bv_one]
  rfl

by_name_form
theorem pass_stop (mbp s count : Nat) (hsK : K < s) (hs : s < 2 ^ 64) (hp : Heap) (tmp a2 a : Ptr) :
    NTT_NTT_iters_loop10 (bv N) (bv NC) inverse extend self (bv K) (bv res) (bv mbp, hp, tmp, a2, a, bv s, bv count) =
      some (false, (bv mbp, hp, tmp, a2, a, bv s, bv count)) := by
  have hle : decide (bv s ≤ bv K) = false := by
    rw [decide_eq_false_iff_not, le_bv _ _ hs (by omega)]; omega
  unfold NTT_NTT_iters_loop10
  dsimp only
  rw [hle]
  rfl

by_name_form include hrep hK hN hKs hos hNNC hNC8 hcache in
/-- **the pass loop** = the fold of the hand model's `pass` over the rest of the schedule; the pointers `a`, `a2` end up
    swapped iff the flag of the model is flipped -/
theorem passes_gen (hres : res ≤ 64) : ∀ (gf : Nat) (A A2 : Nat), A ≠ A2 → A < H.size → A2 < H.size → ObjFrame self A →
    ObjFrame self A2 → ∀ (mbp s count : Nat) (flag : Bool) (tmp : Ptr) (st : Block × Block) (F : Nat),
    K + 1 - s ≤ gf → gf < F → 1 ≤ s → s ≤ K + 65 → 1 ≤ mbp → mbp ≤ 64 → count + gf ≤ 128 →
    ∃ (A' A2' : Nat) (tmp' : Ptr) (m' s' c' : Nat),
      Loop.whileM (NTT_NTT_iters_loop10 (bv N) (bv NC) inverse extend self (bv K) (bv res)) F
          (bv mbp, Heap.R2 H A A2 st, tmp, ⟨A2, 0⟩, ⟨A, 0⟩, bv s, bv count) =
        some (bv m', Heap.R2 H A' A2'
          (((Model.Ntt.schedule.go K res gf s count mbp []).foldl (Model.Ntt.pass o N K NC inverse extend) (st.1, st.2, flag)).1,
           ((Model.Ntt.schedule.go K res gf s count mbp []).foldl (Model.Ntt.pass o N K NC inverse extend) (st.1, st.2, flag)).2.1),
          tmp', ⟨A2', 0⟩, ⟨A', 0⟩, bv s', bv c') ∧
      ((((Model.Ntt.schedule.go K res gf s count mbp []).foldl (Model.Ntt.pass o N K NC inverse extend) (st.1, st.2, flag)).2.2 = flag
          ∧ A' = A ∧ A2' = A2) ∨
       (((Model.Ntt.schedule.go K res gf s count mbp []).foldl (Model.Ntt.pass o N K NC inverse extend) (st.1, st.2, flag)).2.2 = !flag
          ∧ A' = A2 ∧ A2' = A)) :=
  passes_g H self o N NC K res inverse extend hK (NTT_NTT_iters_loop10 (bv N) (bv NC) inverse extend self (bv K) (bv res))
    (fun A A2 hne hA hA2 hfr hfr2 mbp s count hs1 hsK hm1 hm hcount tmp st =>
      pass_step H self o hrep N NC K res inverse extend hK hN hKs hos hNNC hNC8 hcache A A2 hne hA hA2 hfr hfr2 mbp s count hs1 hsK
        hm1 hm hres hcount tmp st)
    (fun mbp s count hsK hs hp tmp a2 a => pass_stop self N NC K res inverse extend mbp s count hsK hs hp tmp a2 a)

end passes

end GoldilocksVerif.BridgeNtt
