/-
  Shared by the wrappers of C17 and the cubic-extension routines of C16 (core-only): an array output as sequential element
  writes (`writeSeq`, `WrittenBy`), with the three facts the property files read off it (frame, value of a position written
  once, of a position written several times); lanes by NUMBER (`getN`), so that a lane index can be a variable; and
  rewrite rules of the simp sets `wrap_code` (Lemmas/WrapTac.lean) and `ext_code` (Lemmas/ExtWrapL.lean).
-/
import GoldilocksVerif.Model.Region
import GoldilocksVerif.Isa.Vec
import GoldilocksVerif.Isa.Avx2
import GoldilocksVerif.Isa.Avx512

namespace GoldilocksVerif

/-- `n` sequential element writes `c[pos k] = v k`, lane 0 first (the order of the C++ scatter loops) -/
def writeSeq (c : Region) (pos : Nat → Nat) (v : Nat → BitVec 64) : Nat → Region
  | 0 => c
  | n + 1 => Region.set (writeSeq c pos v n) (pos n) (v n)

/-- `res` is `c` after `n` sequential writes; write `j` (0 first) puts at position `pos j` a word `w` with `ok j w` -/
inductive WrittenBy (pos : Nat → Nat) (ok : Nat → BitVec 64 → Prop) : Nat → Region → Region → Prop
  | nil (c : Region) : WrittenBy pos ok 0 c c
  | snoc {n : Nat} {c r : Region} (w : BitVec 64) :
      WrittenBy pos ok n c r → ok n w → WrittenBy pos ok (n + 1) c (Region.set r (pos n) w)

theorem WrittenBy.frame {pos ok n c res} (h : WrittenBy pos ok n c res) (j : Nat) (hj : ∀ m, m < n → j ≠ pos m) :
    res j = c j := by
  induction h with
  | nil => rfl
  | snoc w _ _ ih =>
    rw [Region.set_other _ _ _ _ (hj _ (Nat.lt_succ_self _))]
    exact ih (fun m hm => hj m (Nat.lt_succ_of_lt hm))

theorem WrittenBy.mem {pos ok n c res} (h : WrittenBy pos ok n c res) (m : Nat) (hm : m < n) :
    ∃ m', m' < n ∧ pos m' = pos m ∧ ok m' (res (pos m)) := by
  induction h with
  | nil => exact absurd hm (Nat.not_lt_zero _)
  | @snoc n' c' r w _ hw ih =>
    by_cases e : pos m = pos n'
    · exact ⟨n', Nat.lt_succ_self _, e.symm, by rw [e, Region.set_same]; exact hw⟩
    · have hm' : m < n' := by
        rcases Nat.lt_or_ge m n' with h | h
        · exact h
        · have : m = n' := Nat.le_antisymm (Nat.le_of_lt_succ hm) h
          subst this; exact absurd rfl e
      obtain ⟨m', h1, h2, h3⟩ := ih hm'
      exact ⟨m', Nat.lt_succ_of_lt h1, h2, by rw [Region.set_other _ _ _ _ e]; exact h3⟩

theorem WrittenBy.last {pos ok n c res} (h : WrittenBy pos ok n c res) (m : Nat) (hm : m < n)
    (hl : ∀ m', m < m' → m' < n → pos m' ≠ pos m) : ok m (res (pos m)) := by
  induction h with
  | nil => exact absurd hm (Nat.not_lt_zero _)
  | @snoc n' c' r w _ hw ih =>
    by_cases e : m = n'
    · subst e; rw [Region.set_same]; exact hw
    · have hm' : m < n' := Nat.lt_of_le_of_ne (Nat.le_of_lt_succ hm) e
      rw [Region.set_other _ _ _ _ (fun he => hl n' hm' (Nat.lt_succ_self _) he.symm)]
      exact ih hm' (fun m' h1 h2 => hl m' h1 (Nat.lt_succ_of_lt h2))

theorem WrittenBy.writeSeq {pos : Nat → Nat} {ok : Nat → BitVec 64 → Prop} (c : Region) (w : Nat → BitVec 64) (n : Nat)
    (h : ∀ j, j < n → ok j (w j)) : WrittenBy pos ok n c (writeSeq c pos w n) := by
  induction n with
  | zero => exact WrittenBy.nil c
  | succ n ih => exact WrittenBy.snoc _ (ih fun j hj => h j (Nat.lt_succ_of_lt hj)) (h n (Nat.lt_succ_self n))

theorem writeSeq_frame (c : Region) (pos : Nat → Nat) (v : Nat → BitVec 64) (n j : Nat)
    (h : ∀ k, k < n → j ≠ pos k) : (writeSeq c pos v n) j = c j :=
  (WrittenBy.writeSeq (ok := fun k w => w = v k) c v n fun _ _ => rfl).frame j h

theorem writeSeq_last (c : Region) (pos : Nat → Nat) (v : Nat → BitVec 64) (n k : Nat) (hk : k < n)
    (h : ∀ k', k < k' → k' < n → pos k' ≠ pos k) : (writeSeq c pos v n) (pos k) = v k :=
  (WrittenBy.writeSeq (ok := fun k w => w = v k) c v n fun _ _ => rfl).last k hk h

theorem writeSeq_mem (c : Region) (pos : Nat → Nat) (v : Nat → BitVec 64) (n k : Nat) (hk : k < n) :
    ∃ k', k' < n ∧ pos k' = pos k ∧ (writeSeq c pos v n) (pos k) = v k' :=
  (WrittenBy.writeSeq (ok := fun k w => w = v k) c v n fun _ _ => rfl).mem k hk

/-! Running indices: a wrapper may keep `k1 += offset1` across its unrolled iterations instead of computing `i * offset1`.
    In `wrap_code`, these fold the running sums `0 + s + s + …` back into `BitVec.ofNat 64 i * s` (the form the generated
    statements designate), whichever side the increment is written on. -/
theorem BitVec.run_two (x : BitVec 64) : x + x = BitVec.ofNat 64 2 * x := by
  have h := BitVec.add_mul (x := BitVec.ofNat 64 1) (y := BitVec.ofNat 64 1) (z := x)
  simp only [BitVec.one_mul] at h
  exact h.symm
theorem BitVec.run_succ (n : Nat) (x : BitVec 64) : BitVec.ofNat 64 n * x + x = BitVec.ofNat 64 (n + 1) * x := by
  have h := BitVec.add_mul (x := BitVec.ofNat 64 n) (y := BitVec.ofNat 64 1) (z := x)
  simp only [BitVec.one_mul] at h
  rw [← h, BitVec.ofNat_add]
theorem BitVec.run_succ' (n : Nat) (x : BitVec 64) : x + BitVec.ofNat 64 n * x = BitVec.ofNat 64 (n + 1) * x := by
  rw [BitVec.add_comm, BitVec.run_succ]

namespace V4
/-- lanes ≥ 4 read lane 3 (never used) -/
def getN (a : V4) (k : Nat) : BitVec 64 :=
  if k = 0 then a.l0 else if k = 1 then a.l1 else if k = 2 then a.l2 else a.l3
def ofFn (f : Nat → BitVec 64) : V4 := ⟨f 0, f 1, f 2, f 3⟩
theorem getN_eq_get (a : V4) (i : Fin 4) : a.getN i.val = a.get i := by
  match i with
  | 0 => rfl | 1 => rfl | 2 => rfl | 3 => rfl
theorem get_ofFn (f : Nat → BitVec 64) (i : Fin 4) : (ofFn f).get i = f i.val := by
  match i with
  | 0 => rfl | 1 => rfl | 2 => rfl | 3 => rfl
end V4

namespace V8
def getN (a : V8) (k : Nat) : BitVec 64 :=
  if k = 0 then a.l0 else if k = 1 then a.l1 else if k = 2 then a.l2 else if k = 3 then a.l3
  else if k = 4 then a.l4 else if k = 5 then a.l5 else if k = 6 then a.l6 else a.l7
def ofFn (f : Nat → BitVec 64) : V8 := ⟨f 0, f 1, f 2, f 3, f 4, f 5, f 6, f 7⟩
theorem getN_eq_get (a : V8) (i : Fin 8) : a.getN i.val = a.get i := by
  match i with
  | 0 => rfl | 1 => rfl | 2 => rfl | 3 => rfl | 4 => rfl | 5 => rfl | 6 => rfl | 7 => rfl
theorem get_ofFn (f : Nat → BitVec 64) (i : Fin 8) : (ofFn f).get i = f i.val := by
  match i with
  | 0 => rfl | 1 => rfl | 2 => rfl | 3 => rfl | 4 => rfl | 5 => rfl | 6 => rfl | 7 => rfl
end V8

/-- The `Fin` lane is chosen before the register (`∃ i, ∀ v`): one `obtain` transfers a kernel theorem stated with `get i`
    to `getN k` in all its registers, for a VARIABLE `k`. -/
theorem V4.getN_get (k : Nat) : ∃ i : Fin 4, ∀ v : V4, v.getN k = v.get i := by
  unfold V4.getN
  by_cases h0 : k = 0
  · exact ⟨0, fun v => if_pos h0⟩
  by_cases h1 : k = 1
  · exact ⟨1, fun v => by rw [if_neg h0, if_pos h1]; rfl⟩
  by_cases h2 : k = 2
  · exact ⟨2, fun v => by rw [if_neg h0, if_neg h1, if_pos h2]; rfl⟩
  · exact ⟨3, fun v => by rw [if_neg h0, if_neg h1, if_neg h2]; rfl⟩

theorem V8.getN_get (k : Nat) : ∃ i : Fin 8, ∀ v : V8, v.getN k = v.get i := by
  unfold V8.getN
  by_cases h0 : k = 0
  · exact ⟨0, fun v => if_pos h0⟩
  by_cases h1 : k = 1
  · exact ⟨1, fun v => by rw [if_neg h0, if_pos h1]; rfl⟩
  by_cases h2 : k = 2
  · exact ⟨2, fun v => by rw [if_neg h0, if_neg h1, if_pos h2]; rfl⟩
  by_cases h3 : k = 3
  · exact ⟨3, fun v => by rw [if_neg h0, if_neg h1, if_neg h2, if_pos h3]; rfl⟩
  by_cases h4 : k = 4
  · exact ⟨4, fun v => by rw [if_neg h0, if_neg h1, if_neg h2, if_neg h3, if_pos h4]; rfl⟩
  by_cases h5 : k = 5
  · exact ⟨5, fun v => by rw [if_neg h0, if_neg h1, if_neg h2, if_neg h3, if_neg h4, if_pos h5]; rfl⟩
  by_cases h6 : k = 6
  · exact ⟨6, fun v => by rw [if_neg h0, if_neg h1, if_neg h2, if_neg h3, if_neg h4, if_neg h5, if_pos h6]; rfl⟩
  · exact ⟨7, fun v => by rw [if_neg h0, if_neg h1, if_neg h2, if_neg h3, if_neg h4, if_neg h5, if_neg h6]; rfl⟩

theorem V4.getN_ofFn (f : Nat → BitVec 64) {k : Nat} (hk : k < 4) : (V4.ofFn f).getN k = f k := by
  have h : k = 0 ∨ k = 1 ∨ k = 2 ∨ k = 3 := by omega
  rcases h with rfl | rfl | rfl | rfl <;> rfl
theorem V8.getN_ofFn (f : Nat → BitVec 64) {k : Nat} (hk : k < 8) : (V8.ofFn f).getN k = f k := by
  have h : k = 0 ∨ k = 1 ∨ k = 2 ∨ k = 3 ∨ k = 4 ∨ k = 5 ∨ k = 6 ∨ k = 7 := by omega
  rcases h with rfl | rfl | rfl | rfl | rfl | rfl | rfl | rfl <;> rfl

/-! The two phases around a kernel call, each as one rewrite: a staging array filled lane by lane and then loaded is the
    register of the gathered words; a lane read back from a stored register is that lane. -/
theorem Avx2.load_sets (r : Region) (x0 x1 x2 x3 : BitVec 64) :
    Avx2.load ((((r.set 0 x0).set 1 x1).set 2 x2).set 3 x3) = ⟨x0, x1, x2, x3⟩ := by
  simp only [Avx2.load, Region.set_apply, ↓reduceIte, Nat.reduceEqDiff]
theorem Avx512.load_sets (r : Region) (x0 x1 x2 x3 x4 x5 x6 x7 : BitVec 64) :
    Avx512.load ((((((((r.set 0 x0).set 1 x1).set 2 x2).set 3 x3).set 4 x4).set 5 x5).set 6 x6).set 7 x7) =
      ⟨x0, x1, x2, x3, x4, x5, x6, x7⟩ := by
  simp only [Avx512.load, Region.set_apply, ↓reduceIte, Nat.reduceEqDiff]
theorem Avx2.store_getN (r : Region) (v : V4) {k : Nat} (hk : k < 4) : (Avx2.store r v) k = v.getN k := by
  have : k = 0 ∨ k = 1 ∨ k = 2 ∨ k = 3 := by omega
  rcases this with rfl | rfl | rfl | rfl <;> rfl
theorem Avx512.store_getN (r : Region) (v : V8) {k : Nat} (hk : k < 8) : (Avx512.store r v) k = v.getN k := by
  have : k = 0 ∨ k = 1 ∨ k = 2 ∨ k = 3 ∨ k = 4 ∨ k = 5 ∨ k = 6 ∨ k = 7 := by omega
  rcases this with rfl | rfl | rfl | rfl | rfl | rfl | rfl | rfl <;> rfl

theorem Avx2.store_eq (r : Region) (v : V4) : Avx2.store r v = writeSeq r (fun k => k) v.getN 4 := by
  apply Region.ext'
  intro j
  by_cases h : j < 4
  · rw [Avx2.store_getN r v h]
    exact (writeSeq_last r (fun k => k) v.getN 4 j h fun k' h1 _ he => absurd he (Nat.ne_of_gt h1)).symm
  · rw [writeSeq_frame r _ _ 4 j fun k hk => Nat.ne_of_gt (Nat.lt_of_lt_of_le hk (Nat.le_of_not_lt h))]
    simp only [Avx2.store, Region.mk_apply]
    rw [if_neg (by omega), if_neg (by omega), if_neg (by omega), if_neg (by omega)]

theorem Avx512.store_eq (r : Region) (v : V8) : Avx512.store r v = writeSeq r (fun k => k) v.getN 8 := by
  apply Region.ext'
  intro j
  by_cases h : j < 8
  · rw [Avx512.store_getN r v h]
    exact (writeSeq_last r (fun k => k) v.getN 8 j h fun k' h1 _ he => absurd he (Nat.ne_of_gt h1)).symm
  · rw [writeSeq_frame r _ _ 8 j fun k hk => Nat.ne_of_gt (Nat.lt_of_lt_of_le hk (Nat.le_of_not_lt h))]
    simp only [Avx512.store, Region.mk_apply]
    rw [if_neg (by omega), if_neg (by omega), if_neg (by omega), if_neg (by omega), if_neg (by omega), if_neg (by omega),
      if_neg (by omega), if_neg (by omega)]

end GoldilocksVerif
