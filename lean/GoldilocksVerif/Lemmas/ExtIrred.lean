/-
  x³ − x − 1 has no root in F_p (p = 2^64 − 2^32 + 1), hence (cubic) it is irreducible and the norm form of
  K3 = F_p[x]/(x³ − x − 1) vanishes only at 0:   a ≠ 0 → tval a ≠ 0   (tval = −Norm, the quantity `t` of Goldilocks3::inv).

  No root: if r³ = r + 1 then evaluation at r, φ(c0,c1,c2) = c0 + c1 r + c2 r², is multiplicative for the reduced schoolbook
  product.  x^p in K3 is computed by square-and-multiply on Nat triples in the kernel (`decide +kernel`): x^p = (h0,h1,h2).
  Then φ(x^p) = r^p = r (Fermat), so r is a root of g = h2 x² + (h1 − 1) x + h0 too, and an explicit Bézout identity
  u·f + v·g = 1 (mod p) gives 1 = 0.
-/
import GoldilocksVerif.Lemmas.ExtF
import GoldilocksVerif.Lemmas.Prime
import Mathlib.FieldTheory.Finite.Basic

namespace GoldilocksVerif

/-- reduced schoolbook product on canonical Nat triples (same shape as `K3.mul`) -/
def k3mulN (a b : Nat × Nat × Nat) : Nat × Nat × Nat :=
  ((a.1 * b.1 + (a.2.1 * b.2.2 + a.2.2 * b.2.1)) % P,
   (a.1 * b.2.1 + a.2.1 * b.1 + (a.2.1 * b.2.2 + a.2.2 * b.2.1) + a.2.2 * b.2.2) % P,
   (a.1 * b.2.2 + a.2.1 * b.2.1 + a.2.2 * b.1 + a.2.2 * b.2.2) % P)

def phiN (r : F) (t : Nat × Nat × Nat) : F := (t.1 : F) + (t.2.1 : F) * r + (t.2.2 : F) * r ^ 2

theorem phiN_mul (r : F) (hr : r ^ 3 = r + 1) (a b : Nat × Nat × Nat) :
    phiN r (k3mulN a b) = phiN r a * phiN r b := by
  obtain ⟨a0, a1, a2⟩ := a
  obtain ⟨b0, b1, b2⟩ := b
  simp only [phiN, k3mulN, ZMod.natCast_mod]
  push_cast
  linear_combination (-(((a1 : F) * b2 + a2 * b1) + (a2 : F) * b2 * r)) * hr

/-- x^p in K3, evaluated in the kernel -/
theorem k3_frobenius_x :
    sqMul k3mulN 64 (0, 1, 0) P (1, 0, 0) = (10615703402128488253, 10050274602728160328, 11746561000929144102) := by
  decide +kernel

theorem cubic_no_root (r : F) : r ^ 3 ≠ r + 1 := by
  intro hr
  have hpow := sqMul_hom k3mulN (phiN r) (phiN_mul r hr) 64 (0, 1, 0) P (1, 0, 0) (by decide)
  rw [k3_frobenius_x] at hpow
  have hfr : r ^ P = r := ZMod.pow_card r
  have hx : phiN r (0, 1, 0) = r := by simp [phiN]
  have h1 : phiN r (1, 0, 0) = 1 := by simp [phiN]
  rw [hx, h1, hfr, one_mul] at hpow
  simp only [phiN] at hpow
  push_cast at hpow
  have hP : (18446744069414584321 : F) = 0 := by
    have : ((18446744069414584321 : Nat) : F) = 0 := ZMod.natCast_self P
    exact_mod_cast this
  have : (1 : F) = 0 := by
    linear_combination (2549906194796835896 + 12909963218832731643 * r) * hr +
      (991315191999139912 + 15238614666038134874 * r + 11086490780951302402 * r ^ 2) * hpow -
      (570480514972574959 + 9309588879490733367 * r + 15313689135103035685 * r ^ 2 + 15743894552913474338 * r ^ 3 +
        7059681630245326407 * r ^ 4) * hP
  exact one_ne_zero this

/-- if −Norm(a0 + a1 x + a2 x²) = 0 for a non-zero triple then x³ − x − 1 has a root: with M = a1² − a0a2 − a2², N = a0a1 − a2²
    (the remainder of f modulo a is proportional to M x + N) the root is −N/M, or a1/a2 when M = 0 -/
theorem cubic_root_of_norm_zero {K : Type*} [Field K] (a0 a1 a2 : K)
    (hT : a1 * a0 * a2 + a1 * a0 * a2 + a1 * a0 * a2 + a1 * a0 * a1 - a0 * a0 * a0 - a0 * a0 * a2 - a0 * a0 * a2 -
      a0 * a2 * a2 - a1 * a1 * a1 + a1 * a2 * a2 - a2 * a2 * a2 = 0)
    (hne : ¬ (a0 = 0 ∧ a1 = 0 ∧ a2 = 0)) : ∃ s : K, s ^ 3 = s + 1 := by
  by_cases hM : a1 ^ 2 - a0 * a2 - a2 ^ 2 = 0
  · have hN2 : (a1 * a0 - a2 ^ 2) ^ 2 * a2 = 0 := by
      linear_combination (-a2 ^ 2) * hT + (a1 * (a1 * a0 - a2 ^ 2) - a0 * (a1 ^ 2 - a0 * a2 - a2 ^ 2)) * hM
    by_cases h2 : a2 = 0
    · exfalso
      apply hne
      subst h2
      have h1 : a1 = 0 := by
        have : a1 ^ 2 = 0 := by linear_combination hM
        exact pow_eq_zero_iff (two_ne_zero) |>.mp this
      subst h1
      have h0 : a0 ^ 3 = 0 := by linear_combination (-1 : K) * hT
      exact ⟨pow_eq_zero_iff (three_ne_zero) |>.mp h0, rfl, rfl⟩
    · have hN : a1 * a0 - a2 ^ 2 = 0 := by
        rcases mul_eq_zero.mp hN2 with h | h
        · exact pow_eq_zero_iff (two_ne_zero) |>.mp h
        · exact absurd h h2
      refine ⟨a1 / a2, ?_⟩
      field_simp
      linear_combination a1 * hM + a2 * hN
  · refine ⟨-(a1 * a0 - a2 ^ 2) / (a1 ^ 2 - a0 * a2 - a2 ^ 2), ?_⟩
    field_simp
    linear_combination (a1 ^ 3 - a1 * a2 ^ 2 - a2 ^ 3) * hT

/-- Hence `Goldilocks3::inv` returns on every non-zero element. -/
theorem K3.tval_ne_zero (a : K3) (h : a ≠ K3.zero) : K3.tval a ≠ 0 := by
  intro hT
  obtain ⟨s, hs⟩ := cubic_root_of_norm_zero a.c0 a.c1 a.c2 hT (by
    rintro ⟨h0, h1, h2⟩
    exact h (K3.ext' _ _ h0 h1 h2))
  exact cubic_no_root s hs

theorem K3.tval_zero : K3.tval K3.zero = 0 := by simp [K3.tval, K3.zero]

theorem K3.tval_eq_zero_iff (a : K3) : K3.tval a = 0 ↔ a = K3.zero := by
  constructor
  · intro h; by_contra hne; exact K3.tval_ne_zero a hne h
  · intro h; rw [h]; exact K3.tval_zero

end GoldilocksVerif
