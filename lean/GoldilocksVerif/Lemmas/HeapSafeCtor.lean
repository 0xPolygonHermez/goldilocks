/-
  From the generated CONSTRUCTOR to the in-bounds statement of a transform: the tables the generated constructor leaves
  have the extents `NTT_iters` relies on (through the bridge theorem `ctor_gen`: the constructor appends the hand model's
  tables; their sizes are 2^s and s + 1), hence  constructor + NTT on buffers of the documented extents  is in bounds
  without any hypothesis about the object.
-/
import GoldilocksVerif.Lemmas.HeapSafeNtt
import GoldilocksVerif.Lemmas.BridgeNttCtor
import GoldilocksVerif.Lemmas.BridgeNttTop
open GoldilocksVerif Gen.NttGen GoldilocksVerif.BridgeNtt
namespace GoldilocksVerif.HeapSafe

theorem tabHand_size (r1 : BitVec 64) : ∀ (n i : Nat) (a : Array (BitVec 64)),
    (Loop.rangeAux 1 (tabHand r1) n i a).size = a.size + n := by
  intro n
  induction n with
  | zero => intro i a; rfl
  | succ n ih =>
    intro i a
    show (Loop.rangeAux 1 (tabHand r1) n (i + 1) (tabHand r1 i a)).size = _
    rw [ih]
    unfold tabHand
    rw [Array.size_push]; omega

theorem mkRoots_size (D : Nat) : (mkRoots D).size = 2 ^ mkS D := by
  unfold mkRoots
  rw [tabHand_size]
  have h1 := (mkS_range D).1
  have : 2 ^ 1 ≤ 2 ^ mkS D := Nat.pow_le_pow_right (by decide) h1
  show 2 + (2 ^ mkS D - 2) = _
  omega

theorem mkPti_size (D : Nat) : (mkPti D).size = mkS D + 1 := by
  unfold mkPti
  rw [tabHand_size]
  have h1 := (mkS_range D).1
  show 2 + (mkS D - 1) = _
  omega

/-- the extents the transforms rely on: `roots` has 2^s words, `powTwoInv` has s + 1 words, log2(maxDomainSize) ≤ s ≤ 32 -/
theorem ctor_tables (fuel : Nat) (hf : 64 ≤ fuel) (hp hp' : Heap) (self0 self' : NTT_Goldilocks)
    (m : BitVec 64) (thr : BitVec 32) (e : Nat) (hm0 : m ≠ 0#64)
    (h : NTT_ctor fuel hp self0 m thr (e : Int) = some (hp', self')) :
    Model.Ntt.log2 m.toNat ≤ self'.s.toNat ∧ self'.s.toNat ≤ 32 ∧ self'.roots = ⟨hp.size, 0⟩ ∧ self'.powTwoInv = ⟨hp.size + 1, 0⟩ ∧
    hp'.ext hp.size = 2 ^ self'.s.toNat ∧ hp'.ext (hp.size + 1) = self'.s.toNat + 1 ∧ hp'.size = hp.size + 2 ∧
    (∀ b, b < hp.size → hp'.ext b = hp.ext b) ∧ self'.extension = (e : Int) := by
  have hg := ctor_gen fuel hf hp self0 m thr e hm0
  have hmn : m.toNat ≠ 0 := fun x => hm0 (BitVec.eq_of_toNat_eq (by simpa using x))
  cases hobj : Model.Ntt.mkObj m.toNat e with
  | none => rw [hobj] at hg; rw [hg] at h; cases h
  | some o =>
    rw [hobj] at hg
    obtain ⟨s2, h1, h2, h3, h4, _, _, h7, _⟩ := hg
    rw [h1] at h
    injection h with h
    injection h with ha hb
    subst hb
    obtain ⟨hv1, hv2, _⟩ := Model.Ntt.mkObj_s_val m.toNat e o hmn hobj
    obtain ⟨_, ho⟩ := mkObj_unfold m.toNat e o hmn hobj
    have hr : o.roots.size = 2 ^ o.s := by rw [ho]; exact mkRoots_size _
    have hq : o.powTwoInv.size = o.s + 1 := by rw [ho]; exact mkPti_size _
    refine ⟨by rw [h2]; exact hv1, by rw [h2]; exact hv2, h3, h4, ?_, ?_, ?_, ?_, h7⟩
    · rw [← ha, h2, ← hr]
      unfold Heap.ext
      rw [Heap.block_push_lt _ _ _ (by simp), Heap.block_push_last _ _ _ rfl]
    · rw [← ha, h2, ← hq]
      unfold Heap.ext
      rw [Heap.block_push_last _ _ _ (by simp)]
    · rw [← ha]; simp
    · intro b hb
      rw [← ha]
      unfold Heap.ext
      rw [Heap.block_push_lt _ _ _ (by simp; omega), Heap.block_push_lt _ _ _ hb]

/-- what the caller provides for `NTT(dst, src, size, ncols, buffer, …)` on a heap `hp` (before the object exists) -/
structure CallerShape (hp : Heap) (ext : Int) (dst src buffer : Ptr) (N NC K : Nat) : Prop where
  hK1 : 1 ≤ K
  hK : K ≤ 30
  hN : N = 2 ^ K
  hNC : 0 < NC
  hbytes : N * NC * 8 < 2 ^ 64
  hD : (if (dst == Ptr.null) = true then src else dst).off + N * NC ≤ hp.ext (if (dst == Ptr.null) = true then src else dst).blk
  hsrc : src.off + (if ext ≤ 1 then N else (bv N / I32.toU64 ext).toNat) * NC ≤ hp.ext src.blk
  hsrcl : src.blk < hp.size
  hds : (if (dst == Ptr.null) = true then src else dst) ≠ src → (if (dst == Ptr.null) = true then src else dst).blk ≠ src.blk
  hbuf : buffer ≠ Ptr.null → buffer.off + N * NC ≤ hp.ext buffer.blk ∧
    buffer.blk ≠ (if (dst == Ptr.null) = true then src else dst).blk ∧ buffer.blk ≠ src.blk

/-- **constructor, then a transform**, no hypothesis about the object: the generated constructor on any heap, then the
    generated `NTT` of a size up to `maxDomainSize` on buffers of the documented extents -/
theorem construct_transform_safe (fuel : Nat) (hf : 64 ≤ fuel) (hp hp' : Heap) (hpos : 0 < hp.size) (self' : NTT_Goldilocks)
    (m : BitVec 64) (thr : BitVec 32) (e : Nat) (hm0 : m ≠ 0#64)
    (hctor : NTT_ctor fuel hp NTT_Goldilocks.init m thr (e : Int) = some (hp', self'))
    (dst src buffer : Ptr) (N NC K : Nat) (nphase nblock : BitVec 64) (inverse : Bool)
    (hKm : K ≤ Model.Ntt.log2 m.toNat) (sh : CallerShape hp (e : Int) dst src buffer N NC K) :
    NTT_NTT.Safe fuel hp' self' dst src (bv N) (bv NC) buffer nphase nblock inverse false := by
  obtain ⟨t1, t2, t3, t4, t5, t6, t7, t8, t9⟩ := ctor_tables fuel hf hp hp' _ self' m thr e hm0 hctor
  obtain ⟨hK1, hK, hN, hNC, hbytes, hD, hsrc, hsrcl, hds, hbuf⟩ := sh
  have hN0 : 0 < N := pow2_pos hN
  have hNNC : 0 < N * NC := Nat.mul_pos hN0 hNC
  have hN64 : N < 2 ^ 64 := by
    have : N ≤ 2 ^ 30 := pow2_le hN hK
    omega
  refine NTT_safe fuel hf hp' self' dst src buffer N NC K nphase nblock inverse false
    ⟨hK1, hK, hN, hNC, hbytes, by omega, ?_, ?_, by omega, hds, ?_, by omega, t2, ?_, ?_, fun x => by cases x⟩
  · rw [t8 _ (Heap.lt_size_of_live hp _ (by omega))]; exact hD
  · rw [t8 _ hsrcl]
    unfold srcRows
    rw [t9, bv_toNat N hN64]
    exact hsrc
  · intro hb
    obtain ⟨b1, b2, b3⟩ := hbuf hb
    exact ⟨by rw [t8 _ (Heap.lt_size_of_live hp _ (by omega))]; exact b1, b2, b3⟩
  · rw [t3]; show 0 + 2 ^ self'.s.toNat ≤ hp'.ext hp.size; rw [t5]; omega
  · rw [t4]; show 0 + self'.s.toNat + 1 ≤ hp'.ext (hp.size + 1); rw [t6]; omega

end GoldilocksVerif.HeapSafe
