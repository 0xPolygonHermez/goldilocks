/-
  Bridge theorem: the TRANSLATED `NTT_Goldilocks::reversePermutation` (Gen/NttGen.lean), all four branches (destination
  distinct / in place × extension ≤ 1 / > 1), changes the destination block exactly as the hand model's
  `reversePermutation` (Model/Ntt.lean) changes its buffer; the failed `assert` is the model's `.error`.
-/
import GoldilocksVerif.Lemmas.BridgeNttBasic
import GoldilocksVerif.Lemmas.BridgeNttTac
import GoldilocksVerif.Lemmas.NttBr

namespace GoldilocksVerif.BridgeNtt
open GoldilocksVerif Gen.NttGen

theorem ofNat_toNat_lt (i : Nat) (h : i < 2 ^ 64) : (BitVec.ofNat 64 i).toNat = i := by
  rw [BitVec.toNat_ofNat, Nat.mod_eq_of_lt h]

theorem mul_toNat (a b : BitVec 64) (h : a.toNat * b.toNat < 2 ^ 64) : (a * b).toNat = a.toNat * b.toNat := by
  rw [BitVec.toNat_mul, Nat.mod_eq_of_lt h]

theorem add_toNat (a b : BitVec 64) (h : a.toNat + b.toNat < 2 ^ 64) : (a + b).toNat = a.toNat + b.toNat := by
  rw [BitVec.toNat_add, Nat.mod_eq_of_lt h]

/-- `n * sizeof(Element) / 8` words -/
theorem words_toNat (n : BitVec 64) (h : n.toNat * 8 < 2 ^ 64) : (n * 8#64).toNat / 8 = n.toNat := by
  rw [mul_toNat _ _ (by simpa using h)]
  have : (8#64 : BitVec 64).toNat = 8 := by decide
  rw [this]; omega

theorem mul_le_of_lt (i n c : Nat) (h : i < n) : i * c + c ≤ n * c := by
  have := Nat.mul_le_mul_right c (show i + 1 ≤ n by omega)
  rw [Nat.add_mul, Nat.one_mul] at this
  exact this

theorem pow2_pos {N K : Nat} (hN : N = 2 ^ K) : 0 < N := by rw [hN]; exact Nat.pow_pos (by decide)
theorem pow2_le {N K M : Nat} (hN : N = 2 ^ K) (hK : K ≤ M) : N ≤ 2 ^ M := by
  rw [hN]; exact Nat.pow_le_pow_right (by decide) hK

theorem copyRow_eq (d : Block) (d0 : Nat) (s : Block) (s0 n : Nat) :
    Block.copyRow d d0 s s0 n = Model.Ntt.copyRow d d0 s s0 n := rfl
theorem zeroRow_eq (d : Block) (d0 n : Nat) : Block.zeroRow d d0 n = Model.Ntt.zeroRow d d0 n := rfl

section bodies
variable (oc nc nca : BitVec 64) (ds : BitVec 32) (k size : Nat)
variable (hk : k ≤ 32) (hds : ds.toNat = k) (hsz : size = 2 ^ k)
variable (hb1 : size * nca.toNat + oc.toNat < 2 ^ 64) (hb2 : size * nc.toNat < 2 ^ 64)

include hk hds hsz in
theorem BR_i (i : Nat) (hi : i < size) :
    (BR (BitVec.ofNat 64 i) (BitVec.setWidth 64 ds)).toNat = Model.Ntt.br i k ∧ Model.Ntt.br i k < size := by
  have h64 : size < 2 ^ 64 := by
    rw [hsz]; exact Nat.pow_lt_pow_right (by omega) (by omega)
  have hdw : (BitVec.setWidth 64 ds).toNat = k := by
    rw [BitVec.toNat_setWidth, hds]; exact Nat.mod_eq_of_lt (by omega)
  constructor
  · rw [BR_gen _ _ (by rw [hdw]; exact hk), hdw, ofNat_toNat_lt i (by omega)]
  · rw [Model.Ntt.br_eq_bitrev k i hk (hsz ▸ hi), hsz]
    exact Model.Ntt.bitrev_lt k i

include hk hds hsz hb1 in
theorem src_off (i : Nat) (hi : i < size) :
    (BR (BitVec.ofNat 64 i) (BitVec.setWidth 64 ds) * nca + oc).toNat = Model.Ntt.br i k * nca.toNat + oc.toNat := by
  obtain ⟨e, hlt⟩ := BR_i ds k size hk hds hsz i hi
  have hm := mul_le_of_lt _ _ nca.toNat hlt
  rw [add_toNat, mul_toNat, e]
  · rw [e]; omega
  · rw [mul_toNat _ _ (by rw [e]; omega), e]; omega

include hsz hk hb2 in
theorem dst_off (i : Nat) (hi : i < size) : (BitVec.ofNat 64 i * nc).toNat = i * nc.toNat := by
  have h64 : size < 2 ^ 64 := by
    rw [hsz]; exact Nat.pow_lt_pow_right (by omega) (by omega)
  have hm := mul_le_of_lt _ _ nc.toNat hi
  rw [mul_toNat, ofNat_toNat_lt i (by omega)]
  rw [ofNat_toNat_lt i (by omega)]; omega

theorem lt_ofNat (a : BitVec 64) (i : Nat) (h : i < 2 ^ 64) : (a < BitVec.ofNat 64 i) ↔ a.toNat < i := by
  rw [BitVec.lt_def, ofNat_toNat_lt i h]

/- The four loop bodies are characterised where the loops are CALLED (`reversePermutation_gen`), after unfolding: no
   statement mentions their parameter lists (a hoisted byte count, a swapped sum change them).
   The by-name forms `rp_body1` … `rp_body4` (C12) are in Lemmas/BridgeNttPass.lean. -/

theorem zeroRow_replicate (n : Nat) : Model.Ntt.zeroRow (Array.replicate n 0#64) 0 n = Array.replicate n 0#64 := by
  apply Model.Ntt.buf_ext
  · rw [Model.Ntt.zeroRow_size]
  · intro j _
    rw [Model.Ntt.zeroRow_getD, Model.Ntt.getD_replicate]
    by_cases h : 0 ≤ j ∧ j < 0 + n ∧ j < (Array.replicate n (0#64 : BitVec 64)).size
    · rw [if_pos h]
      have : j < n := by omega
      rw [if_pos this]
    · rw [if_neg h]

/-- body of the hand model's in-place loop, extension ≤ 1 -/
def ipHand1 (k nc : Nat) (i : Nat) (D : Block) : Block :=
  let r := Model.Ntt.br i k
  if r < i then
    let tmp := Model.Ntt.copyRow (Array.replicate nc 0#64) 0 D (r * nc) nc
    let D := Model.Ntt.copyRow D (r * nc) D (i * nc) nc
    Model.Ntt.copyRow D (i * nc) tmp 0 nc
  else D

/-- body of the hand model's in-place loop, extension > 1 -/
def ipHand2 (k nc nIn : Nat) (i : Nat) (D : Block) : Block :=
  let r := Model.Ntt.br i k
  if r < i then
    let tmp := if r < nIn then Model.Ntt.copyRow (Array.replicate nc 0#64) 0 D (r * nc) nc else Array.replicate nc 0#64
    let D := if i < nIn then Model.Ntt.copyRow D (r * nc) D (i * nc) nc else Model.Ntt.zeroRow D (r * nc) nc
    Model.Ntt.copyRow D (i * nc) tmp 0 nc
  else if r = i ∧ nIn ≤ i then Model.Ntt.zeroRow D (i * nc) nc
  else D

include hk hds hsz hb2 in
theorem ip_off (i : Nat) (hi : i < size) :
    (BR (BitVec.ofNat 64 i) (BitVec.setWidth 64 ds) * nc).toNat = Model.Ntt.br i k * nc.toNat := by
  obtain ⟨e, hlt⟩ := BR_i ds k size hk hds hsz i hi
  have hm := mul_le_of_lt _ _ nc.toNat hlt
  rw [mul_toNat _ _ (by rw [e]; omega), e]

include hk hds hsz in
/-- the test `r == i` of the in-place loop for extension > 1 -/
theorem BR_beq (i : Nat) (hi : i < size) :
    (BR (BitVec.ofNat 64 i) (BitVec.setWidth 64 ds) == BitVec.ofNat 64 i) = decide (Model.Ntt.br i k = i) := by
  have h64 : size < 2 ^ 64 := by
    rw [hsz]; exact Nat.pow_lt_pow_right (by omega) (by omega)
  obtain ⟨e, _⟩ := BR_i ds k size hk hds hsz i hi
  have hiN : (BitVec.ofNat 64 i).toNat = i := ofNat_toNat_lt i (by omega)
  rw [Bool.eq_iff_iff]
  simp only [beq_iff_eq, decide_eq_true_eq]
  constructor
  · intro h; rw [← e, h, hiN]
  · intro h; apply BitVec.eq_of_toNat_eq; rw [e, hiN, h]

end bodies

/-! ### one iteration of the in-place loops on the heap: rows exchanged through a temporary row block that is allocated and
  freed within the iteration -/

theorem ip1_heap (X : Heap) (d : Nat) (hd : d < X.size) (r i n : Nat) :
    some (if decide (r < i) = true then
        ((((X.push (Array.replicate n 0#64)).copy ⟨X.size, 0⟩ ⟨d, r * n⟩ n).copy ⟨d, r * n⟩ ⟨d, i * n⟩ n).copy ⟨d, i * n⟩
          ⟨X.size, 0⟩ n).free ⟨X.size, 0⟩
      else X) =
    some (X.setBlock d (if r < i then
        Model.Ntt.copyRow (Model.Ntt.copyRow (X.block d) (r * n) (X.block d) (i * n) n) (i * n)
          (Model.Ntt.copyRow (Array.replicate n 0#64) 0 (X.block d) (r * n) n) 0 n
      else X.block d)) := by
  by_cases hc : r < i
  · simp only [hc, decide_true, if_true]
    rw [Heap.tmp_copy_in X _ X.size d rfl hd, Heap.tmp_copy_self X _ d hd,
      Heap.tmp_copy_out _ _ X.size d (by simp) (by simpa using hd),
      Heap.free_push' _ _ X.size (by simp) (by simp; omega)]
    rw [Heap.setBlock_setBlock, Heap.block_setBlock_same _ _ _ hd]
    rfl
  · simp only [hc, decide_false, if_false, Bool.false_eq_true]
    rw [Heap.setBlock_block]

/-- the same when rows from `nIn` on count as zero (extension > 1) -/
theorem ip2_heap (X : Heap) (d : Nat) (hd : d < X.size) (r i n nIn : Nat) :
    some (if decide (r < i) = true then
        ((if decide (i < nIn) = true then
            (if decide (r < nIn) = true then (X.push (Array.replicate n 0#64)).copy ⟨X.size, 0⟩ ⟨d, r * n⟩ n
              else (X.push (Array.replicate n 0#64)).zero ⟨X.size, 0⟩ n).copy ⟨d, r * n⟩ ⟨d, i * n⟩ n
          else
            (if decide (r < nIn) = true then (X.push (Array.replicate n 0#64)).copy ⟨X.size, 0⟩ ⟨d, r * n⟩ n
              else (X.push (Array.replicate n 0#64)).zero ⟨X.size, 0⟩ n).zero ⟨d, r * n⟩ n).copy ⟨d, i * n⟩ ⟨X.size, 0⟩
          n).free ⟨X.size, 0⟩
      else if (decide (r = i) && decide (nIn ≤ i)) = true then X.zero ⟨d, i * n⟩ n else X) =
    some (X.setBlock d (if r < i then
        Model.Ntt.copyRow
          (if i < nIn then Model.Ntt.copyRow (X.block d) (r * n) (X.block d) (i * n) n
            else Model.Ntt.zeroRow (X.block d) (r * n) n)
          (i * n)
          (if r < nIn then Model.Ntt.copyRow (Array.replicate n 0#64) 0 (X.block d) (r * n) n else Array.replicate n 0#64)
          0 n
      else if r = i ∧ nIn ≤ i then Model.Ntt.zeroRow (X.block d) (i * n) n else X.block d)) := by
  by_cases hc : r < i
  · simp only [hc, decide_true, if_true]
    have hA : (if decide (r < nIn) = true then (X.push (Array.replicate n 0#64)).copy ⟨X.size, 0⟩ ⟨d, r * n⟩ n
          else (X.push (Array.replicate n 0#64)).zero ⟨X.size, 0⟩ n) =
        X.push (if r < nIn then Model.Ntt.copyRow (Array.replicate n 0#64) 0 (X.block d) (r * n) n
          else Array.replicate n 0#64) := by
      by_cases h1 : r < nIn
      · simp only [h1, decide_true, if_true]
        rw [Heap.tmp_copy_in X _ X.size d rfl hd]; rfl
      · simp only [h1, decide_false, if_false, Bool.false_eq_true]
        rw [Heap.tmp_zero_in X _ X.size rfl, zeroRow_eq, zeroRow_replicate]
    rw [hA]
    generalize (if r < nIn then Model.Ntt.copyRow (Array.replicate n 0#64) 0 (X.block d) (r * n) n
      else Array.replicate n 0#64) = T
    have hB : (if decide (i < nIn) = true then (X.push T).copy ⟨d, r * n⟩ ⟨d, i * n⟩ n else (X.push T).zero ⟨d, r * n⟩ n) =
        (X.setBlock d (if i < nIn then Model.Ntt.copyRow (X.block d) (r * n) (X.block d) (i * n) n
          else Model.Ntt.zeroRow (X.block d) (r * n) n)).push T := by
      by_cases h1 : i < nIn
      · simp only [h1, decide_true, if_true]
        rw [Heap.tmp_copy_self X _ d hd]; rfl
      · simp only [h1, decide_false, if_false, Bool.false_eq_true]
        rw [Heap.tmp_zero_self X _ d hd]; rfl
    rw [hB]
    rw [Heap.tmp_copy_out _ _ X.size d (by simp) (by simpa using hd),
      Heap.free_push' _ _ X.size (by simp) (by simp; omega)]
    rw [Heap.setBlock_setBlock, Heap.block_setBlock_same _ _ _ hd]
    rfl
  · simp only [hc, decide_false, if_false, Bool.false_eq_true]
    by_cases h2 : r = i ∧ nIn ≤ i
    · have h2' : (decide (r = i) && decide (nIn ≤ i)) = true := by simp [h2.1, h2.2]
      simp only [h2', if_true, if_pos h2, Heap.zero_eq, zeroRow_eq]
    · have h2' : (decide (r = i) && decide (nIn ≤ i)) = false := by
        rw [Bool.and_eq_false_iff]
        by_cases h3 : r = i
        · right; simp; omega
        · left; simp [h3]
      simp only [h2', if_neg h2, Bool.false_eq_true, if_false]
      rw [Heap.setBlock_block]

theorem ptr_ne (d s : Nat) : ((⟨d, 0⟩ : Ptr) != ⟨s, 0⟩) = !decide (d = s) := by
  by_cases h : d = s
  · subst h; simp
  · have : (⟨d, 0⟩ : Ptr) ≠ ⟨s, 0⟩ := fun e => h (by injection e)
    simp [h, this]

/-- what the translated `reversePermutation` computes before it selects a loop, as numbers: `domainSize = log2 size = k`, the
    `int` member `extension` (`ext`, `0 ≤ e < 2^31`) as a 64-bit word, `nrows_in = size / extension`, `ext_ = nrows_in · ncols_all` -/
theorem revPerm_args (fuel : Nat) (hf : log2Fuel ≤ fuel) (ext : Int) (e : Nat) (size nca : BitVec 64) (k : Nat) (hk : k ≤ 32)
    (hsize : size.toNat = 2 ^ k) (hext : ext = (e : Int)) (hext31 : e < 2 ^ 31) (hb : size.toNat * nca.toNat < 2 ^ 64) :
    NTT_log2 fuel size = some (BitVec.ofNat 32 k) ∧ Model.Ntt.log2 size.toNat = k ∧ (BitVec.ofNat 32 k).toNat = k ∧
    I32.toU64 ext = BitVec.ofNat 64 e ∧ (ext ≤ 1 ↔ e ≤ 1) ∧ (size / BitVec.ofNat 64 e).toNat = size.toNat / e ∧
    (size / BitVec.ofNat 64 e * nca).toNat = size.toNat / e * nca.toNat := by
  have hne0 : size ≠ 0#64 := by
    intro h
    have h1 := congrArg BitVec.toNat h
    rw [hsize] at h1
    have h2 : 0 < 2 ^ k := Nat.pow_pos (by omega)
    have h3 : (0#64 : BitVec 64).toNat = 0 := rfl
    omega
  have hlogk : Model.Ntt.log2 size.toNat = k := by rw [hsize]; exact Nat.log2_two_pow
  have hlog := log2_gen_eq fuel hf size hne0
  rw [hlogk] at hlog
  have hnin : (size / BitVec.ofNat 64 e).toNat = size.toNat / e := by
    rw [BitVec.toNat_udiv, ofNat_toNat_lt _ (by omega)]
  have hle : size.toNat / e * nca.toNat ≤ size.toNat * nca.toNat := Nat.mul_le_mul_right _ (Nat.div_le_self _ _)
  refine ⟨hlog, hlogk, ?_, ?_, by rw [hext]; omega, hnin, by rw [mul_toNat _ _ (by rw [hnin]; omega), hnin]⟩
  · rw [BitVec.toNat_ofNat]; exact Nat.mod_eq_of_lt (by omega)
  · rw [hext]; simp only [I32.toU64, BitVec.ofInt_natCast]

/-- **reversePermutation**: generated function on the heap = hand model on the destination block.
    `size = 2^k`, `k ≤ 32`; the index products fit in 64 bits. -/
theorem reversePermutation_gen (fuel : Nat) (hf : log2Fuel ≤ fuel) (hp : Heap) (self : NTT_Goldilocks) (o : Model.Ntt.Obj)
    (d s : Nat) (size oc nc nca : BitVec 64) (k : Nat) (hk : k ≤ 32) (hsize : size.toNat = 2 ^ k) (hd : d < hp.size)
    (hext : self.extension = (o.extension : Int)) (hext31 : o.extension < 2 ^ 31)
    (hb1 : size.toNat * nca.toNat + oc.toNat < 2 ^ 64) (hb2 : size.toNat * nc.toNat < 2 ^ 64) (hb3 : nc.toNat * 8 < 2 ^ 64) :
    NTT_reversePermutation fuel hp self ⟨d, 0⟩ ⟨s, 0⟩ size oc nc nca =
      match Model.Ntt.reversePermutation o (hp.block d) (hp.block s) (decide (d = s)) size.toNat oc.toNat nc.toNat nca.toNat with
      | .ok D => some (hp.setBlock d D)
      | .error _ => none := by
  obtain ⟨hlog, hlogk, hds, hextu, hextle, hnin, hE⟩ := revPerm_args fuel hf self.extension o.extension size nca k hk hsize hext
    hext31 (by omega)
  have hextd : decide (self.extension ≤ 1) = decide (o.extension ≤ 1) := decide_eq_decide.2 hextle
  unfold NTT_reversePermutation Model.Ntt.reversePermutation
  simp only [hlog, Option.bind_some, hlogk, ptr_ne]
  have hassert : (oc == 0#64 && nc == nca) = decide (oc.toNat = 0 ∧ nc.toNat = nca.toNat) := by
    rw [Bool.eq_iff_iff]
    simp only [Bool.and_eq_true, beq_iff_eq, decide_eq_true_eq]
    constructor
    · rintro ⟨rfl, rfl⟩; exact ⟨rfl, rfl⟩
    · rintro ⟨h1, h2⟩
      exact ⟨BitVec.eq_of_toNat_eq (by rw [h1]; rfl), BitVec.eq_of_toNat_eq h2⟩
  rw [hextd, hextu, hassert]
  by_cases hdseq : d = s
  · subst hdseq
    simp only [decide_true, Bool.not_true, Bool.false_eq_true, if_false]
    by_cases ha : oc.toNat = 0 ∧ nc.toNat = nca.toNat
    · simp only [ha, and_self, decide_true, Bool.not_true, Bool.false_eq_true, if_false, if_true]
      by_cases he : o.extension ≤ 1
      · simp only [he, decide_true, if_true]
        rw [Heap.rangeM_block hp d hd (ipHand1 k nc.toNat) _ 0 size.toNat]
        · rw [ha.2]
          rfl
        · -- the body of the in-place loop (extension ≤ 1), as it is written
          intro i X _ hi hs _
          have hd : d < X.size := by omega
          have h64 : size.toNat < 2 ^ 64 := by
            rw [hsize]; exact Nat.pow_lt_pow_right (by omega) (by omega)
          obtain ⟨e, hlt⟩ := BR_i (BitVec.ofNat 32 k) k size.toNat hk hds hsize i hi
          unfold_loops
          unfold ipHand1
          simp only [Ptr.add, Nat.zero_add, lt_ofNat _ i (by omega), e,
            ip_off nc (BitVec.ofNat 32 k) k size.toNat hk hds hsize hb2 i hi, dst_off nc k size.toNat hk hsize hb2 i hi, words_toNat nc hb3,
            Heap.alloc_fst, Heap.alloc_snd]
          exact ip1_heap X d hd (Model.Ntt.br i k) i nc.toNat
      · simp only [he, decide_false, if_false, Bool.false_eq_true]
        rw [Heap.rangeM_block hp d hd (ipHand2 k nc.toNat (size.toNat / o.extension)) _ 0 size.toNat]
        · rw [ha.2]
          rfl
        · -- the body of the in-place loop (extension > 1), as it is written
          intro i X _ hi hs _
          have hd : d < X.size := by omega
          rw [← hnin]
          generalize size / BitVec.ofNat 64 o.extension = nIn
          have h64 : size.toNat < 2 ^ 64 := by
            rw [hsize]; exact Nat.pow_lt_pow_right (by omega) (by omega)
          obtain ⟨e, hlt⟩ := BR_i (BitVec.ofNat 32 k) k size.toNat hk hds hsize i hi
          have hiN : (BitVec.ofNat 64 i).toNat = i := ofNat_toNat_lt i (by omega)
          have heq := BR_beq (BitVec.ofNat 32 k) k size.toNat hk hds hsize i hi
          unfold_loops
          unfold ipHand2
          simp only [Ptr.add, Nat.zero_add, lt_ofNat _ i (by omega), BitVec.lt_def, BitVec.le_def, ge_iff_le, e, hiN, heq,
            ip_off nc (BitVec.ofNat 32 k) k size.toNat hk hds hsize hb2 i hi, dst_off nc k size.toNat hk hsize hb2 i hi, words_toNat nc hb3,
            Heap.alloc_fst, Heap.alloc_snd]
          exact ip2_heap X d hd (Model.Ntt.br i k) i nc.toNat nIn.toNat
    · simp only [ha, decide_false, Bool.not_false, if_true, Bool.false_eq_true, if_false]
      by_cases he : o.extension ≤ 1 <;> simp [he]
  · simp only [hdseq, decide_false, Bool.not_false, if_true]
    by_cases he : o.extension ≤ 1
    · simp only [he, decide_true, if_true]
      rw [Heap.rangeM_block hp d hd
        (fun i D => Model.Ntt.copyRow D (i * nc.toNat) (hp.block s) (Model.Ntt.br i k * nca.toNat + oc.toNat) nc.toNat)
        _ 0 size.toNat]
      · rfl
      · intro i X _ hi _ hfr
        obtain ⟨e, hlt⟩ := BR_i (BitVec.ofNat 32 k) k size.toNat hk hds hsize i hi
        have hm := mul_le_of_lt _ _ nca.toNat hlt
        have hm2 := mul_le_of_lt _ _ nc.toNat hi
        have hiN : (BitVec.ofNat 64 i).toNat = i := ofNat_toNat_lt i (by have := size.isLt; omega)
        unfold_loops
        simp only [Heap.copy_eq, Ptr.add_blk, Ptr.add_off, copyRow_eq, hfr s (fun e => hdseq e.symm)]
        congr 3 <;> bv_arith [e, hiN]
    · simp only [he, decide_false, if_false, Bool.false_eq_true]
      rw [Heap.rangeM_block hp d hd
        (fun i D => if Model.Ntt.br i k * nca.toNat + oc.toNat < size.toNat / o.extension * nca.toNat
          then Model.Ntt.copyRow D (i * nc.toNat) (hp.block s) (Model.Ntt.br i k * nca.toNat + oc.toNat) nc.toNat
          else Model.Ntt.zeroRow D (i * nc.toNat) nc.toNat)
        _ 0 size.toNat]
      · rfl
      · intro i X _ hi _ hfr
        obtain ⟨e, hlt⟩ := BR_i (BitVec.ofNat 32 k) k size.toNat hk hds hsize i hi
        have hm := mul_le_of_lt _ _ nca.toNat hlt
        have hm2 := mul_le_of_lt _ _ nc.toNat hi
        have hiN : (BitVec.ofNat 64 i).toNat = i := ofNat_toNat_lt i (by have := size.isLt; omega)
        unfold_loops
        simp only [Heap.copy_eq, Heap.zero_eq, Ptr.add_blk, Ptr.add_off, copyRow_eq, zeroRow_eq, hfr s (fun e => hdseq e.symm)]
        by_cases hc : Model.Ntt.br i k * nca.toNat + oc.toNat < size.toNat / o.extension * nca.toNat
        · rw [if_pos hc, if_pos (by bv_arith [e, hE])]
          congr 3 <;> bv_arith [e, hiN]
        · rw [if_neg hc, if_neg (by bv_arith [e, hE])]
          congr 3 <;> bv_arith [e, hiN]

end GoldilocksVerif.BridgeNtt
