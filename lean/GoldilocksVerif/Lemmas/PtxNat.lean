/-
  For C20 (GPU field type `gl64_t`, translated into `Gen/Ptx.lean`): the generated let-chains moved to `Nat`.

  Every instruction of `Isa/Ptx.lean` is characterised as arithmetic on `Nat`, carries and borrows as quotients, so that
  the mirrors of the 32-bit-limb chains contain no `if`.  `ptx_simp` executes a generated let-chain symbolically (every
  `let` inlined, every instruction a `toNat` fact); `ptx_nat` = `ptx_simp` + equality up to associativity/commutativity
  of `+` and `*`.  Each 32-bit-limb function (`reduce(uint32_t[4])`, `mul`, `mul(uint32_t)`) has a "Nat mirror" and a
  tie theorem `(Gen.Ptx.f ..).toNat = fN ..` by `unfold; ptx_nat` (`mul`: one of four mirrors, `MulMirror`).  The 64-bit
  functions have mirrors too (`addN`, `subN`, `cnegN`, `finalN`), tied in `Lemmas/PtxArith.lean`, which falls back to a
  proof on the `ptx_simp` form when the asm does not match the mirror; the pure-Nat lemmas about the mirrors are there.
  Independent of: register / temporary names, grouping of instructions into asm statements, order of independent
  instructions (all erased by inlining the `let`s), operand order of commutative instructions (AC).

  Core only, no Mathlib.
-/
import GoldilocksVerif.Gen.Ptx
import GoldilocksVerif.Gen.PtxTables
import GoldilocksVerif.Lemmas.ScalarNat

namespace Ptx
variable {w : Nat}

theorem carry_div (m x : Nat) (_hm : 0 < m) (hx : x < 2 * m) : (decide (m ≤ x)).toNat = x / m := by
  by_cases h : m ≤ x
  · have : x / m = 1 := Nat.div_eq_of_lt_le (by omega) (by omega)
    simp [h, this]
  · have : x / m = 0 := Nat.div_eq_of_lt (by omega)
    simp [h, this]

theorem borrow_div (m a s : Nat) (ha : a < m) (hs : s ≤ m) :
    (decide (a < s)).toNat = (s + (m - 1 - a)) / m := by
  by_cases h : a < s
  · have : (s + (m - 1 - a)) / m = 1 := Nat.div_eq_of_lt_le (by omega) (by omega)
    simp [h, this]
  · have : (s + (m - 1 - a)) / m = 0 := Nat.div_eq_of_lt (by omega)
    simp [h, this]

theorem bool_toNat_le (c : Bool) : c.toNat ≤ 1 := by cases c <;> decide

theorem bool_lt_pow (c : Bool) : c.toNat ≤ 2 ^ w := by
  have := bool_toNat_le c
  have := Nat.two_pow_pos w
  omega

theorem add_toNat (a b : BitVec w) : (add a b).toNat = (a.toNat + b.toNat) % 2 ^ w := by
  simp [add, BitVec.toNat_add]

theorem add_cc_fst (a b : BitVec w) : (add_cc a b).1.toNat = (a.toNat + b.toNat) % 2 ^ w := by
  simp [add_cc, BitVec.toNat_add]

theorem add_cc_snd (a b : BitVec w) : (add_cc a b).2.toNat = (a.toNat + b.toNat) / 2 ^ w := by
  have ha := a.isLt
  have hb := b.isLt
  exact carry_div _ _ (Nat.two_pow_pos w) (by omega)

theorem addc_toNat (a b : BitVec w) (cf : Bool) :
    (addc a b cf).toNat = (a.toNat + b.toNat + cf.toNat) % 2 ^ w := by
  simp [addc, BitVec.toNat_add]

theorem addc_cc_fst (a b : BitVec w) (cf : Bool) :
    (addc_cc a b cf).1.toNat = (a.toNat + b.toNat + cf.toNat) % 2 ^ w := by
  simp [addc_cc, BitVec.toNat_add]

theorem addc_cc_snd (a b : BitVec w) (cf : Bool) :
    (addc_cc a b cf).2.toNat = (a.toNat + b.toNat + cf.toNat) / 2 ^ w := by
  have ha := a.isLt
  have hb := b.isLt
  have hc := bool_toNat_le cf
  exact carry_div _ _ (Nat.two_pow_pos w) (by omega)

theorem sub_toNat (a b : BitVec w) : (sub a b).toNat = (a.toNat + (2 ^ w - b.toNat)) % 2 ^ w := by
  simp [sub, BitVec.toNat_sub, Nat.add_comm]

theorem sub_cc_fst (a b : BitVec w) : (sub_cc a b).1.toNat = (a.toNat + (2 ^ w - b.toNat)) % 2 ^ w := by
  simp [sub_cc, BitVec.toNat_sub, Nat.add_comm]

theorem sub_cc_snd (a b : BitVec w) :
    (sub_cc a b).2.toNat = (b.toNat + (2 ^ w - 1 - a.toNat)) / 2 ^ w := by
  have ha := a.isLt
  have hb := b.isLt
  exact borrow_div _ _ _ ha (by omega)

theorem subc_aux (m a b c : Nat) (hm : 0 < m) (hb : b < m) (hc : c ≤ 1) :
    ((m - b + a) % m + (m - c % m)) % m = (a + (m - b) + (m - c)) % m := by
  by_cases h1 : m = 1
  · subst h1; simp [Nat.mod_one]
  · have : c % m = c := Nat.mod_eq_of_lt (by omega)
    rw [this, Nat.mod_add_mod, Nat.add_comm (m - b) a]

theorem subc_toNat (a b : BitVec w) (cf : Bool) :
    (subc a b cf).toNat = (a.toNat + (2 ^ w - b.toNat) + (2 ^ w - cf.toNat)) % 2 ^ w := by
  simp only [subc, BitVec.toNat_sub, BitVec.toNat_ofNat]
  rw [Nat.add_comm (2 ^ w - cf.toNat % 2 ^ w)]
  exact subc_aux _ _ _ _ (Nat.two_pow_pos w) b.isLt (bool_toNat_le cf)

theorem subc_cc_fst (a b : BitVec w) (cf : Bool) :
    (subc_cc a b cf).1.toNat = (a.toNat + (2 ^ w - b.toNat) + (2 ^ w - cf.toNat)) % 2 ^ w :=
  subc_toNat a b cf

theorem subc_cc_snd (a b : BitVec w) (cf : Bool) :
    (subc_cc a b cf).2.toNat = (b.toNat + cf.toNat + (2 ^ w - 1 - a.toNat)) / 2 ^ w := by
  have ha := a.isLt
  have hb := b.isLt
  have hc := bool_toNat_le cf
  exact borrow_div _ _ _ ha (by omega)

theorem mul_lo_toNat (a b : BitVec w) : (mul_lo a b).toNat = a.toNat * b.toNat % 2 ^ w := by
  simp [mul_lo]

theorem mul_hi_toNat (a b : BitVec w) : (mul_hi a b).toNat = a.toNat * b.toNat / 2 ^ w := by
  simp only [mul_hi, BitVec.toNat_ofNat]
  apply Nat.mod_eq_of_lt
  apply Nat.div_lt_of_lt_mul
  exact Nat.mul_lt_mul'' a.isLt b.isLt

theorem mad_lo_cc_eq (a b c : BitVec w) : mad_lo_cc a b c = add_cc (mul_lo a b) c := rfl
theorem mad_hi_cc_eq (a b c : BitVec w) : mad_hi_cc a b c = add_cc (mul_hi a b) c := rfl
theorem mad_lo_eq (a b c : BitVec w) : mad_lo a b c = add (mul_lo a b) c := rfl
theorem mad_hi_eq (a b c : BitVec w) : mad_hi a b c = add (mul_hi a b) c := rfl
theorem madc_lo_eq (a b c : BitVec w) (cf : Bool) : madc_lo a b c cf = addc (mul_lo a b) c cf := rfl
theorem madc_hi_eq (a b c : BitVec w) (cf : Bool) : madc_hi a b c cf = addc (mul_hi a b) c cf := rfl
theorem madc_lo_cc_eq (a b c : BitVec w) (cf : Bool) : madc_lo_cc a b c cf = addc_cc (mul_lo a b) c cf := rfl
theorem madc_hi_cc_eq (a b c : BitVec w) (cf : Bool) : madc_hi_cc a b c cf = addc_cc (mul_hi a b) c cf := rfl

theorem setp_eq_iff (a b : BitVec w) : (setp_eq a b = true) ↔ a.toNat = b.toNat := by simp [setp_eq]
theorem setp_ne_iff (a b : BitVec w) : (setp_ne a b = true) ↔ a.toNat ≠ b.toNat := by simp [setp_ne]

theorem setp_eq_false_iff (a b : BitVec w) : (setp_eq a b = false) ↔ a.toNat ≠ b.toNat := by simp [setp_eq]
theorem setp_ne_false_iff (a b : BitVec w) : (setp_ne a b = false) ↔ a.toNat = b.toNat := by simp [setp_ne]

theorem guard_toNat (p : Bool) (x y : BitVec w) :
    (guard p x y).toNat = if p = true then x.toNat else y.toNat := by
  cases p <;> rfl

theorem guard_pred (p q : Bool) : guard p q p = (p && q) := by cases p <;> cases q <;> rfl

theorem selp_toNat (x y : BitVec w) (p : Bool) :
    (selp x y p).toNat = if p = true then x.toNat else y.toNat := by
  cases p <;> rfl

theorem pack64_toNat (lo hi : BitVec 32) : (pack64 lo hi).toNat = lo.toNat + hi.toNat * 2 ^ 32 := by
  simp only [pack64, BitVec.toNat_ofNat]
  have h1 := lo.isLt
  have h2 := hi.isLt
  omega

end Ptx

namespace Cpp

theorem trunc32_toNat (x : BitVec 64) : (trunc32 x).toNat = x.toNat % 2 ^ 32 := by
  simp [trunc32]

theorem shr64_toNat (x : BitVec 64) (n : Nat) : (shr64 x n).toNat = x.toNat / 2 ^ n := by
  simp only [shr64, BitVec.toNat_ofNat]
  apply Nat.mod_eq_of_lt
  exact Nat.lt_of_le_of_lt (Nat.div_le_self _ _) x.isLt

theorem neg_toNat {w : Nat} (x : BitVec w) : (neg x).toNat = (2 ^ w - x.toNat) % 2 ^ w := by
  simp [neg]

theorem sub_toNat {w : Nat} (a b : BitVec w) : (sub a b).toNat = (a.toNat + (2 ^ w - b.toNat)) % 2 ^ w := by
  simp [sub, BitVec.toNat_sub, Nat.add_comm]

theorem ofBool32_toNat (b : Bool) : (ofBool32 b).toNat = b.toNat := by
  cases b <;> rfl

theorem eq_def {w : Nat} (a b : BitVec w) : eq a b = decide (a.toNat = b.toNat) := rfl
theorem ne_def {w : Nat} (a b : BitVec w) : ne a b = decide (a.toNat ≠ b.toNat) := rfl

end Cpp

namespace GoldilocksVerif.PtxN
open Gen.Ptx Ptx

set_option linter.unusedSimpArgs false

local notation "M32" => 4294967296
local notation "M64" => 18446744073709551616
local notation "W32" => 4294967295

/-- The one simp set that moves a generated let-chain to `Nat`: every instruction becomes arithmetic on the `toNat` of its
    operands (carries/borrows as quotients) and the `let`s are inlined. -/
syntax "ptx_simp" : tactic
macro_rules
  | `(tactic| ptx_simp) => `(tactic| simp only [
      add_toNat, add_cc_fst, add_cc_snd, addc_toNat, addc_cc_fst, addc_cc_snd,
      Ptx.sub_toNat, sub_cc_fst, sub_cc_snd, subc_toNat, subc_cc_fst, subc_cc_snd,
      mul_lo_toNat, mul_hi_toNat, mad_lo_cc_eq, mad_hi_cc_eq, mad_lo_eq, mad_hi_eq,
      madc_lo_eq, madc_hi_eq, madc_lo_cc_eq, madc_hi_cc_eq,
      guard_toNat, guard_pred, selp_toNat, setp_eq_iff, setp_ne_iff, setp_eq_false_iff, setp_ne_false_iff,
      Bool.not_eq_true', Bool.not_not, pack64_toNat,
      Cpp.trunc32_toNat, Cpp.shr64_toNat, Cpp.neg_toNat, Cpp.sub_toNat, Cpp.ofBool32_toNat, Cpp.eq_def, Cpp.ne_def, decide_eq_true_eq,
      Bool.and_eq_true, c_MOD, c_W, lo, hi, from_,
      BitVec.toNat_ofNat, Nat.reducePow, Nat.reduceMod, Nat.reduceSub, Nat.zero_add])

/-- tie to a Nat mirror: `ptx_simp`, then equality up to associativity/commutativity of `+` and `*`
    (operand order of `add*`, `mul.lo/hi`, `mad*` multiplicands) -/
macro "ptx_nat" : tactic => `(tactic| (ptx_simp; first | done | (ac_nf0; with_reducible rfl)))

/-- `operator+=` -/
def addN (a b : Nat) : Nat :=
  let s := (a + b) % M64
  let c := (a + b) / M64 % M32
  let bw := (18446744069414584321 + (18446744073709551615 - s)) / M64
  let c2 := (c + M32 + (M32 - bw)) % M32
  if c2 = 0 then (s + W32) % M64 else s

/-- `operator-=` -/
def subN (a b : Nat) : Nat :=
  let d := (a + (M64 - b)) % M64
  let bw := (b + (18446744073709551615 - a)) / M64
  let br := (M32 + (M32 - bw)) % M32
  if br ≠ 0 then (d + 18446744069414584321) % M64 else d

/-- `cneg` -/
def cnegN (a : Nat) (flag : Bool) : Nat :=
  if flag.toNat ≠ 0 ∧ (decide (a = 0)).toNat = 0 then (18446744069414584321 + (M64 - a)) % M64 else a

/-- the final reduction `reduce()` (= `to()` in this configuration) -/
def finalN (a : Nat) : Nat :=
  let c := (a + W32) / M64 % M32
  if c ≠ 0 then (a + W32) % M64 else a

/-- last fold, `__CUDA_ARCH__ >= 700`: `+= e * W` by mad.lo.cc / madc.hi -/
def foldN_sm70 (v0 v1 e : Nat) : Nat :=
  let x0 := (e * W32 % M32 + v0) % M32
  let c4 := (e * W32 % M32 + v0) / M32
  let x1 := (e * W32 / M32 + v1 + c4) % M32
  x0 + x1 * M32

/-- last fold, `__CUDA_ARCH__ < 700`: `+= (0 : -e)` by add.cc / addc -/
def foldN_pre70 (v0 v1 e : Nat) : Nat :=
  let x0 := (v0 + (M32 - e) % M32) % M32
  let c3 := (v0 + (M32 - e) % M32) / M32
  let x1 := (v1 + 0 + c3) % M32
  x0 + x1 * M32

/-- `reduce(uint32_t temp[4])`, `__CUDA_ARCH__ >= 700` -/
def reduce4N_sm70 (t0 t1 t2 t3 : Nat) : Nat :=
  -- sub.cc / subc.cc / subc : (t1:t0) - (t3:t2), `cr` = 0 or 2^32-1
  let u0 := (t0 + (M32 - t2)) % M32
  let bw1 := (t2 + (W32 - t0)) / M32
  let u1 := (t1 + (M32 - t3) + (M32 - bw1)) % M32
  let bw2 := (t3 + bw1 + (W32 - t1)) / M32
  let cr := (M32 + (M32 - bw2)) % M32
  -- add.cc / addc : (cr:u1) += (t3:t2)
  let v1 := (u1 + t2) % M32
  let c1 := (u1 + t2) / M32
  let cr2 := (cr + t3 + c1) % M32
  -- mad.lo.cc / madc.hi.cc / addc : (v1:u0) += cr2 * W
  let w0 := (cr2 * W32 % M32 + u0) % M32
  let c2 := (cr2 * W32 % M32 + u0) / M32
  let w1 := (cr2 * W32 / M32 + v1 + c2) % M32
  let c3 := (cr2 * W32 / M32 + v1 + c2) / M32
  let e := c3 % M32
  -- mad.lo.cc / madc.hi : += e * W
  foldN_sm70 w0 w1 e

theorem reduce4_sm70_toNat (v : BitVec 64) (t0 t1 t2 t3 : BitVec 32) :
    (reduce4_sm70 v t0 t1 t2 t3).toNat = reduce4N_sm70 t0.toNat t1.toNat t2.toNat t3.toNat := by
  unfold reduce4_sm70 reduce4N_sm70 foldN_sm70
  ptx_nat

/-- `reduce(uint32_t temp[4])`, `__CUDA_ARCH__ < 700` -/
def reduce4N_pre70 (t0 t1 t2 t3 : Nat) : Nat :=
  -- add.cc / addc : (b1:b0) = t2 + t3
  let b0 := (t2 + t3) % M32
  let b1 := (t2 + t3) / M32 % M32
  -- sub.cc / subc.cc / subc : (t1:t0) - (b1:b0)
  let u0 := (t0 + (M32 - b0)) % M32
  let bw1 := (b0 + (W32 - t0)) / M32
  let u1 := (t1 + (M32 - b1) + (M32 - bw1)) % M32
  let bw2 := (b1 + bw1 + (W32 - t1)) / M32
  let cr := (M32 + (M32 - bw2)) % M32
  -- add.cc / addc : += (cr : -cr)
  let v0 := (u0 + (M32 - cr) % M32) % M32
  let c1 := (u0 + (M32 - cr) % M32) / M32
  let v1 := (u1 + cr + c1) % M32
  -- add.cc / addc : temp[1] += temp[2], temp[2] = carry
  let w1 := (v1 + t2) % M32
  let e := (v1 + t2) / M32 % M32
  -- add.cc / addc : += (0 : -e)
  foldN_pre70 v0 w1 e

theorem reduce4_pre70_toNat (v : BitVec 64) (t0 t1 t2 t3 : BitVec 32) :
    (reduce4_pre70 v t0 t1 t2 t3).toNat = reduce4N_pre70 t0.toNat t1.toNat t2.toNat t3.toNat := by
  unfold reduce4_pre70 reduce4N_pre70 foldN_pre70
  ptx_nat

/-- the 32-bit mad chains of `mul(const gl64_t&)` up to the top word: the three low words, the high word `t3` of
    `a1 * b1` and the carries `c2`, `c4` of the two cross-term chains (continuation `k`) -/
def mulWordsN (a b : Nat) (k : Nat → Nat → Nat → Nat → Nat → Nat → Nat) : Nat :=
  let a0 := a % M32
  let b0 := b % M32
  let a1 := a / M32 % M32
  let b1 := b / M32 % M32
  let t0 := a0 * b0 % M32
  let t1 := a0 * b0 / M32
  let t2 := a1 * b1 % M32
  let t3 := a1 * b1 / M32
  let u1 := (a0 * b1 % M32 + t1) % M32
  let c1 := (a0 * b1 % M32 + t1) / M32
  let u2 := (a0 * b1 / M32 + t2 + c1) % M32
  let c2 := (a0 * b1 / M32 + t2 + c1) / M32
  let v1 := (a1 * b0 % M32 + u1) % M32
  let c3 := (a1 * b0 % M32 + u1) / M32
  let v2 := (a1 * b0 / M32 + u2 + c3) % M32
  let c4 := (a1 * b0 / M32 + u2 + c3) / M32
  k t0 v1 v2 t3 c2 c4

/-- `mul(const gl64_t&)`: the carry of the first chain is isolated (`addc 0,0`) and added into `temp[3]` together
    with the carry of the second; the four words are handed to `reduce` (continuation `k`) -/
def mulTN (a b : Nat) (k : Nat → Nat → Nat → Nat → Nat) : Nat :=
  mulWordsN a b fun t0 v1 v2 t3 c2 c4 => k t0 v1 v2 ((t3 + c2 % M32 + c4) % M32)

/-- `mul(const gl64_t&)` in the header's alternative form (`# else` of the `# if 1`): the carry of the first chain is
    added into `temp[3]` at once instead of being isolated -/
def mulTN2 (a b : Nat) (k : Nat → Nat → Nat → Nat → Nat) : Nat :=
  mulWordsN a b fun t0 v1 v2 t3 c2 c4 => k t0 v1 v2 (((t3 + 0 + c2) % M32 + 0 + c4) % M32)

/-- what the tie of `mul` establishes: the result is one of the known mirrors of the mad chains, with the two factors in
    either role (`mulTN b a` is `mulTN a b` with the two cross-term chains issued in the other order and every product
    commuted); each mirror is proved to hand `k` the four words of the exact product in `Lemmas/PtxArith.lean` -/
def MulMirror (r x y : Nat) (k : Nat → Nat → Nat → Nat → Nat) : Prop :=
  r = mulTN x y k ∨ r = mulTN y x k ∨ r = mulTN2 x y k ∨ r = mulTN2 y x k

theorem mul_raw_sm70_toNat (a b : BitVec 64) :
    MulMirror (mul_raw_sm70 a b).toNat a.toNat b.toNat reduce4N_sm70 := by
  unfold MulMirror
  first
  | (refine Or.inl ?_; unfold mul_raw_sm70 mulTN mulWordsN; simp only [reduce4_sm70_toNat]; ptx_nat)
  | (refine Or.inr (Or.inl ?_); unfold mul_raw_sm70 mulTN mulWordsN; simp only [reduce4_sm70_toNat]; ptx_nat)
  | (refine Or.inr (Or.inr (Or.inl ?_)); unfold mul_raw_sm70 mulTN2 mulWordsN; simp only [reduce4_sm70_toNat]; ptx_nat)
  | (refine Or.inr (Or.inr (Or.inr ?_)); unfold mul_raw_sm70 mulTN2 mulWordsN; simp only [reduce4_sm70_toNat]; ptx_nat)

theorem mul_raw_pre70_toNat (a b : BitVec 64) :
    MulMirror (mul_raw_pre70 a b).toNat a.toNat b.toNat reduce4N_pre70 := by
  unfold MulMirror
  first
  | (refine Or.inl ?_; unfold mul_raw_pre70 mulTN mulWordsN; simp only [reduce4_pre70_toNat]; ptx_nat)
  | (refine Or.inr (Or.inl ?_); unfold mul_raw_pre70 mulTN mulWordsN; simp only [reduce4_pre70_toNat]; ptx_nat)
  | (refine Or.inr (Or.inr (Or.inl ?_)); unfold mul_raw_pre70 mulTN2 mulWordsN; simp only [reduce4_pre70_toNat]; ptx_nat)
  | (refine Or.inr (Or.inr (Or.inr ?_)); unfold mul_raw_pre70 mulTN2 mulWordsN; simp only [reduce4_pre70_toNat]; ptx_nat)

/-- `mul(uint32_t)`: common part, the words `(v0, v1)` and the carry `e` handed to the last fold (continuation `k`) -/
def mulU32TN (a b : Nat) (k : Nat → Nat → Nat → Nat) : Nat :=
  let a0 := a % M32
  let a1 := a / M32 % M32
  let t0 := a0 * b % M32
  let t1 := a0 * b / M32
  let u1 := (a1 * b % M32 + t1) % M32
  let c1 := (a1 * b % M32 + t1) / M32
  let u2 := (a1 * b / M32 + 0 + c1) % M32
  -- sub.cc / subc : (n1:n0) = u2 * (2^32 - 1)
  let n0 := (M32 - u2) % M32
  let bw := (u2 + W32) / M32
  let n1 := (u2 + M32 + (M32 - bw)) % M32
  let v0 := (t0 + n0) % M32
  let c2 := (t0 + n0) / M32
  let v1 := (u1 + n1 + c2) % M32
  let c3 := (u1 + n1 + c2) / M32
  let e := c3 % M32
  k v0 v1 e

theorem mul_u32_raw_sm70_toNat (a : BitVec 64) (b : BitVec 32) :
    (mul_u32_raw_sm70 a b).toNat = mulU32TN a.toNat b.toNat foldN_sm70 := by
  unfold mul_u32_raw_sm70 mulU32TN foldN_sm70
  ptx_nat

theorem mul_u32_raw_pre70_toNat (a : BitVec 64) (b : BitVec 32) :
    (mul_u32_raw_pre70 a b).toNat = mulU32TN a.toNat b.toNat foldN_pre70 := by
  unfold mul_u32_raw_pre70 mulU32TN foldN_pre70
  ptx_nat

end GoldilocksVerif.PtxN
