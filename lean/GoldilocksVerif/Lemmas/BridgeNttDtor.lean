/-
  The TRANSLATED destructor `NTT_Goldilocks::~NTT_Goldilocks` (Gen/NttGen.lean: `NTT_dtor`) as a standalone statement, and
  histories that END with it.

  `HeapSafe.Owned self b` (Lemmas/HeapSafeOwn.lean) = "b is not the NULL block and is the block of `roots` / `powTwoInv` (when
  `s != 0`) or of `r` / `r_` (when not NULL)": exactly the pointers the destructor passes to `free` / `delete[]`.  Owned blocks
  are RELEASED (extent 0 afterwards), every other block keeps its CONTENT.
-/
import GoldilocksVerif.Lemmas.BridgeNttHistBuf
import GoldilocksVerif.Lemmas.HeapSafeOwn

namespace GoldilocksVerif.BridgeNtt
open GoldilocksVerif Gen.NttGen GoldilocksVerif.Model.Ntt GoldilocksVerif.HeapSafe

theorem ne_or_null (c : Nat) (p : Ptr) (h : c ≠ 0 → c = p.blk → False) : c ≠ p.blk ∨ p.blk = 0 := by
  by_cases e : c = p.blk
  · by_cases z : c = 0
    · right; rw [← e]; exact z
    · exact absurd e (h z)
  · exact Or.inl e

theorem dtor_block_unowned (hp : Heap) (self : NTT_Goldilocks) (c : Nat) (hc : ¬ Owned self c) :
    (NTT_dtor hp self).block c = hp.block c := by
  have t1 : (self.s != 0#32) = true → c ≠ self.roots.blk ∨ self.roots.blk = 0 := fun hs =>
    ne_or_null _ _ (fun z e => hc (Or.inl ⟨z, (bne_true _ _).1 hs, Or.inl e⟩))
  have t2 : (self.s != 0#32) = true → c ≠ self.powTwoInv.blk ∨ self.powTwoInv.blk = 0 := fun hs =>
    ne_or_null _ _ (fun z e => hc (Or.inl ⟨z, (bne_true _ _).1 hs, Or.inr e⟩))
  have t3 : (self.r != Ptr.null) = true → c ≠ self.r.blk ∨ self.r.blk = 0 := fun hr =>
    ne_or_null _ _ (fun z e => hc (Or.inr ⟨z, Or.inl ⟨(bne_true _ _).1 hr, e⟩⟩))
  have t4 : (self.r_ != Ptr.null) = true → c ≠ self.r_.blk ∨ self.r_.blk = 0 := fun hr =>
    ne_or_null _ _ (fun z e => hc (Or.inr ⟨z, Or.inr ⟨(bne_true _ _).1 hr, e⟩⟩))
  have e1 : (if (self.s != 0#32) = true then (hp.free self.roots).free self.powTwoInv else hp).block c = hp.block c := by
    by_cases hs : (self.s != 0#32) = true
    · rw [if_pos hs, Heap.block_free_or _ _ _ (t2 hs), Heap.block_free_or _ _ _ (t1 hs)]
    · rw [if_neg hs]
  have e2 := Heap.block_free_if (if (self.s != 0#32) = true then (hp.free self.roots).free self.powTwoInv else hp)
    ((self.r != Ptr.null) = true) self.r c t3
  have e3 := Heap.block_free_if
    (if (self.r != Ptr.null) = true then
      (if (self.s != 0#32) = true then (hp.free self.roots).free self.powTwoInv else hp).free self.r
     else (if (self.s != 0#32) = true then (hp.free self.roots).free self.powTwoInv else hp))
    ((self.r_ != Ptr.null) = true) self.r_ c t4
  unfold NTT_dtor
  exact e3.trans (e2.trans e1)

theorem dtor_ext_unowned (hp : Heap) (self : NTT_Goldilocks) (c : Nat) (hc : ¬ Owned self c) :
    (NTT_dtor hp self).ext c = hp.ext c := by
  unfold Heap.ext; rw [dtor_block_unowned hp self c hc]

theorem dtor_ext_owned (hp : Heap) (hpos : 0 < hp.size) (self : NTT_Goldilocks) (c : Nat) (hc : Owned self c) :
    (NTT_dtor hp self).ext c = 0 := by
  classical
  have fd := dtor_own self (Fr.ofExt hp hpos (Owned self)) (fun b hb => if_pos hb)
  have := fd.frame c (fun x => x.2 x.1)
  rw [this]
  exact if_pos hc

theorem not_owned_of_frame (self : NTT_Goldilocks) (c : Nat) (h : ObjFrame self c) : ¬ Owned self c := by
  obtain ⟨f1, f2, f3, f4⟩ := h
  rintro (⟨_, _, e | e⟩ | ⟨_, ⟨_, e⟩ | ⟨_, e⟩⟩)
  exacts [f1 e, f2 e, f3 e, f4 e]

theorem dtor_block (hp : Heap) (obj : NTT_Goldilocks) (c : Nat) (hc : ObjFrame obj c) :
    (NTT_dtor hp obj).block c = hp.block c :=
  dtor_block_unowned hp obj c (not_owned_of_frame obj c hc)

section history
variable (m e : Nat) (o0 : Obj) (hobj : mkObj m e = some o0) (he : e ≤ 1)
variable (fuel : Nat) (hf : 64 ≤ fuel) (n0 : Nat) (U : Nat → Prop) (sz : Nat → Nat)

include hobj he hf in
/-- a history of valid calls (buffers, `dst == NULL`), then the destructor: the object's blocks are released, every caller block
    keeps the content the history gave it (the fresh-object results of the hand model, `gcallB_step`) -/
theorem runGB_then_dtor (cs : List GCallB) (st : Heap × NTT_Goldilocks) (hinv : GInv o0 n0 U sz st)
    (hok : ∀ c, c ∈ cs → c.ok m fuel U sz) :
    ∃ st', runGB fuel st cs = some st' ∧ GInv o0 n0 U sz st' ∧
      (∀ b, Owned st'.2 b → (NTT_dtor st'.1 st'.2).ext b = 0) ∧
      (∀ b, ¬ Owned st'.2 b → (NTT_dtor st'.1 st'.2).block b = st'.1.block b) ∧
      (∀ b, U b → (NTT_dtor st'.1 st'.2).block b = st'.1.block b ∧ ((NTT_dtor st'.1 st'.2).block b).size = sz b) := by
  obtain ⟨st', hr, hinv'⟩ := runGB_inv m e o0 hobj he fuel hf n0 U sz cs st hinv hok
  have hpos : 0 < st'.1.size := by
    have := hinv'.oin.1; omega
  refine ⟨st', hr, hinv', fun b hb => dtor_ext_owned _ hpos _ _ hb, fun b hb => dtor_block_unowned _ _ _ hb, fun b ub => ?_⟩
  obtain ⟨_, _, hfr, hsz⟩ := hinv'.user b ub
  have := dtor_block_unowned st'.1 st'.2 b (not_owned_of_frame _ _ hfr)
  exact ⟨this, by rw [this]; exact hsz⟩

end history

/-- **the whole life of an object on the generated model**: the translated constructor on any heap (default-initialised
    members), ANY history of valid calls on the caller's blocks (buffers, `dst == NULL`), the translated destructor.  Everything
    returns (`HeapSafe.life` = the composition the allocation-balance theorem is about); every block that existed before keeps
    through the destructor the content the history gave it; every extent is afterwards what it was before the constructor ran:
    the object's blocks — all of them numbers ≥ the original heap size — are released, no other block is -/
theorem life_then_dtor (fuel : Nat) (hf : 64 ≤ fuel) (hp : Heap) (hpos : 0 < hp.size) (m : BitVec 64) (thr : BitVec 32) (e : Nat)
    (he : e ≤ 1) (hm0 : m ≠ 0#64) (o0 : Obj) (hobj : mkObj m.toNat e = some o0) (cs : List GCallB)
    (hok : ∀ c, c ∈ cs → c.ok m.toNat fuel (fun b => 0 < b ∧ b < hp.size) (fun b => (hp.block b).size)) :
    ∃ st0 st, NTT_ctor fuel hp NTT_Goldilocks.init m thr (e : Int) = some st0 ∧ runGB fuel st0 cs = some st ∧
      HeapSafe.life fuel hp m thr (e : Int) (cs.map GCallB.toRaw) = some (NTT_dtor st.1 st.2) ∧
      GInv o0 hp.size (fun b => 0 < b ∧ b < hp.size) (fun b => (hp.block b).size) st ∧
      (∀ b, b < hp.size → (NTT_dtor st.1 st.2).block b = st.1.block b) ∧
      (∀ b, (NTT_dtor st.1 st.2).ext b = hp.ext b) ∧
      (∀ b, hp.size ≤ b → (NTT_dtor st.1 st.2).ext b = 0) := by
  obtain ⟨st0, hc, hinv0, _⟩ := ctor_inv fuel hf hp hpos NTT_Goldilocks.init m thr e hm0 o0 hobj
  obtain ⟨st, hr, hinv, _, hun, huser⟩ := runGB_then_dtor m.toNat e o0 hobj he fuel hf hp.size _ _ cs st0 hinv0 hok
  have hlife : HeapSafe.life fuel hp m thr (e : Int) (cs.map GCallB.toRaw) = some (NTT_dtor st.1 st.2) := by
    unfold HeapSafe.life
    rw [hc]
    simp only [Option.bind_some]
    rw [runGB_toRaw, hr]
    rfl
  have hbal := life_balance fuel hp m thr (e : Int) (cs.map GCallB.toRaw) hpos _ hlife
  refine ⟨st0, st, hc, hr, hlife, hinv, fun b hb => ?_, hbal, fun b hb => by rw [hbal b]; exact Heap.ext_ge_size hp b hb⟩
  by_cases h0 : b = 0
  · exact hun b (by rw [h0]; rintro (⟨z, _⟩ | ⟨z, _⟩) <;> exact z rfl)
  · exact (huser b ⟨by omega, hb⟩).1

end GoldilocksVerif.BridgeNtt
