/-
  Simp sets of the wrapper proofs (C17: Lemmas/WrapTac.lean; C16: Lemmas/ExtWrapL.lean).
  `wrap_code` : a translated wrapper body and the `writeSeq` form of its statement become the same nested `Region.set`s of
                kernel lanes over the designated input words.
  `ext_code`  : the gather / scatter code of a translated cubic-extension body becomes nested `Region.set`s / `VRegion.set`s
                of kernel expressions over the input words.
  `ext_den`   : `den` of a word of a kernel expression, and the designation vocabulary of the generated statements,
                become field expressions over `den` of the input words.
-/
import Lean
register_simp_attr wrap_code
register_simp_attr ext_code
register_simp_attr ext_den
