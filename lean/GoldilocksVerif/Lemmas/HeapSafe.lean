/-
  Extents of the blocks of the translator's heap (Model/TrHeap.lean): which blocks are LIVE, and how every memory
  operation of the heap mode changes the extents.  Basis of the C18 statements about the GENERATED NTT model
  (Gen/NttGen.lean): allocation balance (Lemmas/HeapSafeBal.lean, HeapSafeOwn.lean) and in-bounds accesses
  (Lemmas/HeapSafeVC.lean ff.).

  `Heap.ext h b` = number of 64-bit words that can be addressed in block `b` of `h`:
     * `n` after `Heap.alloc h n` returned block `b` (malloc / new[] / run-time sized stack array of n words),
     * `0` after `Heap.free` of that block (the last block is removed from the list, another one is emptied — in both
       cases `Heap.block h b = #[]`), for the block of `NULL` of a well-formed heap, and for every block number that
       was never handed out.
  `Heap.live h b` = `0 < Heap.ext h b`.  A block of zero words (`malloc(0)`) is therefore NOT distinguished from a
  released one: it has nothing that could be accessed; its leak would not be seen by the statements below.
  `Heap.set / copy / zero` never change an extent (`Array.setIfInBounds` keeps the size): only `alloc` and `free` do.

  `Heap.Same h h'`: same number of blocks and the same extent of every block ("everything that was allocated in
  between was released again, nothing else was released").

  Then the partial-correctness rules both parts use: invariants of counted and fuel-bounded loops (`Loop.rangeM_pres`,
  `Loop.whileM_pres`) and `OInv P o` ("when `o` returns, `P` holds of the result") with one rule per construct the
  translator emits; the tactics of Lemmas/HeapSafeTac.lean apply these rules by the head symbol of the goal.
-/
import GoldilocksVerif.Lemmas.HeapL
import GoldilocksVerif.Lemmas.NttArr

namespace GoldilocksVerif

namespace Heap

/-- number of addressable words of block `b` (0: NULL, released, never allocated) -/
def ext (h : Heap) (b : Nat) : Nat := (h.block b).size

/-- block `b` is allocated and not released (and has at least one word) -/
def live (h : Heap) (b : Nat) : Prop := 0 < h.ext b

theorem ext_def (h : Heap) (b : Nat) : h.ext b = (h.block b).size := rfl

theorem ext_ge_size (h : Heap) (b : Nat) (hb : h.size ≤ b) : h.ext b = 0 := by
  unfold ext block
  unfold size at hb
  rw [Array.getD_eq_getD_getElem?, Array.getElem?_eq_none hb]; rfl

theorem lt_size_of_live (h : Heap) (b : Nat) (hl : 0 < h.ext b) : b < h.size := by
  rcases Nat.lt_or_ge b h.size with h1 | h1
  · exact h1
  · rw [ext_ge_size h b h1] at hl; exact absurd hl (Nat.lt_irrefl 0)

theorem ext_setBlock (h : Heap) (b c : Nat) (a : Block) :
    (h.setBlock b a).ext c = if c = b ∧ b < h.size then a.size else h.ext c := by
  unfold ext; rw [block_setBlock]; split <;> rfl

theorem ext_setBlock_size (h : Heap) (b c : Nat) (a : Block) (ha : a.size = (h.block b).size) :
    (h.setBlock b a).ext c = h.ext c := by
  rw [ext_setBlock]
  split
  · rename_i hc; rw [hc.1, ha]; rfl
  · rfl

@[simp] theorem ext_set (h : Heap) (p : Ptr) (i : Nat) (v : BitVec 64) (c : Nat) : (h.set p i v).ext c = h.ext c := by
  rw [set_eq, ext_setBlock_size _ _ _ _ (Array.size_setIfInBounds ..)]

@[simp] theorem ext_copy (h : Heap) (d s : Ptr) (n : Nat) (c : Nat) : (h.copy d s n).ext c = h.ext c := by
  rw [copy_eq]; exact ext_setBlock_size _ _ _ _ (Model.Ntt.copyRow_size ..)

@[simp] theorem ext_zero (h : Heap) (d : Ptr) (n : Nat) (c : Nat) : (h.zero d n).ext c = h.ext c := by
  rw [zero_eq]; exact ext_setBlock_size _ _ _ _ (Model.Ntt.zeroRow_size ..)

theorem ext_alloc (h : Heap) (n c : Nat) : (h.alloc n).1.ext c = if c = h.size then n else h.ext c := by
  unfold ext; rw [block_alloc]; split
  · exact Array.size_replicate ..
  · rfl

theorem alloc_blk (h : Heap) (n : Nat) : (h.alloc n).2.blk = h.size := rfl
theorem alloc_off (h : Heap) (n : Nat) : (h.alloc n).2.off = 0 := rfl

theorem ext_free (h : Heap) (p : Ptr) (c : Nat) : (h.free p).ext c = if c = p.blk ∧ p.blk ≠ 0 then 0 else h.ext c := by
  by_cases hc : c = p.blk
  · by_cases h0 : p.blk = 0
    · rw [if_neg (fun x => x.2 h0)]; unfold free; rw [if_pos h0]
    · rw [if_pos ⟨hc, h0⟩]
      subst hc
      unfold free; rw [if_neg h0]
      by_cases hl : p.blk + 1 = h.blocks.size
      · rw [if_pos hl]
        apply ext_ge_size
        show (h.blocks.pop).size ≤ p.blk
        rw [Array.size_pop]; omega
      · rw [if_neg hl]
        have := ext_setBlock ⟨h.blocks⟩ p.blk p.blk #[]
        rw [show Heap.setBlock ⟨h.blocks⟩ p.blk #[] = ⟨h.blocks.setIfInBounds p.blk #[]⟩ from rfl] at this
        rw [this]
        split
        · rfl
        · rename_i hn
          apply ext_ge_size
          show h.blocks.size ≤ p.blk
          have : ¬ p.blk < h.blocks.size := fun x => hn ⟨rfl, x⟩
          omega
  · rw [if_neg (fun x => hc x.1)]
    unfold ext; rw [block_free_other h p c hc]

def Same (h h' : Heap) : Prop := h'.size = h.size ∧ ∀ b, h'.ext b = h.ext b

theorem Same.refl (h : Heap) : Same h h := ⟨rfl, fun _ => rfl⟩
theorem Same.symm {a b : Heap} (h : Same a b) : Same b a := ⟨h.1.symm, fun x => (h.2 x).symm⟩
theorem Same.trans {a b c : Heap} (h1 : Same a b) (h2 : Same b c) : Same a c :=
  ⟨h2.1.trans h1.1, fun x => (h2.2 x).trans (h1.2 x)⟩

theorem Same.set (h : Heap) (p : Ptr) (i : Nat) (v : BitVec 64) : Same h (h.set p i v) := ⟨size_set .., ext_set h p i v⟩
theorem Same.copy (h : Heap) (d s : Ptr) (n : Nat) : Same h (h.copy d s n) := ⟨size_copy .., ext_copy h d s n⟩
theorem Same.zero (h : Heap) (d : Ptr) (n : Nat) : Same h (h.zero d n) := ⟨size_zero .., ext_zero h d n⟩

/-- the pattern of a temporary: allocate, work on a heap of that shape, release -/
theorem Same.alloc_free (h h' : Heap) (n : Nat) (hs : 0 < h.size) (hw : Same (h.alloc n).1 h') :
    Same h (h'.free (h.alloc n).2) := by
  constructor
  · rw [size_free, alloc_blk, hw.1, size_alloc, if_pos ⟨by omega, rfl⟩]; rfl
  · intro b
    rw [ext_free, alloc_blk, hw.2, ext_alloc]
    by_cases hb : b = h.size
    · rw [if_pos ⟨hb, by omega⟩, ext_ge_size h b (by omega)]
    · rw [if_neg (fun x => hb x.1), if_neg hb]

end Heap

namespace Loop

theorem rangeMAux_pres {σ : Type} (f : Nat → σ → Option σ) (Inv : σ → Prop) (step : Nat)
    (hstep : ∀ i s s', Inv s → f i s = some s' → Inv s') :
    ∀ (n i : Nat) (s s' : σ), Inv s → rangeMAux step f n i s = some s' → Inv s' := by
  intro n
  induction n with
  | zero => intro i s s' hi h; rw [rangeMAux_zero] at h; cases h; exact hi
  | succ n ih =>
    intro i s s' hi h
    rw [rangeMAux_succ] at h
    cases hf : f i s with
    | none => rw [hf] at h; cases h
    | some s1 => rw [hf] at h; exact ih (i + step) s1 s' (hstep i s s1 hi hf) h

theorem rangeM_pres {σ : Type} (f : Nat → σ → Option σ) (Inv : σ → Prop) (lo hi step : Nat) (s s' : σ)
    (hstep : ∀ i s s', Inv s → f i s = some s' → Inv s') (h0 : Inv s) (h : rangeM lo hi step s f = some s') : Inv s' :=
  rangeMAux_pres f Inv step hstep _ _ s s' h0 h

theorem whileM_pres {σ : Type} (stp : σ → Option (Bool × σ)) (Inv : σ → Prop)
    (hstep : ∀ s b s', Inv s → stp s = some (b, s') → Inv s') :
    ∀ (fuel : Nat) (s s' : σ), Inv s → whileM stp fuel s = some s' → Inv s' := by
  intro fuel
  induction fuel with
  | zero => intro s s' _ h; rw [whileM_zero] at h; cases h
  | succ f ih =>
    intro s s' hi h
    rw [whileM_succ] at h
    cases hs : stp s with
    | none => rw [hs] at h; cases h
    | some p =>
      obtain ⟨b, s1⟩ := p
      rw [hs] at h
      cases b with
      | false => cases h; exact hstep s false s' hi hs
      | true => exact ih s1 s' (hstep s true s1 hi hs) h

end Loop

def OInv {σ : Type} (P : σ → Prop) (o : Option σ) : Prop := ∀ s, o = some s → P s

namespace OInv
variable {σ τ : Type}

theorem some (P : σ → Prop) (x : σ) (h : P x) : OInv P (some x) := by
  intro s hs; cases hs; exact h

theorem none (P : σ → Prop) : OInv P (none : Option σ) := by
  intro s hs; cases hs

theorem triv (o : Option σ) : OInv (fun _ => True) o := fun _ _ => trivial

theorem mono {P Q : σ → Prop} {o : Option σ} (h : OInv P o) (hpq : ∀ s, P s → Q s) : OInv Q o :=
  fun s hs => hpq s (h s hs)

theorem bind {P : τ → Prop} (Q : σ → Prop) (x : Option σ) (f : σ → Option τ)
    (hx : OInv Q x) (hf : ∀ y, Q y → OInv P (f y)) : OInv P (x.bind f) := by
  intro s hs
  cases x with
  | none => cases hs
  | some y => exact hf y (hx y rfl) s hs

theorem bind_eq {P : τ → Prop} (x : Option σ) (f : σ → Option τ) (hf : ∀ y, x = Option.some y → OInv P (f y)) :
    OInv P (x.bind f) :=
  bind (fun y => x = Option.some y) x f (fun _ hs => hs) hf

theorem ite {P : σ → Prop} {c : Prop} [Decidable c] (a b : Option σ) (ha : c → OInv P a) (hb : ¬ c → OInv P b) :
    OInv P (if c then a else b) := by
  by_cases hc : c
  · rw [if_pos hc]; exact ha hc
  · rw [if_neg hc]; exact hb hc

theorem rangeM {P : σ → Prop} (lo hi step : Nat) (init : σ) (f : Nat → σ → Option σ)
    (h0 : P init) (hf : ∀ i s, P s → OInv P (f i s)) : OInv P (Loop.rangeM lo hi step init f) :=
  fun s hs => Loop.rangeM_pres f P lo hi step init s (fun i a b ha hb => hf i a ha b hb) h0 hs

theorem whileM {P : σ → Prop} (stp : σ → Option (Bool × σ)) (fuel : Nat) (init : σ)
    (h0 : P init) (hf : ∀ s, P s → OInv (fun bs => P bs.2) (stp s)) : OInv P (Loop.whileM stp fuel init) :=
  fun s hs => Loop.whileM_pres stp P (fun a b c ha hb => hf a ha (b, c) hb) fuel init s h0 hs

end OInv
end GoldilocksVerif

namespace GoldilocksVerif.HeapSafe

theorem ext_alloc_new (st : Heap) (n : Nat) : (st.alloc n).1.ext (st.alloc n).2.blk = n := by
  rw [Heap.ext_alloc, Heap.alloc_blk, if_pos rfl]

theorem ext_alloc_lt (st : Heap) (n b : Nat) (hb : b < st.size) : (st.alloc n).1.ext b = st.ext b := by
  rw [Heap.ext_alloc, if_neg (by omega)]

theorem ext_alloc_old (st : Heap) (n b : Nat) (hb : 0 < st.ext b) : (st.alloc n).1.ext b = st.ext b :=
  ext_alloc_lt st n b (Heap.lt_size_of_live st b hb)

theorem alloc_blk_ne (st : Heap) (n b : Nat) (hb : 0 < st.ext b) : b ≠ (st.alloc n).2.blk := by
  have := Heap.lt_size_of_live st b hb
  rw [Heap.alloc_blk]; omega

theorem ext_alloc_two (hp : Heap) (n1 n2 : Nat) :
    ((hp.alloc n1).1.alloc n2).1.ext hp.size = n1 ∧ ((hp.alloc n1).1.alloc n2).1.ext (hp.size + 1) = n2 ∧
    (∀ b, b < hp.size → ((hp.alloc n1).1.alloc n2).1.ext b = hp.ext b) ∧
    ((hp.alloc n1).1.alloc n2).1.size = hp.size + 2 := by
  have e1 : (hp.alloc n1).1.size = hp.size + 1 := Heap.size_alloc _ _
  refine ⟨?_, ?_, fun b hb => ?_, ?_⟩
  · rw [Heap.ext_alloc, if_neg (by omega), Heap.ext_alloc, if_pos rfl]
  · rw [Heap.ext_alloc, if_pos e1.symm]
  · rw [Heap.ext_alloc, if_neg (by omega), Heap.ext_alloc, if_neg (by omega)]
  · rw [Heap.size_alloc, e1]

/-- a block that is allocated under the condition `c` and is the given one otherwise (in `NTT`: `aux`, scratch or the
    caller's buffer; `dst_`, block destination or the destination itself) -/
theorem alloc_or_keep {c : Prop} [Decidable c] {H : Heap} {p : Ptr} {n : Nat} {t : Ptr × Heap}
    (ht : (if c then ((H.alloc n).2, (H.alloc n).1) else (p, H)) = t) :
    (∀ b, b < H.size → t.2.ext b = H.ext b) ∧
    (c → t.1 = ⟨H.size, 0⟩ ∧ t.2.ext H.size = n ∧ t.2.size = H.size + 1) ∧ (¬ c → t.1 = p ∧ t.2 = H) := by
  subst ht
  by_cases hc : c
  · rw [if_pos hc]
    exact ⟨fun b hb => ext_alloc_lt _ _ _ hb, fun _ => ⟨rfl, ext_alloc_new _ _, Heap.size_alloc _ _⟩, fun h => absurd hc h⟩
  · rw [if_neg hc]
    exact ⟨fun _ _ => rfl, fun h => absurd h hc, fun _ => ⟨rfl, rfl⟩⟩

theorem ext_free_ne (h : Heap) (p : Ptr) (b : Nat) (hb : b ≠ p.blk) : (h.free p).ext b = h.ext b := by
  rw [Heap.ext_free, if_neg (fun x => hb x.1)]

end GoldilocksVerif.HeapSafe
