/-
  Bridge: the TRANSLATED `PoseidonGoldilocks::linear_hash_seq`, `linear_hash` and `linear_hash_avx512`
  (Gen/LinearHashGen.lean, regenerated from poseidon_goldilocks.cpp on every run; the `while (remaining)` loop is a fuel-bounded
  fold over the lifted loop body) compute the hand models `Model.linearHash` / `Model.linearHash512` of Model/Sponge.lean,
  hence (Lemmas/SpongeL.lean) the rate-8 capacity-4 sponge.

    * `lh_seq_generic`, `lh_avx_generic`, `lh512_generic`: the generated functions EQUAL the reference texts `lhGenG`,
      `lh512GenG` (kept here, not regenerated) instantiated with the translated permutation they call
      (`Pos_hash_full_result_seq_al_state_input` resp. `Pos_hash_full_result_al_state_input`: the call pattern
      `hash_full_result*(state, state)`, output aliased with input).  The equality is EXTENSIONAL (`gen_equiv`,
      Lemmas/BridgeEquiv.lean), not `rfl`: renamed locals, hoisted sub-expressions, reordered independent copies / fills,
      dead branches, `a < b` vs `b > a` do not break it.  A loop that counts the absorbed elements UP instead of the
      remaining ones DOWN is accepted too (`lh_countup`: the loops are related by `absorbed = size - remaining` under the
      invariant `remaining ≤ size`), and so is a loop whose first-iteration action (clearing the capacity) was hoisted in
      front of it (`lh_first`: the bodies are compared on the states satisfying `lhInv`, "nothing absorbed yet ⇒ the
      state is still zero").  A change of what a C++ function computes breaks these lemmas.
    * `lhGenG_spec`, `lh512GenG_spec`: what the reference text computes, for ANY region function `P` that acts on the first
      twelve (24) words as a list function `perm` (`hP`).
  Fuel: `size < fuel` is assumed (one unit per iteration and one for the final test would need only size/8 + 2; the simple
  bound is the one `lhLoop_spec` is stated with).
  NOT proved here: that the translated permutations satisfy `hP` for some `perm` (that their first twelve output words
  depend only on the first twelve input words; Lemmas/BridgePerm.lean, BridgePermAvx.lean); C06 proves what they compute in
  the field view (`seq_al_eq`, `avx_al_eq` there: the scalar and AVX2 copies called here are C06's functions on (state, state)).
-/
import GoldilocksVerif.Gen.LinearHashGen
import GoldilocksVerif.Lemmas.SpongeL
import GoldilocksVerif.Lemmas.BridgeBlocks
import GoldilocksVerif.Lemmas.BridgeEquiv
import Mathlib.Tactic.SplitIfs

set_option linter.unusedSimpArgs false
set_option linter.unusedTactic false

namespace GoldilocksVerif
open Model Gen.LinearHashGen


/-! ### the generated text, generic in the permutation call -/

/-- loop body of `linear_hash_seq` / `linear_hash` -/
def lhStepG (P : Region → Region) (input : Region) (size : BitVec 64) (st__ : Region × BitVec 64) :
    Option (Bool × (Region × BitVec 64)) :=
  let state := st__.1
  let remaining := st__.2
  if (remaining != 0#64) then
    let state := if (remaining == size) then
        (Region.unshift state 8 (Region.zeroN (Region.shift state 8) 4))
      else
        (Region.unshift state 8 (Region.copyN (Region.shift state 8) state 4))
    let n : BitVec 64 := (if (decide (remaining < 8#64)) then remaining else 8#64)
    let state := (Region.unshift state (n).toNat (Region.zeroN (Region.shift state (n).toNat) ((((8#64 - n) * 8#64)).toNat / 8)))
    let state := (Region.copyN state (Region.shift input ((size - remaining)).toNat) (((n * 8#64)).toNat / 8))
    let state := P state
    let remaining := (remaining - n)
    some (true, (state, remaining))
  else
    some (false, (state, remaining))

/-- `linear_hash_seq` / `linear_hash` -/
def lhGenG (P : Region → Region) (fuel : Nat) (output input : Region) (size : BitVec 64) : Option Region :=
  if (decide (size ≤ 4#64)) then
    let output := (Region.copyN output input (((size * 8#64)).toNat / 8))
    let output := (Region.unshift output (size).toNat (Region.zeroN (Region.shift output (size).toNat) ((((4#64 - size) * 8#64)).toNat / 8)))
    some output
  else
    (Loop.whileM (lhStepG P input size) fuel (Region.zero, size)).bind fun st_2 =>
    let state := st_2.1
    let output := if (decide (size > 0#64)) then (Region.copyN output state 4) else (Region.zeroN output 4)
    some output

theorem lhStepG_inv (P : Region → Region) (input : Region) (size : BitVec 64) (t : Region × BitVec 64) (b : Bool)
    (t' : Region × BitVec 64) (ht : t.2.toNat ≤ size.toNat) (h : lhStepG P input size t = some (b, t')) :
    t'.2.toNat ≤ size.toNat := by
  unfold lhStepG at h
  dsimp only at h
  split_ifs at h <;> cases h <;> dsimp only <;> ge_cond_norm <;> bv_omega

/-- `F` counts `absorbed` UP from 0, the reference loop `G` counts `remaining` DOWN from `size` and never has more than `size`
    left (`hG`); the states correspond by `absorbed = size - remaining` -/
theorem bind_whileM_countup {size : BitVec 64}
    {F G : Region × BitVec 64 → Option (Bool × (Region × BitVec 64))} {K K' : Region × BitVec 64 → Option Region} {fuel : Nat}
    (hG : ∀ (t : Region × BitVec 64) (b : Bool) (t' : Region × BitVec 64), t.2.toNat ≤ size.toNat → G t = some (b, t') →
      t'.2.toNat ≤ size.toNat)
    (hstep : ∀ t : Region × BitVec 64, t.2.toNat ≤ size.toNat →
      F (t.1, size - t.2) = (G t).map (fun p => (p.1, (p.2.1, size - p.2.2))))
    (hK : ∀ t : Region × BitVec 64, K (t.1, size - t.2) = K' t) :
    (Loop.whileM F fuel (Region.zero, 0#64)).bind K = (Loop.whileM G fuel (Region.zero, size)).bind K' := by
  have h0 : ((Region.zero, 0#64) : Region × BitVec 64) =
      (fun t : Region × BitVec 64 => (t.1, size - t.2)) (Region.zero, size) := by
    show (Region.zero, 0#64) = (Region.zero, size - size)
    rw [BitVec.sub_self]
  rw [h0, GenEquiv.whileM_map F G (fun t => (t.1, size - t.2)) (fun t => t.2.toNat ≤ size.toNat)
    hstep hG fuel (Region.zero, size) (Nat.le_refl _), GenEquiv.optBind_map]
  exact GenEquiv.optBind_congr rfl hK

/-- the count-up form: the pass-through branch as usual, the loop through `bind_whileM_countup` (`inv` = the invariant lemma
    of the reference loop, `stepG` = the reference loop body, still folded on the right-hand side) -/
macro "lh_countup " inv:term ", " stepG:ident : tactic =>
  `(tactic| focus
      (dsimp only
       split_ifs <;> first
         | ge_contra
         | (refine bind_whileM_countup (fun t b t' ht h => $inv t b t' ht h) (fun t ht => ?_) (fun t => ?_)
            · delta $stepG
              gen_equiv
            · gen_equiv)
         | gen_equiv))

/-- invariant of the reference loop: as long as nothing has been absorbed (`remaining = size`) the state is still all zero -/
def lhInv (size : BitVec 64) (t : Region × BitVec 64) : Prop :=
  t.2.toNat ≤ size.toNat ∧ (t.2 = size → t.1 = Region.zero)

theorem lhStepG_inv0 (P : Region → Region) (input : Region) (size : BitVec 64) (t : Region × BitVec 64) (b : Bool)
    (t' : Region × BitVec 64) (ht : lhInv size t) (h : lhStepG P input size t = some (b, t')) : lhInv size t' := by
  obtain ⟨h1, h2⟩ := ht
  unfold lhStepG at h
  dsimp only at h
  split_ifs at h <;> cases h <;> first
    | exact ⟨h1, h2⟩
    | (refine ⟨?_, fun he => ?_⟩
       · clear h2; dsimp only; ge_cond_norm; bv_omega
       · clear h2; dsimp only at he; ge_contra)

/-- `F` starts from an `s0` that IS the all-zero state (e.g. written as the zero state with its capacity part cleared once
    more, before the loop); the bodies only have to agree on the states satisfying `lhInv`, so a body that relies on
    "first iteration ⇒ the state is still zero" is accepted -/
theorem bind_whileM_first {size : BitVec 64}
    {F G : Region × BitVec 64 → Option (Bool × (Region × BitVec 64))} {K K' : Region × BitVec 64 → Option Region} {fuel : Nat}
    {s0 : Region} (h0 : s0 = Region.zero)
    (hG : ∀ (t : Region × BitVec 64) (b : Bool) (t' : Region × BitVec 64), lhInv size t → G t = some (b, t') → lhInv size t')
    (hfirst : F (Region.zero, size) = G (Region.zero, size))
    (hstep : ∀ t : Region × BitVec 64, t.2.toNat ≤ size.toNat → ¬ t.2 = size → F t = G t)
    (hK : ∀ t : Region × BitVec 64, K t = K' t) :
    (Loop.whileM F fuel (s0, size)).bind K = (Loop.whileM G fuel (Region.zero, size)).bind K' := by
  subst h0
  have hs : ∀ t : Region × BitVec 64, lhInv size t → F t = G t := by
    intro t ht
    obtain ⟨s, r⟩ := t
    obtain ⟨h1, h2⟩ := ht
    by_cases he : r = size
    · have hz : s = Region.zero := h2 he
      rw [hz, he]
      exact hfirst
    · exact hstep (s, r) h1 he
  rw [GenEquiv.whileM_congr_inv F G (lhInv size) hs hG fuel (Region.zero, size) ⟨Nat.le_refl _, fun _ => rfl⟩]
  exact GenEquiv.optBind_congr rfl hK

/-- the form with the first-iteration action hoisted out of the loop: the loop through `bind_whileM_first`; the step is
    compared separately for the first iteration (state = zero, remaining = size) and for the later ones -/
macro "lh_first " inv:term ", " stepG:ident : tactic =>
  `(tactic| focus
      (dsimp only
       split_ifs <;> first
         | ge_contra
         | (refine bind_whileM_first ?_ (fun t b t' ht h => $inv t b t' ht h) ?_ (fun t h1 he => ?_) (fun t => ?_)
            · gen_equiv
            · delta $stepG
              gen_equiv
            · try dsimp only at h1 he
              delta $stepG
              gen_equiv
            · gen_equiv)
         | gen_equiv))

theorem lh_seq_generic (fuel : Nat) (output input : Region) (size : BitVec 64) :
    Pos_linear_hash_seq fuel output input size = lhGenG Pos_hash_full_result_seq_al_state_input fuel output input size := by
  delta lhGenG
  delta_prefix "Gen.LinearHashGen.Pos_linear_hash_seq"
  first
  | (delta lhStepG; gen_equiv)
  | lh_countup (lhStepG_inv Pos_hash_full_result_seq_al_state_input input size), lhStepG
  | lh_first (lhStepG_inv0 Pos_hash_full_result_seq_al_state_input input size), lhStepG

theorem lh_avx_generic (fuel : Nat) (output input : Region) (size : BitVec 64) :
    Pos_linear_hash fuel output input size = lhGenG Pos_hash_full_result_al_state_input fuel output input size := by
  delta lhGenG
  delta_prefix "Gen.LinearHashGen.Pos_linear_hash"
  delta_prefix "Gen.Avx2Mat.load_avx"
  delta_prefix "Gen.Avx2Mat.store_avx"
  first
  | (delta lhStepG; gen_equiv)
  | lh_countup (lhStepG_inv Pos_hash_full_result_al_state_input input size), lhStepG
  | lh_first (lhStepG_inv0 Pos_hash_full_result_al_state_input input size), lhStepG

/-- A `while (remaining)` loop that consumes `min remaining 8` elements per iteration, against a fuel-indexed model loop on
    the first `W` state words (`model 1 r` = one iteration of the model): if one generated iteration is one model
    iteration, the generated loop run from `remaining ≤ f` ends with `remaining = 0` in the state `model f` computes. -/
theorem whileM_countdown {W : Nat} {size : BitVec 64} {step : Region × BitVec 64 → Option (Bool × (Region × BitVec 64))}
    {model : Nat → Nat → List Wd → List Wd}
    (hstop : ∀ state, step (state, 0#64) = some (false, (state, 0#64)))
    (hnext : ∀ state remaining, remaining ≠ 0#64 → remaining.toNat ≤ size.toNat →
      ∃ state' remaining', step (state, remaining) = some (true, (state', remaining')) ∧
        remaining'.toNat = remaining.toNat - min remaining.toNat 8 ∧
        Region.toList state' W = model 1 remaining.toNat (Region.toList state W))
    (hm0 : ∀ f st, model f 0 st = st)
    (hm : ∀ f r st, r ≠ 0 → model (f + 1) r st = model f (r - min r 8) (model 1 r st)) :
    ∀ (f : Nat) (state : Region) (remaining : BitVec 64), remaining.toNat ≤ size.toNat → remaining.toNat ≤ f →
      ∃ state', Loop.whileM step (f + 1) (state, remaining) = some (state', 0#64) ∧
        Region.toList state' W = model f remaining.toNat (Region.toList state W) := by
  intro f
  induction f with
  | zero =>
    intro state remaining _ hf
    have h0 : remaining = 0#64 := BitVec.eq_of_toNat_eq (by show remaining.toNat = 0; omega)
    subst h0
    exact ⟨state, Loop.whileM_stop _ _ _ _ (hstop state), (hm0 0 _).symm⟩
  | succ f ih =>
    intro state remaining hle hf
    by_cases h0 : remaining = 0#64
    · subst h0
      exact ⟨state, Loop.whileM_stop _ _ _ _ (hstop state), (hm0 _ _).symm⟩
    · have hr0 : remaining.toNat ≠ 0 := fun h => h0 (BitVec.eq_of_toNat_eq (by simpa using h))
      obtain ⟨state1, rem1, hs, hr1, hl1⟩ := hnext state remaining h0 hle
      obtain ⟨state', hw, hl⟩ := ih state1 rem1 (by omega) (by omega)
      exact ⟨state', by rw [Loop.whileM_next _ _ _ _ hs, hw], by rw [hl, hl1, hr1, hm f _ _ hr0]⟩

/-- the block length `n = min(remaining, 8)` of one iteration and the element counts computed from it, over `Nat` -/
theorem blockLen_facts (size remaining : BitVec 64) (hle : remaining.toNat ≤ size.toNat) :
    (if (decide (remaining < 8#64)) then remaining else 8#64).toNat = min remaining.toNat 8 ∧
    (∀ n : BitVec 64, n.toNat = min remaining.toNat 8 →
      ((8#64 - n) * 8#64).toNat / 8 = 8 - n.toNat ∧ (n * 8#64).toNat / 8 = n.toNat ∧
      (4 ≤ n.toNat → ((n - 4#64) * 8#64).toNat / 8 = n.toNat - 4) ∧
      (remaining - n).toNat = remaining.toNat - min remaining.toNat 8) ∧
    (size - remaining).toNat = size.toNat - remaining.toNat ∧
    ((remaining == size) = true ↔ remaining.toNat = size.toNat) := by
  have h8 : (8#64 : BitVec 64).toNat = 8 := rfl
  have h4 : (4#64 : BitVec 64).toNat = 4 := rfl
  refine ⟨?_, fun n hn => ⟨?_, ?_, ?_, ?_⟩, ?_, ?_⟩
  · by_cases h : remaining < 8#64
    · have h' : remaining.toNat < 8 := by rw [BitVec.lt_def, h8] at h; exact h
      simp only [h, decide_true, if_true]; omega
    · have h' : ¬ remaining.toNat < 8 := by rw [BitVec.lt_def, h8] at h; exact h
      simp only [h, decide_false, Bool.false_eq_true, if_false, h8]; omega
  · rw [BitVec.toNat_mul, BitVec.toNat_sub, h8]; omega
  · rw [BitVec.toNat_mul, h8]; omega
  · intro h; rw [BitVec.toNat_mul, BitVec.toNat_sub, h8, h4]; omega
  · rw [BitVec.toNat_sub]; omega
  · rw [BitVec.toNat_sub]; omega
  · rw [beq_iff_eq]; exact ⟨fun h => by rw [h], fun h => BitVec.eq_of_toNat_eq h⟩

/-- the element counts of the pass-through case (`size ≤ 4`), over `Nat` -/
theorem passLen_facts (size : BitVec 64) (hs : size.toNat ≤ 4) :
    (size * 8#64).toNat / 8 = size.toNat ∧ ((4#64 - size) * 8#64).toNat / 8 = 4 - size.toNat := by
  have h4 : (4#64 : BitVec 64).toNat = 4 := rfl
  have h8 : (8#64 : BitVec 64).toNat = 8 := rfl
  constructor
  · rw [BitVec.toNat_mul, h8]; omega
  · rw [BitVec.toNat_mul, BitVec.toNat_sub, h8, h4]; omega

theorem lhStepG_stop (P : Region → Region) (input state : Region) (size : BitVec 64) :
    lhStepG P input size (state, 0#64) = some (false, (state, 0#64)) := rfl

theorem lhStepG_next (P : Region → Region) (perm : List Wd → List Wd)
    (hP : ∀ s, Region.toList (P s) 12 = perm (Region.toList s 12))
    (input state : Region) (size remaining : BitVec 64) (h0 : remaining ≠ 0#64) (hle : remaining.toNat ≤ size.toNat) :
    ∃ state' remaining', lhStepG P input size (state, remaining) = some (true, (state', remaining')) ∧
      remaining'.toNat = remaining.toNat - min remaining.toNat 8 ∧
      Region.toList state' 12 =
        lhLoop perm (Region.toList input size.toNat) size.toNat 1 remaining.toNat (Region.toList state 12) := by
  have hr0 : remaining.toNat ≠ 0 := fun h => h0 (BitVec.eq_of_toNat_eq (by simpa using h))
  unfold lhLoop
  simp only [hr0, if_false, lhLoop]
  have hb : (remaining != 0#64) = true := by simpa using h0
  obtain ⟨hn, hcnt, e3, hc⟩ := blockLen_facts size remaining hle
  generalize hnd : (if (decide (remaining < 8#64)) then remaining else 8#64) = nBV at hn
  obtain ⟨e1, e2, -, e4⟩ := hcnt nBV hn
  refine ⟨?st, remaining - nBV, ?h1, e4, ?h2⟩
  case h1 =>
    unfold lhStepG
    simp only [hb, if_true, hnd]
    rfl
  case h2 =>
    rw [hP, e1, e2, e3, ← hn]
    exact congrArg perm (block_list state input size.toNat remaining.toNat nBV.toNat hn hle (remaining == size) hc)

theorem lh_loop_sync (P : Region → Region) (perm : List Wd → List Wd)
    (hP : ∀ s, Region.toList (P s) 12 = perm (Region.toList s 12)) (input : Region) (size : BitVec 64) :
    ∀ (f : Nat) (state : Region) (remaining : BitVec 64), remaining.toNat ≤ size.toNat → remaining.toNat ≤ f →
      ∃ state', Loop.whileM (lhStepG P input size) (f + 1) (state, remaining) = some (state', 0#64) ∧
        Region.toList state' 12 =
          lhLoop perm (Region.toList input size.toNat) size.toNat f remaining.toNat (Region.toList state 12) :=
  whileM_countdown (lhStepG_stop P input · size) (lhStepG_next P perm hP input · size)
    (fun f st => by cases f <;> simp [lhLoop])
    (fun f r st hr => by simp only [lhLoop, hr, if_false])

/-- the generated `linear_hash*` returns for every fuel > size; its four output words are the hand model's digest of the
    first `size` input words; nothing beyond word 3 of the output is written -/
theorem lhGenG_spec (P : Region → Region) (perm : List Wd → List Wd)
    (hP : ∀ s, Region.toList (P s) 12 = perm (Region.toList s 12))
    (fuel : Nat) (output input : Region) (size : BitVec 64) (hf : size.toNat < fuel) :
    ∃ out', lhGenG P fuel output input size = some out' ∧
      Region.toList out' 4 = linearHash perm (Region.toList input size.toNat) ∧
      ∀ k, 4 ≤ k → out' k = output k := by
  have h4 : (4#64 : BitVec 64).toNat = 4 := rfl
  unfold lhGenG linearHash
  rw [Region.length_toList]
  by_cases hs : size ≤ 4#64
  · have hs' : size.toNat ≤ 4 := by rw [BitVec.le_def, h4] at hs; exact hs
    obtain ⟨e1, e2⟩ := passLen_facts size hs'
    simp only [hs, decide_true, if_true, hs', e1, e2]
    refine ⟨_, rfl, ?_, ?_⟩
    · refine Region.toList_pad hs' fun i hi => ?_
      simp only [Region.copyN_apply, Region.unshift_apply, Region.zeroN_apply, Region.shift_apply]
      split_ifs <;> first | rfl | omega
    · intro k hk
      simp only [Region.copyN_apply, Region.unshift_apply, Region.zeroN_apply, Region.shift_apply]
      split_ifs <;> first | rfl | omega | (congr 1; omega)
  · have hs' : ¬ size.toNat ≤ 4 := by rw [BitVec.le_def, h4] at hs; exact hs
    have hpos : size > 0#64 := by rw [gt_iff_lt, BitVec.lt_def]; show 0 < size.toNat; omega
    obtain ⟨f, rfl⟩ : ∃ f, fuel = f + 1 := ⟨fuel - 1, by omega⟩
    obtain ⟨state', hw, hl⟩ := lh_loop_sync P perm hP input size f Region.zero size (Nat.le_refl _) (by omega)
    simp only [hs, decide_false, Bool.false_eq_true, if_false, hs', hw, Option.bind_some, hpos, decide_true, if_true]
    refine ⟨_, rfl, ?_, ?_⟩
    · have e : Region.toList state' 4 = (Region.toList state' 12).take 4 := (Region.toList_take state' 12 4).symm
      rw [Region.toList_copyN, e, hl, Region.toList_zero]
      have hlen : (Region.toList input size.toNat).length = size.toNat := Region.length_toList _ _
      rw [lhLoop_spec perm _ size.toNat hlen size.toNat f size.toNat (zeros 12) (by omega) (Nat.le_refl _) (Nat.le_refl _)
            (by omega),
          lhLoop_spec perm _ size.toNat hlen size.toNat size.toNat size.toNat (zeros 12) (Nat.le_refl _) (Nat.le_refl _)
            (Nat.le_refl _) (by omega)]
    · intro k hk
      simp only [Region.copyN_apply]
      split_ifs <;> first | rfl | omega


/-- the contract `lhGenG_spec` establishes, as the Merkle bridges take it: `LH` returns for every fuel > size, writes the
    4-word digest `leaf` of its input words and nothing else -/
def LeafHash (LH : Nat → Region → Region → BitVec 64 → Option Region) (leaf : List Wd → List Wd) : Prop :=
  ∀ (fuel : Nat) (out inp : Region) (size : BitVec 64), size.toNat < fuel →
    ∃ out', LH fuel out inp size = some out' ∧ Region.toList out' 4 = leaf (Region.toList inp size.toNat) ∧
      ∀ k, 4 ≤ k → out' k = out k

/-! ### linear_hash_avx512: two inputs side by side, 24-word interleaved state -/

/-- loop body of `linear_hash_avx512`, generic in the two-state permutation call `P2` -/
def lh512StepG (P2 : Region → Region) (input : Region) (size : BitVec 64) (st__ : Region × BitVec 64) :
    Option (Bool × (Region × BitVec 64)) :=
  let state := st__.1
  let remaining := st__.2
  if (remaining != 0#64) then
    let state := if (remaining == size) then
        (Region.unshift state 16 (Region.zeroN (Region.shift state 16) 8))
      else
        (Region.unshift state 16 (Region.copyN (Region.shift state 16) state 8))
    let n : BitVec 64 := (if (decide (remaining < 8#64)) then remaining else 8#64)
    let state := (Region.zeroN state 16)
    let state := if (decide (n ≤ 4#64)) then
        let state := (Region.copyN state (Region.shift input ((size - remaining)).toNat) (((n * 8#64)).toNat / 8))
        let state := (Region.unshift state 4 (Region.copyN (Region.shift state 4) (Region.shift (Region.shift input (size).toNat) ((size - remaining)).toNat) (((n * 8#64)).toNat / 8)))
        state
      else
        let state := (Region.copyN state (Region.shift input ((size - remaining)).toNat) 4)
        let state := (Region.unshift state 4 (Region.copyN (Region.shift state 4) (Region.shift (Region.shift input (size).toNat) ((size - remaining)).toNat) 4))
        let state := (Region.unshift state 8 (Region.copyN (Region.shift state 8) (Region.shift (Region.shift input ((size - remaining)).toNat) 4) ((((n - 4#64) * 8#64)).toNat / 8)))
        let state := (Region.unshift state 12 (Region.copyN (Region.shift state 12) (Region.shift (Region.shift (Region.shift input (size).toNat) ((size - remaining)).toNat) 4) ((((n - 4#64) * 8#64)).toNat / 8)))
        state
    let state := P2 state
    let remaining := (remaining - n)
    some (true, (state, remaining))
  else
    some (false, (state, remaining))

/-- `linear_hash_avx512` -/
def lh512GenG (P2 : Region → Region) (fuel : Nat) (output input : Region) (size : BitVec 64) : Option Region :=
  if (decide (size ≤ 4#64)) then
    let output := (Region.copyN output input (((size * 8#64)).toNat / 8))
    let output := (Region.unshift output (size).toNat (Region.zeroN (Region.shift output (size).toNat) ((((4#64 - size) * 8#64)).toNat / 8)))
    let output := (Region.unshift output 4 (Region.copyN (Region.shift output 4) (Region.shift input (size).toNat) (((size * 8#64)).toNat / 8)))
    let output := (Region.unshift output 4 (Region.unshift (Region.shift output 4) (size).toNat (Region.zeroN (Region.shift (Region.shift output 4) (size).toNat) ((((4#64 - size) * 8#64)).toNat / 8))))
    some output
  else
    (Loop.whileM (lh512StepG P2 input size) fuel (Region.zero, size)).bind fun st_2 =>
    let state := st_2.1
    let output := if (decide (size > 0#64)) then (Region.copyN output state 8) else (Region.zeroN output 8)
    some output

theorem lh512StepG_inv (P2 : Region → Region) (input : Region) (size : BitVec 64) (t : Region × BitVec 64) (b : Bool)
    (t' : Region × BitVec 64) (ht : t.2.toNat ≤ size.toNat) (h : lh512StepG P2 input size t = some (b, t')) :
    t'.2.toNat ≤ size.toNat := by
  unfold lh512StepG at h
  dsimp only at h
  split_ifs at h <;> cases h <;> dsimp only <;> ge_cond_norm <;> bv_omega

set_option maxHeartbeats 1000000 in
theorem lh512_generic (fuel : Nat) (output input : Region) (size : BitVec 64) :
    Pos_linear_hash_avx512 fuel output input size =
      lh512GenG Pos_hash_full_result_avx512_al_state_input fuel output input size := by
  delta lh512GenG
  delta_prefix "Gen.LinearHashGen.Pos_linear_hash_avx512"
  first
  | (delta lh512StepG; gen_equiv)
  | lh_countup (lh512StepG_inv Pos_hash_full_result_avx512_al_state_input input size), lh512StepG

theorem lh512StepG_stop (P2 : Region → Region) (input state : Region) (size : BitVec 64) :
    lh512StepG P2 input size (state, 0#64) = some (false, (state, 0#64)) := rfl

theorem lh512StepG_next (P2 : Region → Region) (perm2 : List Wd → List Wd)
    (hP : ∀ s, Region.toList (P2 s) 24 = perm2 (Region.toList s 24))
    (input state : Region) (size remaining : BitVec 64) (h0 : remaining ≠ 0#64) (hle : remaining.toNat ≤ size.toNat) :
    ∃ state' remaining', lh512StepG P2 input size (state, remaining) = some (true, (state', remaining')) ∧
      remaining'.toNat = remaining.toNat - min remaining.toNat 8 ∧
      Region.toList state' 24 =
        lh512Loop perm2 (Region.toList input (2 * size.toNat)) size.toNat 1 remaining.toNat (Region.toList state 24) := by
  have hr0 : remaining.toNat ≠ 0 := fun h => h0 (BitVec.eq_of_toNat_eq (by simpa using h))
  unfold lh512Loop
  simp only [hr0, if_false, lh512Loop]
  have hb : (remaining != 0#64) = true := by simpa using h0
  have h4 : (4#64 : BitVec 64).toNat = 4 := rfl
  obtain ⟨hn, hcnt, e3, hc⟩ := blockLen_facts size remaining hle
  generalize hnd : (if (decide (remaining < 8#64)) then remaining else 8#64) = nBV at hn
  obtain ⟨-, e2, e5, e4⟩ := hcnt nBV hn
  have hcap := cap_list state 16 8 24 (by omega) remaining.toNat size.toNat (remaining == size) hc
  by_cases hs4 : nBV ≤ 4#64
  · have hs4' : nBV.toNat ≤ 4 := by rw [BitVec.le_def, h4] at hs4; exact hs4
    refine ⟨?st, remaining - nBV, ?h1, e4, ?h2⟩
    case h1 =>
      unfold lh512StepG
      simp only [hb, if_true, hnd, hs4, decide_true]
      rfl
    case h2 =>
      rw [hP, e2, e3, ← hn, ← hcap]
      exact congrArg perm2 (block512_small _ input size.toNat remaining.toNat nBV.toNat hn hle hs4')
  · have hs4' : 4 < nBV.toNat := by rw [BitVec.le_def, h4] at hs4; omega
    refine ⟨?stb, remaining - nBV, ?h1b, e4, ?h2b⟩
    case h1b =>
      unfold lh512StepG
      simp only [hb, if_true, hnd, hs4, decide_false, Bool.false_eq_true, if_false]
      rfl
    case h2b =>
      rw [hP, e5 (by omega), e3, ← hn, ← hcap]
      exact congrArg perm2 (block512_big _ input size.toNat remaining.toNat nBV.toNat hn hle hs4')

theorem lh512_loop_sync (P2 : Region → Region) (perm2 : List Wd → List Wd)
    (hP : ∀ s, Region.toList (P2 s) 24 = perm2 (Region.toList s 24)) (input : Region) (size : BitVec 64) :
    ∀ (f : Nat) (state : Region) (remaining : BitVec 64), remaining.toNat ≤ size.toNat → remaining.toNat ≤ f →
      ∃ state', Loop.whileM (lh512StepG P2 input size) (f + 1) (state, remaining) = some (state', 0#64) ∧
        Region.toList state' 24 =
          lh512Loop perm2 (Region.toList input (2 * size.toNat)) size.toNat f remaining.toNat (Region.toList state 24) :=
  whileM_countdown (lh512StepG_stop P2 input · size) (lh512StepG_next P2 perm2 hP input · size)
    (fun f st => by cases f <;> simp [lh512Loop])
    (fun f r st hr => by simp only [lh512Loop, hr, if_false])

/-- the generated `linear_hash_avx512` returns for every fuel > size; its eight output words are the hand model's two
    digests; nothing beyond word 7 of the output is written -/
theorem lh512GenG_spec (P2 : Region → Region) (perm2 : List Wd → List Wd)
    (hP : ∀ s, Region.toList (P2 s) 24 = perm2 (Region.toList s 24))
    (fuel : Nat) (output input : Region) (size : BitVec 64) (hf : size.toNat < fuel) :
    ∃ out', lh512GenG P2 fuel output input size = some out' ∧
      Region.toList out' 8 = linearHash512 perm2 (Region.toList input (2 * size.toNat)) size.toNat ∧
      ∀ k, 8 ≤ k → out' k = output k := by
  have h4 : (4#64 : BitVec 64).toNat = 4 := rfl
  unfold lh512GenG linearHash512
  by_cases hs : size ≤ 4#64
  · have hs' : size.toNat ≤ 4 := by rw [BitVec.le_def, h4] at hs; exact hs
    obtain ⟨e1, e2⟩ := passLen_facts size hs'
    simp only [hs, decide_true, if_true, hs', e1, e2]
    refine ⟨_, rfl, ?_, ?_⟩
    · rw [Region.toList_take, Nat.min_eq_left (by omega), Region.toList_drop_take input (by omega),
        Region.toList_add _ 4 4]
      -- the output is written by memcpy (word 0..), memset (the padding up to 4), memcpy (word 4..), memset (up to 8)
      congr 1 <;> refine Region.toList_pad hs' fun i hi => ?_ <;> by_cases h : i < size.toNat
      · rw [GenEquiv.pt_unshift_unshift_zeroN, if_neg (by omega), memcpy_frame _ _ (.inl hi), GenEquiv.pt_unshift_zeroN,
          if_neg (by omega), Region.copyN_apply, if_pos h, if_pos h]
      · rw [GenEquiv.pt_unshift_unshift_zeroN, if_neg (by omega), memcpy_frame _ _ (.inl hi), GenEquiv.pt_unshift_zeroN,
          if_pos (by omega), if_neg h]
      · rw [Region.shift_apply, GenEquiv.pt_unshift_unshift_zeroN, if_neg (by omega), memcpy_hit _ _ 4 h, if_pos h]
      · rw [Region.shift_apply, GenEquiv.pt_unshift_unshift_zeroN, if_pos (by omega), if_neg h]
    · intro k hk
      rw [GenEquiv.pt_unshift_unshift_zeroN, if_neg (by omega), memcpy_frame _ _ (.inr (by omega)), GenEquiv.pt_unshift_zeroN,
        if_neg (by omega), Region.copyN_apply, if_neg (by omega)]
  · have hs' : ¬ size.toNat ≤ 4 := by rw [BitVec.le_def, h4] at hs; exact hs
    have hpos : size > 0#64 := by rw [gt_iff_lt, BitVec.lt_def]; show 0 < size.toNat; omega
    have hw0 : ∃ state', Loop.whileM (lh512StepG P2 input size) fuel (Region.zero, size) = some (state', 0#64) ∧
        Region.toList state' 24 =
          lh512Loop perm2 (Region.toList input (2 * size.toNat)) size.toNat size.toNat size.toNat (zeros 24) := by
      obtain ⟨state', hw, hl⟩ := lh512_loop_sync P2 perm2 hP input size size.toNat Region.zero size (Nat.le_refl _)
        (Nat.le_refl _)
      exact ⟨state', Loop.whileM_mono _ _ _ _ fuel hw (by omega), by rw [hl, Region.toList_zero]⟩
    obtain ⟨state', hw, hl⟩ := hw0
    simp only [hs, decide_false, Bool.false_eq_true, if_false, hs', hw, Option.bind_some, hpos, decide_true, if_true]
    refine ⟨_, rfl, ?_, ?_⟩
    · rw [Region.toList_copyN, ← hl]
      exact (Region.toList_take state' 24 8).symm
    · intro k hk
      simp only [Region.copyN_apply]
      split_ifs <;> first | rfl | omega

/-- the contract `lh512GenG_spec` establishes for `linear_hash_avx512`: 8 output words = `leaf2` of the 2·size input
    words, nothing else written -/
def PairHash (LH2 : Nat → Region → Region → BitVec 64 → Option Region) (leaf2 : List Wd → Nat → List Wd) : Prop :=
  ∀ (fuel : Nat) (out inp : Region) (size : BitVec 64), size.toNat < fuel →
    ∃ out', LH2 fuel out inp size = some out' ∧ Region.toList out' 8 = leaf2 (Region.toList inp (2 * size.toNat)) size.toNat ∧
      ∀ k, 8 ≤ k → out' k = out k

/-- the contract of the capacity-sized hash `hash*(out, inp)` the Merkle level loop calls: four output words, a function of
    the twelve input words; nothing else written -/
def NodeHash (H : Region → Region → Region) (nodeF : List Wd → List Wd) : Prop :=
  ∀ out inp, Region.toList (H out inp) 4 = nodeF (Region.toList inp 12) ∧ ∀ k, 4 ≤ k → (H out inp) k = out k

/-- the 2·size input words of `linear_hash_avx512` are the two inputs back to back -/
theorem toList_two_inputs (input : Region) (n : Nat) :
    Region.toList input (2 * n) = Region.toList input n ++ Region.toList (Region.shift input n) n := by
  rw [Nat.two_mul, Region.toList_add]

end GoldilocksVerif
