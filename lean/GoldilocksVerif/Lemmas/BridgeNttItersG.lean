/-
  Bridge theorems, NTT_iters: what the two chains below `NTT_iters` share — `ObjRep`, `ObjFrame`, `ObjIn`, `ObjDisj`; the `bv n = BitVec.ofNat 64 n`
  arithmetic (sums and products commute with `ofNat` unconditionally; quotients / remainders / masks / shifts, comparisons and
  the final `.toNat` need the small bounds); the arithmetic of each loop level on numbers (`bfly_arith`, `copy_arith` /
  `batch_arith`, `sched_arith`) — and the loops for an ARBITRARY body with a semantic hypothesis (`bfly_loop_g`, `block_loop_g`,
  `scaleRow_g`, `snd_loop_g`, `passes_g`).  The hypotheses are discharged where the loops are called
  (Lemmas/BridgeNttItersTop.lean), after unfolding, so that no statement depends on the parameter list the translator gives a
  lifted loop body.  The by-name forms (C12) are in Lemmas/BridgeNttPass.lean and Lemmas/BridgeNttIters.lean.
-/
import GoldilocksVerif.Lemmas.BridgeNttRevPermG
import GoldilocksVerif.Lemmas.NttSched

namespace GoldilocksVerif.BridgeNtt
open GoldilocksVerif Gen.NttGen

/-- the generated object state `self` with the heap `hp` represents the hand model's object `o` -/
structure ObjRep (hp : Heap) (obj : NTT_Goldilocks) (o : Model.Ntt.Obj) : Prop where
  hs : obj.s.toNat = o.s
  roots : hp.block obj.roots.blk = o.roots
  roots_off : obj.roots.off = 0
  pti : hp.block obj.powTwoInv.blk = o.powTwoInv
  pti_off : obj.powTwoInv.off = 0
  ext : obj.extension = (o.extension : Int)
  cache : match o.rcache with
    | none => obj.r = Ptr.null
    | some (n, r, r_) => obj.r ≠ Ptr.null ∧ obj.r_N.toNat = n ∧ hp.block obj.r.blk = r ∧ obj.r.off = 0 ∧
        hp.block obj.r_.blk = r_ ∧ obj.r_.off = 0

def ObjFrame (obj : NTT_Goldilocks) (A : Nat) : Prop :=
  A ≠ obj.roots.blk ∧ A ≠ obj.powTwoInv.blk ∧ A ≠ obj.r.blk ∧ A ≠ obj.r_.blk

def ObjIn (hp : Heap) (obj : NTT_Goldilocks) : Prop :=
  obj.roots.blk < hp.size ∧ obj.powTwoInv.blk < hp.size ∧ obj.r.blk < hp.size ∧ obj.r_.blk < hp.size

/-- the object's four blocks are pairwise distinct where it matters for replacing the cache -/
def ObjDisj (obj : NTT_Goldilocks) : Prop :=
  obj.roots.blk ≠ obj.r.blk ∧ obj.roots.blk ≠ obj.r_.blk ∧ obj.powTwoInv.blk ≠ obj.r.blk ∧ obj.powTwoInv.blk ≠ obj.r_.blk

theorem ObjRep.frame {X0 X : Heap} {obj : NTT_Goldilocks} {o : Model.Ntt.Obj} (h : ObjRep X0 obj o)
    (hfr : ∀ c, c = obj.roots.blk ∨ c = obj.powTwoInv.blk ∨ c = obj.r.blk ∨ c = obj.r_.blk → X.block c = X0.block c) :
    ObjRep X obj o := by
  refine ⟨h.hs, ?_, h.roots_off, ?_, h.pti_off, h.ext, ?_⟩
  · rw [hfr _ (Or.inl rfl)]; exact h.roots
  · rw [hfr _ (Or.inr (Or.inl rfl))]; exact h.pti
  · have hc := h.cache
    cases hrc : o.rcache with
    | none => rw [hrc] at hc; exact hc
    | some v =>
      obtain ⟨n, r, r_⟩ := v
      rw [hrc] at hc
      obtain ⟨c1, c2, c3, c4, c5, c6⟩ := hc
      refine ⟨c1, c2, ?_, c4, ?_, c6⟩
      · rw [hfr _ (Or.inr (Or.inr (Or.inl rfl)))]; exact c3
      · rw [hfr _ (Or.inr (Or.inr (Or.inr rfl)))]; exact c5

theorem ObjRep.frame1 {X0 X : Heap} {obj : NTT_Goldilocks} {o : Model.Ntt.Obj} {A : Nat} (h : ObjRep X0 obj o)
    (hA : ObjFrame obj A) (hfr : ∀ c, c ≠ A → X.block c = X0.block c) : ObjRep X obj o := by
  obtain ⟨a1, a2, a3, a4⟩ := hA
  apply h.frame
  rintro c (rfl | rfl | rfl | rfl)
  · exact hfr _ (fun e => a1 e.symm)
  · exact hfr _ (fun e => a2 e.symm)
  · exact hfr _ (fun e => a3 e.symm)
  · exact hfr _ (fun e => a4 e.symm)

theorem ObjRep.R2 {H : Heap} {obj : NTT_Goldilocks} {o : Model.Ntt.Obj} {A A2 : Nat} (h : ObjRep H obj o)
    (hfr : ObjFrame obj A) (hfr2 : ObjFrame obj A2) (s : Block × Block) : ObjRep (Heap.R2 H A A2 s) obj o := by
  obtain ⟨a1, a2, a3, a4⟩ := hfr
  obtain ⟨b1, b2, b3, b4⟩ := hfr2
  apply h.frame
  rintro c (rfl | rfl | rfl | rfl)
  · exact Heap.R2_block_other _ _ _ _ _ (fun e => a1 e.symm) (fun e => b1 e.symm)
  · exact Heap.R2_block_other _ _ _ _ _ (fun e => a2 e.symm) (fun e => b2 e.symm)
  · exact Heap.R2_block_other _ _ _ _ _ (fun e => a3 e.symm) (fun e => b3 e.symm)
  · exact Heap.R2_block_other _ _ _ _ _ (fun e => a4 e.symm) (fun e => b4 e.symm)

theorem bind_some_id {α : Type} (x : Option α) : (x.bind fun a => some a) = x := by cases x <;> rfl

/-- the hand model's `dstIsSrc ? src : dst`, for values indexed by block numbers: the destination's -/
theorem sel_same {α : Type} (f : Nat → α) (D Sx : Nat) : (if decide (D = Sx) = true then f Sx else f D) = f D := by
  by_cases h : D = Sx
  · subst h; simp
  · simp [h]

abbrev bv (n : Nat) : BitVec 64 := BitVec.ofNat 64 n

theorem bv_self (x : BitVec 64) : x = bv x.toNat := by simp [bv]

theorem bv_toNat (n : Nat) (h : n < 2 ^ 64) : (bv n).toNat = n := ofNat_toNat_lt n h

theorem bv_add (a b : Nat) : bv a + bv b = bv (a + b) := (BitVec.ofNat_add a b).symm

theorem bv_mul (a b : Nat) : bv a * bv b = bv (a * b) := (BitVec.ofNat_mul a b).symm

theorem bv_sub (a b : Nat) (h : b ≤ a) (ha : a < 2 ^ 64) : bv a - bv b = bv (a - b) := by
  apply BitVec.eq_of_toNat_eq
  rw [BitVec.toNat_sub, bv_toNat a ha, bv_toNat b (by omega), bv_toNat _ (by omega)]
  omega

theorem bv_div (a b : Nat) (ha : a < 2 ^ 64) (hb : b < 2 ^ 64) : bv a / bv b = bv (a / b) := by
  apply BitVec.eq_of_toNat_eq
  rw [BitVec.toNat_udiv, bv_toNat a ha, bv_toNat b hb, bv_toNat _ (Nat.lt_of_le_of_lt (Nat.div_le_self a b) ha)]

theorem bv_mod (a b : Nat) (ha : a < 2 ^ 64) (hb : b < 2 ^ 64) : bv a % bv b = bv (a % b) := by
  apply BitVec.eq_of_toNat_eq
  rw [BitVec.toNat_umod, bv_toNat a ha, bv_toNat b hb, bv_toNat _ (Nat.lt_of_le_of_lt (Nat.mod_le a b) ha)]

theorem bv_mask (j t : Nat) (hj : j < 2 ^ 64) (ht : t < 64) : bv j &&& bv (2 ^ t - 1) = bv (j % 2 ^ t) := by
  have h2 : 2 ^ t < 2 ^ 64 := Nat.pow_lt_pow_right (by omega) ht
  apply BitVec.eq_of_toNat_eq
  rw [BitVec.toNat_and, bv_toNat j hj, bv_toNat _ (by omega), Nat.and_two_pow_sub_one_eq_mod,
    bv_toNat _ (Nat.lt_of_le_of_lt (Nat.mod_le _ _) hj)]

theorem bv_shr (j t : Nat) (hj : j < 2 ^ 64) : bv j >>> t = bv (j / 2 ^ t) := by
  apply BitVec.eq_of_toNat_eq
  rw [BitVec.toNat_ushiftRight, bv_toNat j hj, Nat.shiftRight_eq_div_pow,
    bv_toNat _ (Nat.lt_of_le_of_lt (Nat.div_le_self _ _) hj)]

theorem bv_one : (1#64 : BitVec 64) = bv 1 := rfl

theorem bv_two : (2#64 : BitVec 64) = bv 2 := rfl

theorem le_bv (a b : Nat) (ha : a < 2 ^ 64) (hb : b < 2 ^ 64) : (bv a ≤ bv b) ↔ a ≤ b := by
  rw [BitVec.le_def, bv_toNat a ha, bv_toNat b hb]

theorem lt_bv (a b : Nat) (ha : a < 2 ^ 64) (hb : b < 2 ^ 64) : (bv a < bv b) ↔ a < b := by
  rw [BitVec.lt_def, bv_toNat a ha, bv_toNat b hb]

theorem decide_lt_bv (a b : Nat) (ha : a < 2 ^ 64) (hb : b < 2 ^ 64) : decide (bv a < bv b) = decide (a < b) := by
  rw [decide_eq_decide, lt_bv a b ha hb]

theorem beq_bv (a b : Nat) (ha : a < 2 ^ 64) (hb : b < 2 ^ 64) : (bv a == bv b) = decide (a = b) := by
  rw [Bool.eq_iff_iff]
  simp only [beq_iff_eq, decide_eq_true_eq]
  constructor
  · intro h
    have := congrArg BitVec.toNat h
    rwa [bv_toNat a ha, bv_toNat b hb] at this
  · intro h; rw [h]

theorem bv_ne_zero (n : Nat) (h0 : 0 < n) (h : n < 2 ^ 64) : bv n ≠ 0#64 := by
  intro e; have := congrArg BitVec.toNat e; rw [bv_toNat n h] at this; simp at this; omega

theorem one_shl (K : Nat) (hK : K < 64) : (1#64 : BitVec 64) <<< K = bv (2 ^ K) := by
  apply BitVec.eq_of_toNat_eq
  have h2 : 2 ^ K < 2 ^ 64 := Nat.pow_lt_pow_right (by omega) hK
  rw [BitVec.toNat_shiftLeft, bv_toNat _ h2, Nat.shiftLeft_eq]
  have : (1#64 : BitVec 64).toNat = 1 := rfl
  rw [this, Nat.one_mul, Nat.mod_eq_of_lt h2]

theorem setWidth_ofNat32 (K : Nat) (hK : K < 2 ^ 32) : BitVec.setWidth 64 (BitVec.ofNat 32 K) = bv K := by
  apply BitVec.eq_of_toNat_eq
  rw [BitVec.toNat_setWidth, BitVec.toNat_ofNat, Nat.mod_eq_of_lt (a := K) (by omega), bv_toNat _ (by omega),
    Nat.mod_eq_of_lt (by omega)]

/-- `c ? q + 1 : q` on 64-bit words (batch count of the passes, widths of the column blocks) -/
theorem bv_succ_if (q : Nat) (c : Prop) [Decidable c] :
    (if decide c = true then bv q + 1#64 else bv q) = bv (q + (if c then 1 else 0)) := by
  by_cases h : c
  · simp only [h, decide_true, if_true]; rw [bv_one, bv_add]
  · simp only [h, decide_false, if_false, Bool.false_eq_true]; rfl

theorem words_bv (NC : Nat) (h : NC * 8 < 2 ^ 64) : (bv NC * 8#64).toNat / 8 = NC := by
  have := words_toNat (bv NC) (by rw [bv_toNat NC (by omega)]; exact h)
  rw [this, bv_toNat NC (by omega)]

theorem toU64_nat (n : Nat) : I32.toU64 (n : Int) = bv n := by
  simp only [I32.toU64, BitVec.ofInt_natCast, bv]

/-- `(u_int64_t)(c ? 1 : 0)`: the two values -/
theorem toU64_int_zero : I32.toU64 (0 : Int) = 0#64 := rfl

theorem toU64_int_one : I32.toU64 (1 : Int) = 1#64 := rfl

/-- `x + (c ? 1 : 0)` is `if (c) x += 1` -/
theorem add_toU64_ite (x : BitVec 64) (c : Prop) [Decidable c] :
    x + I32.toU64 (if c then (1 : Int) else (0 : Int)) = if c then x + 1#64 else x := by
  by_cases h : c
  · rw [if_pos h, if_pos h]; rfl
  · rw [if_neg h, if_neg h, toU64_int_zero, BitVec.add_zero]

theorem ofU64_bv (v : Nat) (h : v < 2 ^ 31) : I32.ofU64 (bv v) = (v : Int) := by
  unfold I32.ofU64
  rw [BitVec.toInt_eq_toNat_cond, BitVec.toNat_setWidth, bv_toNat v (by omega), Nat.mod_eq_of_lt (by omega)]
  rw [if_pos (by omega)]

/-- `1 << t` on `int` does not wrap for t ≤ 30 -/
theorem shl_int (t : Nat) (ht : t ≤ 30) : I32.shl (1 : Int) t = ((2 ^ t : Nat) : Int) := by
  have h : (2 : Nat) ^ t ≤ 2 ^ 30 := Nat.pow_le_pow_right (by omega) ht
  have e : ((2 : Int) ^ t) = (((2 : Nat) ^ t : Nat) : Int) := by norm_cast
  unfold I32.shl I32.wrap
  rw [Int.one_mul, e]
  generalize (2 : Nat) ^ t = n at h ⊢
  have hn : n ≤ 1073741824 := h
  unfold Int.bmod
  have hm : ((n : Int) % ((4294967296 : Nat) : Int)) = (n : Int) := by
    apply Int.emod_eq_of_lt <;> omega
  rw [hm]
  have hlt : (n : Int) < (((4294967296 : Nat) : Int) + 1) / 2 := by omega
  rw [if_pos hlt]

/-- `(u_int64_t)(1 << t)` computed on `int`, t ≤ 30 -/
theorem shl_one (t : Nat) (ht : t ≤ 30) : I32.toU64 (I32.shl (1 : Int) t) = bv (2 ^ t) := by
  rw [shl_int t ht, toU64_nat]

theorem shl_one_sub (t : Nat) (ht : t ≤ 30) : I32.toU64 (I32.shl (1 : Int) t - (1 : Int)) = bv (2 ^ t - 1) := by
  have hp : 0 < 2 ^ t := Nat.pow_pos (by omega)
  have : ((2 ^ t : Nat) : Int) - 1 = ((2 ^ t - 1 : Nat) : Int) := by omega
  rw [shl_int t ht, this, toU64_nat]

theorem setWidth32_bv (n : Nat) (h : n < 2 ^ 32) : (BitVec.setWidth 32 (bv n)).toNat = n := by
  rw [BitVec.toNat_setWidth, bv_toNat _ (by omega)]
  exact Nat.mod_eq_of_lt h

/-- `root(dp, j)` stays inside the table of `2^s` words -/
theorem root_idx_lt (s dp j : Nat) (hdp : dp ≤ s) (hj : j < 2 ^ dp) : j * 2 ^ (s - dp) < 2 ^ s := by
  have h2 : 2 ^ dp * 2 ^ (s - dp) = 2 ^ s := by
    rw [← Nat.pow_add]; congr 1; omega
  rw [← h2]
  exact Nat.mul_lt_mul_of_pos_right hj (Nat.pow_pos (by decide))

theorem root_bv (X : Heap) (self : NTT_Goldilocks) (o : Model.Ntt.Obj) (hrep : ObjRep X self o) (dp j : Nat)
    (hdp : dp ≤ o.s) (hos : o.s ≤ 32) (hj : j < 2 ^ dp) :
    NTT_root X self (BitVec.setWidth 32 (bv dp)) (bv j) = Model.Ntt.root o dp j := by
  have hp : 2 ^ dp ≤ 2 ^ 32 := Nat.pow_le_pow_right (by omega) (by omega)
  have edp := setWidth32_bv dp (by omega)
  have hlt := root_idx_lt o.s dp j hdp hj
  have h3 : 2 ^ o.s ≤ 2 ^ 32 := Nat.pow_le_pow_right (by omega) hos
  have hJ64 : j < 2 ^ 64 := by omega
  rw [root_gen X self o _ _ hrep.roots hrep.roots_off hrep.hs (by rw [edp]; exact hdp)
    (by rw [edp, bv_toNat _ hJ64]; omega), edp, bv_toNat _ hJ64]

theorem twIdx_lt (S si b B RS RE RB i : Nat) (hS : 1 ≤ S) : Model.Ntt.twIdx S si b B RS RE RB i < 2 ^ (S + si) / 2 := by
  show _ % (2 ^ (S + si) / 2) < _
  apply Nat.mod_lt
  have : 2 ^ (S + si) = 2 ^ (S + si - 1) * 2 := by
    rw [← Nat.pow_succ]; congr 1; omega
  rw [this, Nat.mul_div_cancel _ (by omega)]
  exact Nat.pow_pos (by omega)

theorem mr_lt' (x b B nB : Nat) (hx : x < B) (hb : b < nB) : x * nB + b < B * nB :=
  Model.Ntt.mr_lt x b nB B hx hb

theorem inttIdx_lt (i N : Nat) (hi : i < N) : Model.Ntt.inttIdx i N < N := by
  unfold Model.Ntt.inttIdx
  split <;> omega

/-- the destination row of the reflecting copy -/
theorem dsty_eq (x nB b B N : Nat) (hx : x < B) (hb : b < nB) (hN : B * nB = N) (hN30 : N ≤ 2 ^ 30) :
    I32.toU64 (NTT_intt_idx (I32.ofU64 (BitVec.ofNat 64 x * bv nB + BitVec.ofNat 64 b)) (I32.ofU64 (bv N))) =
      bv (Model.Ntt.inttIdx (x * nB + b) N) := by
  have h1 : x * nB + b < N := by rw [← hN]; exact mr_lt' x b B nB hx hb
  show I32.toU64 (NTT_intt_idx (I32.ofU64 (bv x * bv nB + bv b)) (I32.ofU64 (bv N))) = _
  rw [bv_mul, bv_add, ofU64_bv _ (by omega), ofU64_bv _ (by omega), intt_idx_gen _ _ (by omega), toU64_nat]

theorem row_lt (U M i : Nat) (hU : 0 < U) (hi : i < M * U) : i / U * (U * 2) + i % U + U < M * (U * 2) := by
  have hq : i / U < M := Nat.div_lt_of_lt_mul (by rw [Nat.mul_comm]; exact hi)
  have hr : i % U < U := Nat.mod_lt i hU
  have := mul_le_of_lt _ _ (U * 2) hq
  omega

theorem pow_stage (sInc si : Nat) (h : si < sInc) : 2 ^ sInc = 2 ^ (sInc - si - 1) * (2 ^ si * 2) := by
  rw [← Nat.pow_succ, ← Nat.pow_add]; congr 1; omega

/-- rows of butterfly `i` of stage `si` in batch `b` (batches of `2^sInc` rows): both lie in the batch -/
theorem butterfly_rows (N sInc si b i : Nat) (hsi : si < sInc) (hi : i < 2 ^ sInc / 2) (hb : b * 2 ^ sInc + 2 ^ sInc ≤ N) :
    b * 2 ^ sInc + i / 2 ^ si * (2 ^ si * 2) + i % 2 ^ si + 2 ^ si < N := by
  have hU : 0 < 2 ^ si := Nat.pow_pos (by decide)
  have hiM : i < 2 ^ (sInc - si - 1) * 2 ^ si := by
    have : 2 ^ sInc / 2 = 2 ^ (sInc - si - 1) * 2 ^ si := by
      rw [pow_stage sInc si hsi, ← Nat.mul_assoc, Nat.mul_div_cancel _ (by omega)]
    omega
  have hrow := row_lt (2 ^ si) (2 ^ (sInc - si - 1)) i hU hiM
  rw [← pow_stage sInc si hsi] at hrow
  omega

/-- butterfly `i` of stage `S + si` of batch `b` (batches of `B` rows) whose rows lie below `N ≤ 2^30` (`hrow`; `butterfly_rows`
    when `B = 2^sInc`): the operands of the twiddle index `twIdx S si b B RS RE RB i` for any reversal parameters with
    `RB ≤ 2^30`, and the words of the two rows -/
theorem bfly_arith (N NC S si b B RS RE RB i : Nat) (hN30 : N ≤ 2 ^ 30) (hS1 : 1 ≤ S) (hS : S + si ≤ 32) (hRB : RB ≤ 2 ^ 30)
    (hrow : b * B + i / 2 ^ si * (2 ^ si * 2) + i % 2 ^ si + 2 ^ si < N) :
    i < 2 ^ 64 ∧ b * B < 2 ^ 64 ∧ b * B / 2 + i < 2 ^ 64 ∧
    (b * B / 2 + i) % 2 ^ (RE - RS) * RB + (b * B / 2 + i) / 2 ^ (RE - RS) < 2 ^ 64 ∧
    2 ^ (S + si) / 2 < 2 ^ 64 ∧ 0 < 2 ^ (S + si) / 2 ∧ 2 ^ si < 2 ^ 64 ∧
    (b * B + i / 2 ^ si * (2 ^ si * 2) + i % 2 ^ si + 2 ^ si) * NC + NC ≤ N * NC := by
  have hiN : i ≤ N := by
    have h1 := Nat.div_add_mod i (2 ^ si)
    have h2 : i / 2 ^ si * (2 ^ si * 2) = 2 ^ si * (i / 2 ^ si) * 2 := by rw [← Nat.mul_assoc, Nat.mul_comm (i / 2 ^ si)]
    omega
  have hj0 : b * B / 2 + i ≤ 2 ^ 31 := by omega
  have hj1 : (b * B / 2 + i) % 2 ^ (RE - RS) * RB + (b * B / 2 + i) / 2 ^ (RE - RS) < 2 ^ 62 := by
    have h1 : (b * B / 2 + i) % 2 ^ (RE - RS) ≤ 2 ^ 31 := Nat.le_trans (Nat.mod_le _ _) hj0
    have h2 : (b * B / 2 + i) / 2 ^ (RE - RS) ≤ 2 ^ 31 := Nat.le_trans (Nat.div_le_self _ _) hj0
    have h3 : (b * B / 2 + i) % 2 ^ (RE - RS) * RB ≤ 2 ^ 31 * 2 ^ 30 := Nat.mul_le_mul h1 hRB
    omega
  have hp1 : 2 ^ (S + si) < 2 ^ 64 := Nat.pow_lt_pow_right (by omega) (by omega)
  have hhalf : 0 < 2 ^ (S + si) / 2 := by
    have : 2 ^ (S + si) = 2 ^ (S + si - 1) * 2 := by
      rw [← Nat.pow_succ]; congr 1; omega
    rw [this, Nat.mul_div_cancel _ (by omega)]
    exact Nat.pow_pos (by omega)
  exact ⟨by omega, by omega, by omega, by omega, by omega, hhalf, Nat.pow_lt_pow_right (by omega) (by omega),
    mul_le_of_lt _ _ NC hrow⟩

/-- batch `b` of a pass of width `sInc` over `N = 2^K` rows -/
theorem batch_arith (N K sInc b : Nat) (hK : K ≤ 30) (hN : N = 2 ^ K) (hsi : sInc ≤ K) (hb : b < N / 2 ^ sInc) :
    N ≤ 2 ^ 30 ∧ 2 ^ sInc * (N / 2 ^ sInc) = N ∧ b * 2 ^ sInc + 2 ^ sInc ≤ N ∧ 2 ^ sInc < 2 ^ 64 := by
  have hN30 : N ≤ 2 ^ 30 := pow2_le hN hK
  have hBN : 2 ^ sInc * (N / 2 ^ sInc) = N := by
    rw [hN]
    have : 2 ^ K = 2 ^ sInc * 2 ^ (K - sInc) := by rw [← Nat.pow_add]; congr 1; omega
    rw [this, Nat.mul_div_cancel_left _ (Nat.pow_pos (by omega))]
  have hbB := mul_le_of_lt b (N / 2 ^ sInc) (2 ^ sInc) hb
  rw [Nat.mul_comm (N / 2 ^ sInc)] at hbB
  exact ⟨hN30, hBN, by omega, Nat.pow_lt_pow_right (by omega) (by omega)⟩

/-- the rows (of `NC` words) that row `x` of batch `b` is copied between: `B` rows per batch, `nB` batches -/
theorem copy_arith (N NC B nB b x : Nat) (hBN : B * nB = N) (hx : x < B) (hb : b < nB) :
    x * nB + b < N ∧ b * B + x < N ∧ (x * nB + b) * NC + NC ≤ N * NC ∧ (b * B + x) * NC + NC ≤ N * NC ∧
    Model.Ntt.inttIdx (x * nB + b) N < N ∧ Model.Ntt.inttIdx (x * nB + b) N * NC + NC ≤ N * NC := by
  have h1 : x * nB + b < N := by rw [← hBN]; exact mr_lt' x b B nB hx hb
  have h2 : b * B + x < N := by rw [← hBN, Nat.mul_comm B nB]; exact mr_lt' b x nB B hb hx
  have hd := inttIdx_lt _ _ h1
  exact ⟨h1, h2, mul_le_of_lt _ _ NC h1, mul_le_of_lt _ _ NC h2, hd, mul_le_of_lt _ _ NC hd⟩

/-- the column loop of one butterfly: any body that performs the hand model's `bflyStep` on block `A` -/
theorem bfly_loop_g (A o1 o2 nc : Nat) (w : BitVec 64) (X : Heap) (hA : A < X.size)
    (body : Nat → Heap → Option Heap)
    (hbody : ∀ k (Y : Heap), k < nc → A < Y.size →
      body k Y = some (Y.setBlock A (Model.Ntt.bflyStep w o1 o2 k (Y.block A)))) :
    Loop.rangeM 0 nc 1 X body = some (X.setBlock A (Model.Ntt.bfly (X.block A) w o1 o2 nc)) := by
  rw [Heap.rangeM_block X A hA (Model.Ntt.bflyStep w o1 o2) _ 0 nc
    (fun k Y _ hk hs _ => hbody k Y hk (by omega))]
  rfl

/-- a counted loop that changes block `A` only, as the function `f` of its content, and may read the object's tables:
    every state it reaches still represents the object -/
theorem block_loop_g (X : Heap) (self : NTT_Goldilocks) (o : Model.Ntt.Obj) (A : Nat) (hA : A < X.size)
    (hrep : ObjRep X self o) (hfr : ObjFrame self A) (n : Nat) (f : Nat → Block → Block)
    (body : Nat → Heap → Option Heap)
    (hbody : ∀ i (Y : Heap), i < n → A < Y.size → ObjRep Y self o → body i Y = some (Y.setBlock A (f i (Y.block A)))) :
    Loop.rangeM 0 n 1 X body = some (X.setBlock A (Model.Ntt.iter n (X.block A) f)) := by
  rw [Heap.rangeM_block X A hA f _ 0 n
    (fun i Y _ hi hs hY => hbody i Y hi (by omega) (hrep.frame1 hfr hY))]
  rfl

/-- a scaled row = the hand model's `scaleRow`, for any loop body that multiplies one element by the factor `f`
    (however the body obtains `f`: read through a pointer in every iteration, or hoisted into a local) -/
theorem scaleRow_g (H : Heap) (A A2 : Nat) (f : BitVec 64) (dY sO NC : Nat) (s : Block × Block)
    (body : Nat → Heap → Option Heap)
    (hbody : ∀ k (P2 : Block), k < NC → body k (Heap.R2 H A A2 (s.1, P2)) =
      some (Heap.R2 H A A2 (s.1, P2.setIfInBounds (dY + k) (Gen.Scalar.mul__eEE (s.1.getD (sO + k) 0#64) f)))) :
    Loop.rangeM 0 NC 1 (Heap.R2 H A A2 s) body =
      some (Heap.R2 H A A2 (s.1, Model.Ntt.scaleRow s.2 s.1 dY sO NC f)) :=
  Loop.rangeM_rep (R := fun P2 => Heap.R2 H A A2 (s.1, P2))
    (f := fun k P2 => P2.setIfInBounds (dY + k) (Gen.Scalar.mul__eEE (s.1.getD (sO + k) 0#64) f)) body 0 NC
    (fun k P2 _ hk => hbody k P2 hk) s.2

/-- a loop over the rows of a batch that writes the second buffer only: any body that maps the second buffer by `g x` -/
theorem snd_loop_g (H : Heap) (A A2 : Nat) (n : Nat) (g : Nat → Block → Block) (s : Block × Block)
    (body : Nat → Heap → Option Heap)
    (hbody : ∀ x (P2 : Block), x < n → body x (Heap.R2 H A A2 (s.1, P2)) = some (Heap.R2 H A A2 (s.1, g x P2))) :
    Loop.rangeM 0 n 1 (Heap.R2 H A A2 s) body = some (Heap.R2 H A A2 (s.1, Model.Ntt.iter n s.2 g)) :=
  Loop.rangeM_rep (R := fun P2 => Heap.R2 H A A2 (s.1, P2)) (f := g) body 0 n (fun x P2 _ hx => hbody x P2 hx) s.2

/-- `maxBatchPow` of the pass with counter `count` (`if (res > 0 && count == res + 1 && maxBatchPow > 1) maxBatchPow -= 1`);
    `stepInc`: its width `sInc` -/
def stepMbp (res count mbp : Nat) : Nat := if res > 0 ∧ count = res + 1 ∧ mbp > 1 then mbp - 1 else mbp

def stepInc (K s mbp' : Nat) : Nat := if s + mbp' ≤ K then mbp' else K - s + 1

theorem stepMbp_range (res count mbp : Nat) (hm1 : 1 ≤ mbp) (hm : mbp ≤ 64) :
    1 ≤ stepMbp res count mbp ∧ stepMbp res count mbp ≤ 64 := by
  unfold stepMbp
  split <;> omega

theorem go_acc (d r : Nat) : ∀ (fuel s c m : Nat) (acc : List (Nat × Nat)),
    Model.Ntt.schedule.go d r fuel s c m acc = acc.reverse ++ Model.Ntt.schedule.go d r fuel s c m [] := by
  intro fuel
  induction fuel with
  | zero =>
    intro s c m acc
    rw [Model.Ntt.schedule.go, Model.Ntt.schedule.go]; simp
  | succ f ih =>
    intro s c m acc
    rw [Model.Ntt.sched_go_succ, Model.Ntt.sched_go_succ]
    by_cases h1 : s > d
    · rw [if_pos h1, if_pos h1]; simp
    · rw [if_neg h1, if_neg h1]
      dsimp only
      by_cases h2 : (if r > 0 ∧ c = r + 1 ∧ m > 1 then m - 1 else m) = 0
      · rw [if_pos h2, if_pos h2]; simp
      · rw [if_neg h2, if_neg h2, ih _ _ _ (_ :: acc), ih _ _ _ [_]]
        simp

theorem lastInv_eq (s mbp' K : Nat) (inverse : Bool) (hsK : s ≤ K) :
    (!decide (s + stepInc K s mbp' ≤ K) && inverse) = !(decide (s + mbp' ≤ K) || !inverse) := by
  unfold stepInc
  by_cases h : s + mbp' ≤ K
  · rw [if_pos h]; simp [h]
  · rw [if_neg h]
    have : ¬ (s + (K - s + 1) ≤ K) := by omega
    simp [h, this]

/-- the schedule arithmetic of one iteration of the pass loop on 64-bit words (used by `nttIters_gen` and by the in-bounds proof of the pass loop) -/
theorem sched_arith (N K res mbp s count : Nat) (hK : K ≤ 30) (hN : N = 2 ^ K) (hs1 : 1 ≤ s) (hsK : s ≤ K) (hm1 : 1 ≤ mbp)
    (hm : mbp ≤ 64) (hres : res ≤ 64) (hcount : count ≤ 128) :
    (if ((decide (bv res > 0#64) && (bv count == bv res + 1#64)) && decide (bv mbp > 1#64)) = true
      then bv mbp - 1#64 else bv mbp) = bv (stepMbp res count mbp) ∧
    (if decide (bv s + bv (stepMbp res count mbp) ≤ bv K) = true then bv (stepMbp res count mbp) else bv K - bv s + 1#64) =
      bv (stepInc K s (stepMbp res count mbp)) ∧
    bv s - 1#64 = bv (s - 1) ∧ bv K - 1#64 = bv (K - 1) ∧
    I32.toU64 (I32.shl (1 : Int) (bv (s - 1)).toNat) = bv (2 ^ (s - 1)) ∧
    I32.toU64 (I32.shl (1 : Int) (bv (K - 1) - bv (s - 1)).toNat - (1 : Int)) = bv (2 ^ (K - s) - 1) ∧
    I32.toU64 (I32.shl (1 : Int) (bv (stepInc K s (stepMbp res count mbp))).toNat) = bv (2 ^ stepInc K s (stepMbp res count mbp)) ∧
    bv N / bv (2 ^ stepInc K s (stepMbp res count mbp)) = bv (N / 2 ^ stepInc K s (stepMbp res count mbp)) ∧
    (bv (N / 2 ^ stepInc K s (stepMbp res count mbp))).toNat = N / 2 ^ stepInc K s (stepMbp res count mbp) ∧
    decide (bv s ≤ bv K) = true ∧
    (1 ≤ stepMbp res count mbp ∧ stepMbp res count mbp ≤ 64) ∧
    (s + stepInc K s (stepMbp res count mbp) ≤ K + 1 ∧ stepInc K s (stepMbp res count mbp) ≤ K) := by
  have hN30 : N ≤ 2 ^ 30 := pow2_le hN hK
  have hmbp' : (if ((decide (bv res > 0#64) && (bv count == bv res + 1#64)) && decide (bv mbp > 1#64)) = true
      then bv mbp - 1#64 else bv mbp) = bv (stepMbp res count mbp) := by
    have c1 : decide (bv res > 0#64) = decide (res > 0) := decide_lt_bv 0 res (by omega) (by omega)
    have c2 : (bv count == bv res + 1#64) = decide (count = res + 1) := by
      rw [bv_one, bv_add, beq_bv _ _ (by omega) (by omega)]
    have c3 : decide (bv mbp > 1#64) = decide (mbp > 1) := decide_lt_bv 1 mbp (by omega) (by omega)
    rw [c1, c2, c3]
    unfold stepMbp
    by_cases h : res > 0 ∧ count = res + 1 ∧ mbp > 1
    · rw [if_pos h]
      obtain ⟨h1, h2, h3⟩ := h
      simp only [h1, h2, h3, decide_true, Bool.and_self, if_true]
      rw [bv_one, bv_sub _ _ (by omega) (by omega)]
    · rw [if_neg h]
      have : ((decide (res > 0) && decide (count = res + 1)) && decide (mbp > 1)) = false := by
        rw [Bool.and_eq_false_iff, Bool.and_eq_false_iff]
        by_cases h1 : res > 0
        · by_cases h2 : count = res + 1
          · right; simp; exact Nat.le_of_not_lt (fun h3 => h ⟨h1, h2, h3⟩)
          · left; right; simp [h2]
        · left; left; simp [h1]
      rw [this]; simp
  have hm'1 := stepMbp_range res count mbp hm1 hm
  refine ⟨hmbp', ?_⟩
  generalize stepMbp res count mbp = mbp' at hm'1 ⊢
  have hcs : decide (bv s + bv mbp' ≤ bv K) = decide (s + mbp' ≤ K) := by
    rw [bv_add, decide_eq_decide, le_bv _ _ (by omega) (by omega)]
  have hsInc : (if decide (bv s + bv mbp' ≤ bv K) = true then bv mbp' else bv K - bv s + 1#64) = bv (stepInc K s mbp') := by
    rw [hcs]
    unfold stepInc
    by_cases h : s + mbp' ≤ K
    · simp only [h, decide_true, if_true]
    · simp only [h, decide_false, if_false, Bool.false_eq_true]
      rw [bv_sub _ _ hsK (by omega), bv_one, bv_add]
  have hsInc1 : s + stepInc K s mbp' ≤ K + 1 ∧ stepInc K s mbp' ≤ K := by
    unfold stepInc
    by_cases h : s + mbp' ≤ K
    · rw [if_pos h]; omega
    · rw [if_neg h]; omega
  refine ⟨hsInc, ?_⟩
  generalize stepInc K s mbp' = sInc at hsInc1 ⊢
  have hrs : bv s - 1#64 = bv (s - 1) := by rw [bv_one, bv_sub _ _ hs1 (by omega)]
  have hre : bv K - 1#64 = bv (K - 1) := by rw [bv_one, bv_sub _ _ (by omega) (by omega)]
  have hrb : I32.toU64 (I32.shl (1 : Int) (bv (s - 1)).toNat) = bv (2 ^ (s - 1)) := by
    rw [bv_toNat _ (by omega), shl_one _ (by omega)]
  have hrm : I32.toU64 (I32.shl (1 : Int) (bv (K - 1) - bv (s - 1)).toNat - (1 : Int)) = bv (2 ^ (K - s) - 1) := by
    rw [bv_sub _ _ (by omega) (by omega), bv_toNat _ (by omega)]
    have : K - 1 - (s - 1) = K - s := by omega
    rw [this, shl_one_sub _ (by omega)]
  have hbs : I32.toU64 (I32.shl (1 : Int) (bv sInc).toNat) = bv (2 ^ sInc) := by
    rw [bv_toNat _ (by omega), shl_one _ (by omega)]
  have h2s : 2 ^ sInc ≤ N := by rw [hN]; exact Nat.pow_le_pow_right (by omega) hsInc1.2
  have hnb : bv N / bv (2 ^ sInc) = bv (N / 2 ^ sInc) := bv_div _ _ (by omega) (by omega)
  have hnbN : (bv (N / 2 ^ sInc)).toNat = N / 2 ^ sInc :=
    bv_toNat _ (Nat.lt_of_le_of_lt (Nat.div_le_self _ _) (by omega))
  have hle : decide (bv s ≤ bv K) = true := by
    rw [decide_eq_true_eq, le_bv _ _ (by omega) (by omega)]; exact hsK
  exact ⟨hrs, hre, hrb, hrm, hbs, hnb, hnbN, hle, hm'1, hsInc1⟩

/-- the state of the translated pass loop: (maxBatchPow, heap, tmp, a2, a, s, count) -/
abbrev PassSt := BitVec 64 × Heap × Ptr × Ptr × Ptr × BitVec 64 × BitVec 64

section passes
variable (H : Heap) (self : NTT_Goldilocks) (o : Model.Ntt.Obj)
variable (N NC K res : Nat) (inverse extend : Bool) (hK : K ≤ 30)
variable (step : PassSt → Option (Bool × PassSt))
variable (hstep : ∀ (A A2 : Nat), A ≠ A2 → A < H.size → A2 < H.size → ObjFrame self A → ObjFrame self A2 →
    ∀ (mbp s count : Nat), 1 ≤ s → s ≤ K → 1 ≤ mbp → mbp ≤ 64 → count ≤ 128 → ∀ (tmp : Ptr) (st : Block × Block),
    step (bv mbp, Heap.R2 H A A2 st, tmp, ⟨A2, 0⟩, ⟨A, 0⟩, bv s, bv count) =
      some (true, (bv (stepMbp res count mbp),
        Heap.R2 H A A2 (Model.Ntt.iter (N / 2 ^ stepInc K s (stepMbp res count mbp)) st
          (Model.Ntt.passBatch o N K NC s (stepInc K s (stepMbp res count mbp))
            (!(decide (s + stepMbp res count mbp ≤ K) || !inverse)) extend)),
        ⟨A2, 0⟩, ⟨A, 0⟩, ⟨A2, 0⟩, bv (s + stepMbp res count mbp), bv (count + 1))))
variable (hstop : ∀ (mbp s count : Nat), K < s → s < 2 ^ 64 → ∀ (hp : Heap) (tmp a2 a : Ptr),
    step (bv mbp, hp, tmp, a2, a, bv s, bv count) = some (false, (bv mbp, hp, tmp, a2, a, bv s, bv count)))

include hK hstep hstop in
/-- **the pass loop** = the fold of the hand model's `pass` over the rest of the schedule; the pointers `a`, `a2` end up
    swapped iff the flag of the model is flipped -/
theorem passes_g : ∀ (gf : Nat) (A A2 : Nat), A ≠ A2 → A < H.size → A2 < H.size → ObjFrame self A →
    ObjFrame self A2 → ∀ (mbp s count : Nat) (flag : Bool) (tmp : Ptr) (st : Block × Block) (F : Nat),
    K + 1 - s ≤ gf → gf < F → 1 ≤ s → s ≤ K + 65 → 1 ≤ mbp → mbp ≤ 64 → count + gf ≤ 128 →
    ∃ (A' A2' : Nat) (tmp' : Ptr) (m' s' c' : Nat),
      Loop.whileM step F
          (bv mbp, Heap.R2 H A A2 st, tmp, ⟨A2, 0⟩, ⟨A, 0⟩, bv s, bv count) =
        some (bv m', Heap.R2 H A' A2'
          (((Model.Ntt.schedule.go K res gf s count mbp []).foldl (Model.Ntt.pass o N K NC inverse extend) (st.1, st.2, flag)).1,
           ((Model.Ntt.schedule.go K res gf s count mbp []).foldl (Model.Ntt.pass o N K NC inverse extend) (st.1, st.2, flag)).2.1),
          tmp', ⟨A2', 0⟩, ⟨A', 0⟩, bv s', bv c') ∧
      ((((Model.Ntt.schedule.go K res gf s count mbp []).foldl (Model.Ntt.pass o N K NC inverse extend) (st.1, st.2, flag)).2.2 = flag
          ∧ A' = A ∧ A2' = A2) ∨
       (((Model.Ntt.schedule.go K res gf s count mbp []).foldl (Model.Ntt.pass o N K NC inverse extend) (st.1, st.2, flag)).2.2 = !flag
          ∧ A' = A2 ∧ A2' = A)) := by
  intro gf
  induction gf with
  | zero =>
    intro A A2 hne hA hA2 hfr hfr2 mbp s count flag tmp st F h1 h2 hs1 hs65 hm1 hm hc
    obtain ⟨F', rfl⟩ : ∃ F', F = F' + 1 := ⟨F - 1, by omega⟩
    refine ⟨A, A2, tmp, mbp, s, count, ?_, Or.inl ⟨?_, rfl, rfl⟩⟩
    · rw [Loop.whileM_stop _ _ _ _ (hstop mbp s count (by omega) (by omega) _ _ _ _)]
      rw [Model.Ntt.schedule.go]
      rfl
    · rw [Model.Ntt.schedule.go]; rfl
  | succ gf ih =>
    intro A A2 hne hA hA2 hfr hfr2 mbp s count flag tmp st F h1 h2 hs1 hs65 hm1 hm hc
    obtain ⟨F', rfl⟩ : ∃ F', F = F' + 1 := ⟨F - 1, by omega⟩
    by_cases hsK : K < s
    · refine ⟨A, A2, tmp, mbp, s, count, ?_, Or.inl ⟨?_, rfl, rfl⟩⟩
      · rw [Loop.whileM_stop _ _ _ _ (hstop mbp s count hsK (by omega) _ _ _ _)]
        rw [Model.Ntt.sched_go_done _ _ _ _ _ _ _ hsK]
        rfl
      · rw [Model.Ntt.sched_go_done _ _ _ _ _ _ _ hsK]; rfl
    · have hsK' : s ≤ K := by omega
      have hstep := hstep A A2 hne hA hA2 hfr hfr2 mbp s count hs1 hsK' hm1 hm (by omega) tmp st
      have hmb := stepMbp_range res count mbp hm1 hm
      -- the hand model's schedule makes the same step
      have hgo : Model.Ntt.schedule.go K res (gf + 1) s count mbp [] =
          (s, stepInc K s (stepMbp res count mbp)) ::
            Model.Ntt.schedule.go K res gf (s + stepMbp res count mbp) (count + 1) (stepMbp res count mbp) [] := by
        rw [Model.Ntt.sched_go_succ, if_neg (by omega)]
        dsimp only
        have e1 : (if res > 0 ∧ count = res + 1 ∧ mbp > 1 then mbp - 1 else mbp) = stepMbp res count mbp := rfl
        rw [e1, if_neg (by omega), go_acc]
        rfl
      rw [hgo, List.foldl_cons]
      have hpass : Model.Ntt.pass o N K NC inverse extend (st.1, st.2, flag) (s, stepInc K s (stepMbp res count mbp)) =
          ((Model.Ntt.iter (N / 2 ^ stepInc K s (stepMbp res count mbp)) st
            (Model.Ntt.passBatch o N K NC s (stepInc K s (stepMbp res count mbp))
              (!(decide (s + stepMbp res count mbp ≤ K) || !inverse)) extend)).2,
           (Model.Ntt.iter (N / 2 ^ stepInc K s (stepMbp res count mbp)) st
            (Model.Ntt.passBatch o N K NC s (stepInc K s (stepMbp res count mbp))
              (!(decide (s + stepMbp res count mbp ≤ K) || !inverse)) extend)).1, !flag) := by
        unfold Model.Ntt.pass
        dsimp only
        rw [lastInv_eq s _ K inverse hsK']
      rw [hpass]
      generalize Model.Ntt.iter (N / 2 ^ stepInc K s (stepMbp res count mbp)) st
            (Model.Ntt.passBatch o N K NC s (stepInc K s (stepMbp res count mbp))
              (!(decide (s + stepMbp res count mbp ≤ K) || !inverse)) extend) = r at hstep ⊢
      obtain ⟨A', A2', tmp', m', s', c', hw, hd⟩ := ih A2 A (fun e => hne e.symm) hA2 hA hfr2 hfr (stepMbp res count mbp)
        (s + stepMbp res count mbp) (count + 1) (!flag) ⟨A2, 0⟩ (r.2, r.1) F' (by omega) (by omega) (by omega) (by omega)
        hmb.1 hmb.2 (by omega)
      refine ⟨A', A2', tmp', m', s', c', ?_, ?_⟩
      · rw [Loop.whileM_next _ _ _ _ hstep]
        have : Heap.R2 H A A2 r = Heap.R2 H A2 A (r.2, r.1) := Heap.R2_swap H A A2 hne r.1 r.2
        rw [this]
        exact hw
      · rcases hd with ⟨e, ea, eb⟩ | ⟨e, ea, eb⟩
        · exact Or.inr ⟨e, ea, eb⟩
        · exact Or.inl ⟨by rw [e]; simp, ea, eb⟩

end passes

end GoldilocksVerif.BridgeNtt
