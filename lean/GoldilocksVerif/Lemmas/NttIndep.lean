/-
  The result of the hand model's `nttIters` (Model/Ntt.lean) does not depend on what the scratch buffer `aux` (and, when the
  destination is another buffer than the source, the destination buffer) held before the call — BIT FOR BIT, not only as field
  elements: every word of the first `size * ncols` words of both ping-pong buffers is written before it is read.

  Relational proof: two runs on buffers that agree on a set `P` of positions (`Ag n P x y`: both buffers have at least `n`
  words and hold the same word at every position of `P`).  The bit reversal (not in place) writes every row of its
  destination; the butterflies of a pass read and write positions `< n` of `a`; the transposing / reflecting copy of a pass
  writes every row of `a2` from rows of `a`.

  Used by Lemmas/BridgeNttBlocks.lean (the generated column-block loop reuses a dirty scratch block and a dirty temporary
  destination; the hand model takes zero-filled ones) and Lemmas/BridgeNttBufEq.lean (caller scratch buffer, `extendPol`).
  About the hand model only; no statement about the generated code here.
-/
import GoldilocksVerif.Lemmas.NttSizes
import GoldilocksVerif.Lemmas.NttSched
import GoldilocksVerif.Lemmas.NttIters
import GoldilocksVerif.Lemmas.NttEasy
import GoldilocksVerif.Lemmas.NttParBatch
import GoldilocksVerif.Lemmas.NttParRev

namespace GoldilocksVerif.Model.Ntt
open GoldilocksVerif.Par

structure Ag (n : Nat) (P : Nat → Prop) (x y : Buf) : Prop where
  sx : n ≤ x.size
  sy : n ≤ y.size
  eq : ∀ i, P i → x.getD i 0#64 = y.getD i 0#64

theorem Ag.mono {n : Nat} {P Q : Nat → Prop} {x y : Buf} (h : Ag n P x y) (hq : ∀ i, Q i → P i) : Ag n Q x y :=
  ⟨h.sx, h.sy, fun i hi => h.eq i (hq i hi)⟩

theorem Ag.refl (n : Nat) (P : Nat → Prop) (x : Buf) (h : n ≤ x.size) : Ag n P x x := ⟨h, h, fun _ _ => rfl⟩

theorem Ag.eq_of_all {n : Nat} {P : Nat → Prop} {x y : Buf} (h : Ag n P x y) (hP : ∀ i, P i) (hs : x.size = y.size) : x = y :=
  buf_ext x y hs (fun j _ => h.eq j (hP j))

/-- a step local to words below `n` on which the two runs agree keeps every agreement -/
theorem Ag.local {n : Nat} {P : Nat → Prop} {a a' : Buf} (h : Ag n P a a') {f : Buf → Buf} {X : Nat → Prop} (hf : LocalB f X)
    (hX : ∀ j, X j → j < n ∧ P j) : Ag n P (f a) (f a') := by
  refine ⟨by rw [hf.size]; exact h.sx, by rw [hf.size]; exact h.sy, fun i hi => ?_⟩
  by_cases hx : X i
  · exact hf.dep a a' (.of_le (fun j hj => (hX j hj).1) h.sx h.sy) (fun j hj => h.eq j (hX j hj).2) i hx
  · rw [hf.frame a i hx, hf.frame a' i hx]; exact h.eq i hi

/-- a writer whose sources agree on what it reads adds the words it writes (all below `n`) to the agreement of the destinations -/
theorem Ag.writer {n : Nat} {Q : Nat → Prop} {d d' : Buf} (h : Ag n Q d d') {g : Buf → Buf → Buf} {Rd Wr : Nat → Prop}
    (hg : Writer g Rd Wr) (hW : ∀ j, Wr j → j < n) {s s' : Buf} (hsrc : Agree Rd s s') :
    Ag n (fun i => Q i ∨ Wr i) (g s d) (g s' d') := by
  refine ⟨by rw [hg.size]; exact h.sx, by rw [hg.size]; exact h.sy, fun i hi => ?_⟩
  by_cases hw : Wr i
  · exact hg.dep s s' d d' (.of_le hW h.sx h.sy) hsrc i hw
  · rw [hg.frame s d i hw, hg.frame s' d' i hw]; exact h.eq i (hi.resolve_right hw)

theorem iter_rel {σ : Type} (R : Nat → σ → σ → Prop) (m : Nat) (s s' : σ) (f g : Nat → σ → σ) (h0 : R 0 s s')
    (hs : ∀ k, k < m → ∀ t t', R k t t' → R (k + 1) (f k t) (g k t')) : R m (iter m s f) (iter m s' g) := by
  induction m with
  | zero => exact h0
  | succ m ih =>
    rw [iter_succ, iter_succ]
    exact hs m (by omega) _ _ (ih (fun k hk => hs k (by omega)))

theorem rowsW_lt {nc N : Nat} {P : Nat → Prop} {j : Nat} (h : rowsW nc P j) (hP : ∀ r, P r → r < N) : j < N * nc := by
  obtain ⟨r, hr, _, _⟩ := h
  have := row_fit nc N r (hP r hr)
  omega

theorem rowsW_of_lt (nc N i : Nat) (hi : i < N * nc) : rowsW nc (fun r => r < N) i := by
  have hnc : 0 < nc := Nat.pos_of_ne_zero (fun h => by subst h; simp at hi)
  have := Nat.div_add_mod i nc
  have := Nat.mod_lt i hnc
  exact ⟨i / nc, Nat.div_lt_of_lt_mul (by rw [Nat.mul_comm]; exact hi), by rw [Nat.mul_comm]; omega, by rw [Nat.mul_comm]; omega⟩

theorem batchRows_lt {B nB b r : Nat} (hb : b < nB) (h : batchRows B b r) : r < B * nB :=
  Nat.lt_of_lt_of_le h.2 (by rw [Nat.mul_comm B]; exact Nat.mul_le_mul_right _ hb)

theorem copyRows_lt {σ : Nat → Nat} {B nB b r : Nat} (hσ : ∀ q, q < B * nB → σ q < B * nB) (hb : b < nB)
    (h : copyRows σ B nB b r) : r < B * nB := by
  obtain ⟨x, hx, rfl⟩ := h
  exact hσ _ (mr_lt x b nB B hx hb)

/-- the rows written by the copies of all batches of a pass are all rows -/
theorem copyRows_cover {σ : Nat → Nat} {B nB : Nat} (hσ : ∀ r, r < B * nB → ∃ q, q < B * nB ∧ σ q = r) (nc i : Nat)
    (hi : i < B * nB * nc) : ∃ b, b < nB ∧ rowsW nc (copyRows σ B nB b) i := by
  obtain ⟨r, hr, h1, h2⟩ := rowsW_of_lt nc _ i hi
  obtain ⟨q, hq, rfl⟩ := hσ r hr
  have hnB : 0 < nB := Nat.pos_of_ne_zero (fun h => by subst h; simp at hq)
  exact ⟨q % nB, Nat.mod_lt _ hnB, _, ⟨q / nB, Nat.div_lt_of_lt_mul (by rw [Nat.mul_comm]; exact hq),
    by rw [Nat.div_add_mod']⟩, h1, h2⟩

theorem Ag.pass {n : Nat} {P Q : Nat → Prop} {a a' a2 a2' : Buf} (ha : Ag n P a a') (h2 : Ag n Q a2 a2')
    (hP : ∀ i, i < n → P i) (o : Obj) (d nc : Nat) (inverse extend flag : Bool) (s c : Nat) (hc : c ≤ d) (hn : n = 2 ^ d * nc) :
    Ag n (fun i => Q i ∨ i < n) (pass o (2 ^ d) d nc inverse extend (a, a2, flag) (s, c)).1
        (pass o (2 ^ d) d nc inverse extend (a', a2', flag) (s, c)).1 ∧
    Ag n P (pass o (2 ^ d) d nc inverse extend (a, a2, flag) (s, c)).2.1
        (pass o (2 ^ d) d nc inverse extend (a', a2', flag) (s, c)).2.1 ∧
    (pass o (2 ^ d) d nc inverse extend (a, a2, flag) (s, c)).2.2 = !flag ∧
    (pass o (2 ^ d) d nc inverse extend (a', a2', flag) (s, c)).2.2 = !flag := by
  have hdiv : 2 ^ d / 2 ^ c = 2 ^ (d - c) := Nat.pow_div hc (by omega)
  have hN : 2 ^ c * 2 ^ (d - c) = 2 ^ d := by rw [← Nat.pow_add]; congr 1; omega
  subst hn
  unfold Model.Ntt.pass
  dsimp only
  generalize (!decide (s + c ≤ d) && inverse) = li
  -- every batch: the stages are local to its rows of `a`, the copy writes its rows of `a2` from them
  have key := iter_rel (fun k (x y : Buf × Buf) => Ag (2 ^ d * nc) P x.1 y.1 ∧
      Ag (2 ^ d * nc) (fun i => Q i ∨ ∃ b, b < k ∧ rowsW nc (copyRows (passSigma (2 ^ d) li) (2 ^ c) (2 ^ d / 2 ^ c) b) i) x.2 y.2)
    (2 ^ d / 2 ^ c) (a, a2) (a', a2') (passBatch o (2 ^ d) d nc s c li extend) (passBatch o (2 ^ d) d nc s c li extend)
    ⟨ha, h2.mono (fun i hi => hi.elim id (fun ⟨b, hb, _⟩ => absurd hb (Nat.not_lt_zero b)))⟩
    (fun k hk t t' ⟨t1, t2⟩ => by
      rw [passBatch_split, passBatch_split]
      rw [hdiv] at hk
      have hrows : ∀ j, rowsW nc (batchRows (2 ^ c) k) j → j < 2 ^ d * nc :=
        fun j hj => hN ▸ rowsW_lt hj (fun r hr => batchRows_lt hk hr)
      have hst := t1.local (batchStages_local o s c k nc (s - 1) (d - 1) (2 ^ (s - 1)) (2 ^ (d - 1 - (s - 1)) - 1)) (fun j hj => ⟨hrows j hj, hP j (hrows j hj)⟩)
      refine ⟨hst, (t2.writer (batchG_writer o (2 ^ d) d nc c li extend k) (fun j hj => ?_)
        (fun j hj => hst.eq j (hP j (hrows j hj)))).mono (fun i hi => ?_)⟩
      · rw [hdiv] at hj
        exact hN ▸ rowsW_lt hj (fun r hr => copyRows_lt (fun q hq => hN ▸ passSigma_lt _ li q (hN ▸ hq)) hk hr)
      · rcases hi with hi | ⟨b, hb, hr⟩
        · exact Or.inl (Or.inl hi)
        · by_cases hbk : b = k
          · subst hbk; exact Or.inr hr
          · exact Or.inl (Or.inr ⟨b, by omega, hr⟩))
  refine ⟨key.2.mono (fun i hi => hi.imp id (fun hi => ?_)), key.1, rfl, rfl⟩
  rw [hdiv]
  exact copyRows_cover (fun r hr => hN ▸ passSigma_onto _ li r (hN ▸ hr)) nc i (by rw [hN]; exact hi)

theorem rp_indep (o : Obj) {n : Nat} {Q : Nat → Prop} {x x' : Buf} (h : Ag n Q x x') (src : Buf) (size oc nc nca : Nat)
    (hn : n = size * nc) :
    ∃ t t', reversePermutation o x src false size oc nc nca = .ok t ∧
      reversePermutation o x' src false size oc nc nca = .ok t' ∧ Ag n (fun i => Q i ∨ i < n) t t' := by
  subst hn
  rw [reversePermutation_out_eq, reversePermutation_out_eq]
  refine ⟨_, _, rfl, rfl, ?_⟩
  -- every row `i < size` of the destination is written, from the source only
  have hw := Writer.iter (Rd := fun _ => True) size (fun i s d => revOutBody o size oc nc nca i s d) _
    (fun i _ => (revOutBody_writer o size oc nc nca i).monoR (fun _ _ => trivial))
  refine (h.writer hw (fun j ⟨i, hi, _, hj⟩ => ?_) (fun _ _ => rfl)).mono (fun i hi => hi.imp id (fun hi => ?_))
  · have := row_fit nc size i hi
    omega
  · obtain ⟨r, hr, h1, h2⟩ := rowsW_of_lt nc size i hi
    exact ⟨r, hr, h1, h2⟩

/-- the invariant of the pass loop for two runs: the buffer that designates the destination agrees on `DP` (and on the first
    `n` words once it holds the data), the other one on the first `n` words when it holds the data -/
@[reducible] def PInv (n : Nat) (DP : Nat → Prop) (st st' : Buf × Buf × Bool) : Prop :=
  st.2.2 = st'.2.2 ∧
  (st.2.2 = true → Ag n (fun i => DP i ∨ i < n) st.1 st'.1 ∧ Ag n (fun _ => False) st.2.1 st'.2.1) ∧
  (st.2.2 = false → Ag n (fun i => i < n) st.1 st'.1 ∧ Ag n DP st.2.1 st'.2.1)

theorem foldl_indep (o : Obj) (d nc : Nat) (inverse extend : Bool) (n : Nat) (hn : n = 2 ^ d * nc) (DP : Nat → Prop) :
    ∀ (L : List (Nat × Nat)) (s0 : Nat), 1 ≤ s0 → SchedOk d s0 L → ∀ st st', PInv n DP st st' →
      PInv n DP (L.foldl (pass o (2 ^ d) d nc inverse extend) st) (L.foldl (pass o (2 ^ d) d nc inverse extend) st') := by
  intro L
  induction L with
  | nil => intro _ _ _ st st' h; exact h
  | cons p L ih =>
    intro s0 hs0 hok st st' h
    obtain ⟨s, c⟩ := p
    obtain ⟨e, hc1, hsc, hrest⟩ := hok
    rw [List.foldl_cons, List.foldl_cons]
    apply ih (s + c) (by omega) hrest
    obtain ⟨a, a2, flag⟩ := st
    obtain ⟨a', a2', flag'⟩ := st'
    obtain ⟨hf, ht, hff⟩ := h
    simp only at hf ht hff
    subst hf
    cases flag with
    | true =>
      obtain ⟨h1, h2⟩ := ht rfl
      obtain ⟨p1, p2, p3, p4⟩ := h1.pass h2 (fun i hi => Or.inr hi) o d nc inverse extend true s c (by omega) hn
      refine ⟨by rw [p3, p4], fun hh => ?_, fun _ => ⟨p1.mono (fun i hi => Or.inr hi), p2.mono (fun i hi => Or.inl hi)⟩⟩
      rw [p3] at hh; cases hh
    | false =>
      obtain ⟨h1, h2⟩ := hff rfl
      obtain ⟨p1, p2, p3, p4⟩ := h1.pass h2 (fun i hi => hi) o d nc inverse extend false s c (by omega) hn
      refine ⟨by rw [p3, p4], fun _ => ⟨p1, p2.mono (fun i hi => absurd hi id)⟩, fun hh => ?_⟩
      rw [p3] at hh; cases hh

theorem itersTail_indep (o : Obj) (srcB : Buf) (dis : Bool) (d nc np : Nat) (inverse extend : Bool) (DP : Nat → Prop)
    (hnp1 : 1 ≤ np) (hnp2 : 1 ≤ d → np ≤ d) (hnp3 : d = 0 → np = 1) (st st' : Buf × Buf × Bool)
    (hinv : PInv (2 ^ d * nc) DP st st') :
    (∃ r r', itersTail o srcB dis d nc np inverse extend st = .ok (r, if dis then r else srcB) ∧
        itersTail o srcB dis d nc np inverse extend st' = .ok (r', if dis then r' else srcB) ∧
        Ag (2 ^ d * nc) (fun i => DP i ∨ i < 2 ^ d * nc) r r') ∨
    (∃ e, itersTail o srcB dis d nc np inverse extend st = .error e ∧
        itersTail o srcB dis d nc np inverse extend st' = .error e) := by
  have hfold : PInv (2 ^ d * nc) DP ((schedule d np).foldl (pass o (2 ^ d) d nc inverse extend) st)
      ((schedule d np).foldl (pass o (2 ^ d) d nc inverse extend) st') := by
    rcases Nat.eq_zero_or_pos d with hd0 | hd1
    · subst hd0
      rw [hnp3 rfl, schedule_zero]
      exact hinv
    · exact foldl_indep o d nc inverse extend _ rfl DP _ 1 (Nat.le_refl _) (schedule_ok d np hnp1 (hnp2 hd1)).1 st st' hinv
  unfold itersTail
  generalize List.foldl (pass o (2 ^ d) d nc inverse extend) st (schedule d np) = F at hfold
  generalize List.foldl (pass o (2 ^ d) d nc inverse extend) st' (schedule d np) = F' at hfold
  obtain ⟨a, a2, flag⟩ := F
  obtain ⟨a', a2', flag'⟩ := F'
  obtain ⟨hf, ht, hff⟩ := hfold
  simp only at hf ht hff
  subst hf
  cases flag with
  | true =>
    obtain ⟨h1, _⟩ := ht rfl
    simp only [Bool.not_true, Bool.false_eq_true, if_false]
    left
    cases dis <;> exact ⟨a, a', rfl, rfl, h1⟩
  | false =>
    obtain ⟨h1, h2⟩ := hff rfl
    simp only [Bool.not_false, if_true]
    by_cases hgt : 2 ^ d > 1
    · rw [if_pos hgt, if_pos hgt]
      exact Or.inr ⟨_, rfl, rfl⟩
    · rw [if_neg hgt, if_neg hgt]
      left
      have hc := (h2.writer (copyRow_writer 0 0 (2 ^ d * nc)) (fun j hj => by omega) (fun j hj => h1.eq j (by omega))).mono
        (Q := fun i => DP i ∨ i < 2 ^ d * nc) (fun i hi => hi.imp id (fun hi => ⟨by omega, by omega⟩))
      cases dis <;> exact ⟨_, _, rfl, rfl, hc⟩

/-- **`nttIters` does not depend on the initial content of the scratch buffer**, nor — on the first `size * ncols` words — on
    the initial content of a destination buffer that is distinct from the source: two runs whose destination buffers agree on
    `DP` return both an error, or both a result, and the results agree on `DP` and on the first `size * ncols` words -/
theorem nttIters_indep (o : Obj) (dstB dstB' srcB auxB auxB' : Buf) (dis : Bool) (d oc nc nca nphase : Nat)
    (inverse extend : Bool) (DP : Nat → Prop)
    (hdst : Ag (2 ^ d * nc) DP (if dis then srcB else dstB) (if dis then srcB else dstB'))
    (haux : 2 ^ d * nc ≤ auxB.size) (haux' : 2 ^ d * nc ≤ auxB'.size) :
    (∃ r r', nttIters o dstB srcB auxB dis (2 ^ d) oc nc nca nphase inverse extend = .ok (r, if dis then r else srcB) ∧
        nttIters o dstB' srcB auxB' dis (2 ^ d) oc nc nca nphase inverse extend = .ok (r', if dis then r' else srcB) ∧
        Ag (2 ^ d * nc) (fun i => DP i ∨ i < 2 ^ d * nc) r r') ∨
    (∃ e, nttIters o dstB srcB auxB dis (2 ^ d) oc nc nca nphase inverse extend = .error e ∧
        nttIters o dstB' srcB auxB' dis (2 ^ d) oc nc nca nphase inverse extend = .error e) := by
  obtain ⟨cp1, cp2, cp3⟩ := clampPhase_range nphase d
  have tail := fun st st' => itersTail_indep o srcB dis d nc (clampPhase nphase d) inverse extend DP cp1 cp2 cp3 st st'
  have hauxAg : Ag (2 ^ d * nc) (fun _ => False) auxB auxB' := ⟨haux, haux', fun i hi => absurd hi id⟩
  rw [nttIters_eq, nttIters_eq]
  by_cases hodd : clampPhase nphase d % 2 = 1
  · rw [if_pos hodd, if_pos hodd]
    obtain ⟨t, t', e, e', hag⟩ := rp_indep o hauxAg srcB (2 ^ d) oc nc nca rfl
    rw [e, e']
    exact tail _ _ ⟨rfl, (fun hh => by cases hh), fun _ => ⟨hag.mono (fun i hi => Or.inr hi), hdst⟩⟩
  · rw [if_neg hodd, if_neg hodd]
    cases dis with
    | false =>
      simp only [Bool.false_eq_true, if_false] at hdst ⊢
      obtain ⟨t, t', e, e', hag⟩ := rp_indep o hdst srcB (2 ^ d) oc nc nca rfl
      rw [e, e']
      exact tail (t, auxB, true) (t', auxB', true) ⟨rfl, fun _ => ⟨hag, hauxAg⟩, (fun hh => by cases hh)⟩
    | true =>
      simp only [if_true] at hdst ⊢
      cases hr : reversePermutation o srcB srcB true (2 ^ d) oc nc nca with
      | error e => exact Or.inr ⟨e, rfl, rfl⟩
      | ok t =>
        have hts := reversePermutation_size o _ _ true _ _ _ _ t hr
        simp only [if_true] at hts
        exact tail (t, auxB, true) (t, auxB', true)
          ⟨rfl, fun _ => ⟨Ag.refl _ _ t (by rw [hts]; exact hdst.sx), hauxAg⟩, (fun hh => by cases hh)⟩

theorem itersTail_size (o : Obj) (srcB : Buf) (dis : Bool) (d nc np : Nat) (inverse extend : Bool) (st : Buf × Buf × Bool)
    (r s : Buf) (h : itersTail o srcB dis d nc np inverse extend st = .ok (r, s)) :
    r.size = (if st.2.2 then st.1 else st.2.1).size := by
  have hsz := foldl_pass_size o (2 ^ d) d nc inverse extend (schedule d np) st
  unfold itersTail at h
  generalize List.foldl (pass o (2 ^ d) d nc inverse extend) st (schedule d np) = F at h hsz
  obtain ⟨a, a2, flag⟩ := F
  obtain ⟨a0, a20, flag0⟩ := st
  simp only at h hsz ⊢
  have hr : r.size = (if flag then a else a2).size := by
    cases flag with
    | true =>
      cases dis <;> (simp only [Bool.not_true, Bool.false_eq_true, if_false, if_true] at h; cases h; rfl)
    | false =>
      simp only [Bool.not_false, if_true] at h
      split at h
      · cases h
      · cases dis <;> (simp only [Bool.false_eq_true, if_false, if_true] at h; cases h; exact copyRow_size _ _ _ _ _)
  rw [hr]
  cases flag <;> cases flag0
  · simp only [Bool.false_eq_true, if_false]; exact (hsz.1 rfl).2
  · simp only [Bool.false_eq_true, if_false, if_true]; exact (hsz.2 rfl).2
  · simp only [Bool.false_eq_true, if_false, if_true]; exact (hsz.2 rfl).1
  · simp only [if_true]; exact (hsz.1 rfl).1

theorem nttIters_size (o : Obj) (dstB srcB auxB : Buf) (dis : Bool) (d oc nc nca nphase : Nat) (inverse extend : Bool)
    (r s : Buf) (h : nttIters o dstB srcB auxB dis (2 ^ d) oc nc nca nphase inverse extend = .ok (r, s)) :
    r.size = (if dis then srcB else dstB).size := by
  rw [nttIters_eq] at h
  by_cases hodd : clampPhase nphase d % 2 = 1
  · rw [if_pos hodd] at h
    split at h
    · cases h
    · exact itersTail_size o srcB dis d nc (clampPhase nphase d) inverse extend _ r s h
  · rw [if_neg hodd] at h
    split at h
    · cases h
    · rename_i t hr
      have h1 := itersTail_size o srcB dis d nc (clampPhase nphase d) inverse extend (t, auxB, true) r s h
      have h2 := reversePermutation_size o _ _ dis _ _ _ _ t hr
      simp only [if_true] at h1
      rw [h1, h2]
      cases dis <;> rfl

/-- **the result of `nttIters` does not depend on the content of the scratch buffer** (bit for bit; both scratch buffers of at
    least size·ncols words, as the destination) -/
theorem nttIters_aux_irrelevant (o : Obj) (dstB srcB auxB auxB' : Buf) (dis : Bool) (d oc nc nca nphase : Nat)
    (inverse extend : Bool) (hdst : 2 ^ d * nc ≤ (if dis then srcB else dstB).size)
    (haux : 2 ^ d * nc ≤ auxB.size) (haux' : 2 ^ d * nc ≤ auxB'.size) :
    nttIters o dstB srcB auxB dis (2 ^ d) oc nc nca nphase inverse extend =
      nttIters o dstB srcB auxB' dis (2 ^ d) oc nc nca nphase inverse extend := by
  rcases nttIters_indep o dstB dstB srcB auxB auxB' dis d oc nc nca nphase inverse extend (fun _ => True)
    (Ag.refl _ _ _ hdst) haux haux' with ⟨r, r', e, e', hag⟩ | ⟨er, e, e'⟩
  · have h1 := nttIters_size o dstB srcB auxB dis d oc nc nca nphase inverse extend r _ e
    have h2 := nttIters_size o dstB srcB auxB' dis d oc nc nca nphase inverse extend r' _ e'
    have : r = r' := hag.eq_of_all (fun _ => Or.inl trivial) (by rw [h1, h2])
    rw [e, e', this]
  · rw [e, e']

theorem ntt_size (o : Obj) (mode : DstMode) (dstB srcB : Buf) (d ncols nphase nblock : Nat) (inverse extend : Bool) (r s : Buf)
    (h : ntt o mode dstB srcB (2 ^ d) ncols nphase nblock inverse extend = .ok (r, s)) :
    r.size = (if mode = .other then dstB else srcB).size := by
  unfold ntt at h
  by_cases h0 : ncols = 0 ∨ 2 ^ d = 0
  · rw [if_pos h0] at h
    injection h with h; injection h with h _; rw [← h]
  · rw [if_neg h0] at h
    have hm : (if (decide (mode ≠ DstMode.other) : Bool) = true then srcB else dstB) = (if mode = .other then dstB else srcB) := by
      cases mode <;> rfl
    rw [← hm]
    generalize decide (mode ≠ DstMode.other) = dis at h ⊢
    unfold nttBlocks at h
    dsimp only at h
    by_cases hb : clampBlock nblock ncols ≤ 1
    · rw [if_pos hb] at h
      exact nttIters_size o _ _ _ dis d _ _ _ _ inverse extend r s h
    · rw [if_neg hb] at h
      generalize hd0 : (if dis = true then srcB else dstB) = dst0 at h ⊢
      split at h
      · cases h
      · rename_i dst src off hfin
        injection h with h; injection h with h _
        rw [← h]
        exact (nttBlock_loop_ok _ _ dis _ _ _ _ _ _ _ _ dst0 srcB (fun hh => by rw [hh] at hd0; exact hd0.symm) _ _ hfin).2

theorem intt_size (o : Obj) (mode : DstMode) (dstB srcB : Buf) (d ncols nphase nblock : Nat) (extend : Bool) (r s : Buf)
    (h : intt o mode dstB srcB (2 ^ d) ncols nphase nblock extend = .ok (r, s)) :
    r.size = (if mode = .other then dstB else srcB).size := by
  unfold intt at h
  by_cases h0 : ncols = 0 ∨ 2 ^ d = 0
  · rw [if_pos h0] at h
    injection h with h; injection h with h _; rw [← h]
  · rw [if_neg h0] at h
    have := ntt_size o _ dstB srcB d ncols nphase nblock true extend r s h
    rw [this]
    cases mode <;> rfl

/-- the scatter of a column block reads the first `size * w` words of the temporary destination only -/
theorem scatterBlock_congr (dst d d' : Buf) (size ncols oc w : Nat) (P : Nat → Prop) (h : Ag (size * w) P d d')
    (hP : ∀ i, i < size * w → P i) : scatterBlock dst d size ncols oc w = scatterBlock dst d' size ncols oc w := by
  unfold scatterBlock
  apply iter_congr
  intro ie hie t
  unfold copyRow
  apply iter_congr
  intro k hk u
  rw [h.eq _ (hP _ (rowcol_lt w size ie k hie hk))]

end GoldilocksVerif.Model.Ntt
