/-
  `reversePermutation` (all four branches: destination distinct / in place  ×  extension ≤ 1 / > 1) computes the
  (zero-extending) bit-reversal row permutation.  The loops are taken in the form of Lemmas/NttParRev.lean (`revOutBody`,
  `revInBody`); the two in-place loops are one generic loop (`ipBody`) whose rows `≥ nIn` read as zero.
-/
import GoldilocksVerif.Lemmas.NttParRev

namespace GoldilocksVerif.Model.Ntt
open GoldilocksVerif.Par

theorem rowoff_lt_iff (a b n o : Nat) (ho : o < n) : a * n + o < b * n ↔ a < b := by
  constructor
  · intro h
    by_cases hab : a < b
    · exact hab
    · have : b * n ≤ a * n := Nat.mul_le_mul_right n (by omega)
      omega
  · intro h; exact rowcol_lt n b a o h ho

/-- virtual read of row `q`: rows `≥ nIn` read as zero -/
def vrow (nIn : Nat) (a : Buf) (nc q k : Nat) : W := if q < nIn then a.getD (q * nc + k) 0#64 else 0#64

theorem swapStep_getD (nIn nc size : Nat) (d : Buf) (r i p k : Nat) (hi : i < size) (hr : r < size)
    (hbuf : size * nc ≤ d.size) (hk : k < nc) :
    (swapStep nIn nc d r i).getD (p * nc + k) 0#64
      = if p = i then vrow nIn d nc r k else if p = r then vrow nIn d nc i k else d.getD (p * nc + k) 0#64 := by
  have hfit : ∀ q, q < size → (q + 1) * nc ≤ d.size := fun q hq => row_fits nc size q _ hq hbuf
  have hd1 : (if i < nIn then copyRow d (r * nc) d (i * nc) nc else zeroRow d (r * nc) nc).size = d.size := by
    by_cases h : i < nIn
    · rw [if_pos h, copyRow_size]
    · rw [if_neg h, zeroRow_size]
  unfold swapStep vrow
  simp only []
  rw [copyRow_row _ _ nc i 0 p k hk (by rw [hd1]; exact hfit i hi)]
  by_cases hpi : p = i
  · rw [if_pos hpi, if_pos hpi]
    by_cases hr' : r < nIn
    · rw [if_pos hr', if_pos hr', copyRow_getD, if_pos (by rw [Array.size_replicate]; omega)]
      have e : r * nc + (0 + k - 0) = r * nc + k := by omega
      rw [e]
    · rw [if_neg hr', if_neg hr', getD_replicate, ite_self]
  · rw [if_neg hpi, if_neg hpi]
    by_cases h : i < nIn
    · rw [if_pos h, if_pos h, copyRow_row d d nc r (i * nc) p k hk (hfit r hr)]
    · rw [if_neg h, if_neg h, zeroRow_row d nc r p k hk (hfit r hr)]

/-- the generic body of the in-place loops -/
def ipBody (nIn nc d : Nat) (i : Nat) (s : Buf) : Buf :=
  if br i d < i then swapStep nIn nc s (br i d) i
  else if br i d = i ∧ nIn ≤ i then zeroRow s (i * nc) nc
  else s

theorem ipBody_size (nIn nc d i : Nat) (s : Buf) : (ipBody nIn nc d i s).size = s.size := by
  unfold ipBody
  split
  · exact swapStep_size ..
  · split
    · exact zeroRow_size ..
    · rfl

/-- step `i` of the in-place loop, `r` being the bit reversal of `i`: when `r ≤ i` the rows `i` and `r` exchange their virtual
    contents (`r = i`: row `i` becomes its own virtual content, i.e. is zeroed when `nIn ≤ i`); when `i < r` nothing happens -/
theorem ipBody_getD (nIn nc d size i r : Nat) (s : Buf) (hbr : br i d = r) (hi : i < size) (hr : r < size)
    (hbuf : size * nc ≤ s.size) (p k : Nat) (hk : k < nc) :
    (ipBody nIn nc d i s).getD (p * nc + k) 0#64
      = if r ≤ i ∧ p = i then vrow nIn s nc r k else if r ≤ i ∧ p = r then vrow nIn s nc i k else s.getD (p * nc + k) 0#64 := by
  unfold ipBody
  rw [hbr]
  by_cases h1 : r < i
  · rw [if_pos h1, swapStep_getD nIn nc size s r i p k hi hr hbuf hk]
    simp only [show r ≤ i by omega, true_and]
  · rw [if_neg h1]
    by_cases h2 : r = i ∧ nIn ≤ i
    · rw [if_pos h2, zeroRow_row s nc i p k hk (row_fits nc size i _ hi hbuf)]
      obtain ⟨rfl, hn⟩ := h2
      simp only [Nat.le_refl, true_and]
      by_cases hpr : p = r
      · rw [if_pos hpr, if_pos hpr]
        unfold vrow
        rw [if_neg (by omega)]
      · rw [if_neg hpr, if_neg hpr, if_neg hpr]
    · rw [if_neg h2]
      by_cases hle : r ≤ i
      · obtain rfl : r = i := by omega
        simp only [Nat.le_refl, true_and]
        by_cases hpr : p = r
        · rw [if_pos hpr, hpr]
          unfold vrow
          rw [if_pos (by omega)]
        · rw [if_neg hpr, if_neg hpr]
      · rw [if_neg (fun c => hle c.1), if_neg (fun c => hle c.1)]

theorem ipLoop (nIn nc d size : Nat) (src : Buf) (hd : d ≤ 32) (hsize : size = 2 ^ d) (hbuf : size * nc ≤ src.size) :
    (iter size src (ipBody nIn nc d)).size = src.size ∧
    ∀ p k, p < size → k < nc →
      (iter size src (ipBody nIn nc d)).getD (p * nc + k) 0#64 = vrow nIn src nc (bitrev d p) k := by
  have hlt : ∀ p, bitrev d p < size := fun p => hsize ▸ bitrev_lt d p
  have hinv : ∀ p, p < size → bitrev d (bitrev d p) = p := fun p hp => bitrev_bitrev d p (hsize ▸ hp)
  -- invariant before step `n`: the rows `p` with `p < n` and `bitrev d p < n` have received their final content
  have key := iter_ind
    (fun n (s : Buf) => s.size = src.size ∧ ∀ p k, p < size → k < nc →
      s.getD (p * nc + k) 0#64
        = if p < n ∧ bitrev d p < n then vrow nIn src nc (bitrev d p) k else src.getD (p * nc + k) 0#64)
    size src (ipBody nIn nc d)
    ⟨rfl, fun p k _ _ => by rw [if_neg (by omega)]⟩
    (by
      intro i hi s ⟨hs, hI⟩
      refine ⟨by rw [ipBody_size, hs], fun p k hp hk => ?_⟩
      have hri : bitrev d (bitrev d i) = i := hinv i hi
      have hr := hlt i
      rw [ipBody_getD nIn nc d size i (bitrev d i) s (br_eq_bitrev d i hd (hsize ▸ hi)) hi hr (by omega) p k hk]
      generalize hrdef : bitrev d i = r at hri hr
      -- a row that is `i` or `r` still has its initial content
      have hv : ∀ q, q < size → (q = i ∨ bitrev d q = i) → vrow nIn s nc q k = vrow nIn src nc q k := by
        intro q hq hqi
        unfold vrow
        by_cases hc : q < nIn
        · rw [if_pos hc, if_pos hc, hI q k hq hk, if_neg (by omega)]
        · rw [if_neg hc, if_neg hc]
      by_cases c1 : r ≤ i ∧ p = i
      · rw [if_pos c1, c1.2, hrdef, if_pos (by omega)]
        exact hv r hr (Or.inr hri)
      · rw [if_neg c1]
        by_cases c2 : r ≤ i ∧ p = r
        · rw [if_pos c2, c2.2, hri, if_pos (by omega)]
          exact hv i hi (Or.inl rfl)
        · rw [if_neg c2, hI p k hp hk]
          have h1 : p = i → bitrev d p = r := fun h => h ▸ hrdef
          have h2 : bitrev d p = i → p = r := fun h => by rw [← hinv p hp, h, hrdef]
          by_cases hc : p < i ∧ bitrev d p < i
          · rw [if_pos hc, if_pos (by omega)]
          · rw [if_neg hc, if_neg (by omega)])
  refine ⟨key.1, ?_⟩
  intro p k hp hk
  rw [key.2 p k hp hk, if_pos ⟨hp, hlt p⟩]

theorem reversePermutation_spec (o : Obj) (dst src : Buf) (inPlace : Bool) (d size oc nc nca : Nat)
    (hd : d ≤ 32) (hsize : size = 2 ^ d)
    (hbuf : size * nc ≤ (if inPlace then src else dst).size)
    (hoc : oc + nc ≤ nca)
    (hip : inPlace = true → oc = 0 ∧ nc = nca) :
    ∃ res, reversePermutation o dst src inPlace size oc nc nca = .ok res ∧
      res.size = (if inPlace then src else dst).size ∧
      ∀ i k, i < size → k < nc →
        res.getD (i * nc + k) 0#64 =
          if o.extension ≤ 1 ∨ bitrev d i < size / o.extension then src.getD (bitrev d i * nca + oc + k) 0#64 else 0#64 := by
  have hlog : log2 size = d := by rw [hsize]; exact Nat.log2_two_pow
  have hbr : ∀ i, i < size → br i d = bitrev d i := fun i hi => br_eq_bitrev d i hd (hsize ▸ hi)
  have hlt : ∀ p, bitrev d p < size := fun p => hsize ▸ bitrev_lt d p
  cases inPlace with
  | false =>
    simp only [Bool.false_eq_true, if_false] at hbuf ⊢
    rw [reversePermutation_out_eq]
    -- a parallel loop: iteration `i` writes row `i` only, from the source
    obtain ⟨h1, h2, _⟩ := LocalB.iter_at (n := size) (f := fun i d => revOutBody o size oc nc nca i src d)
      (fun i => (revOutBody_writer o size oc nc nca i).local src)
      (fun i j _ _ hne w h h' => hne (row_unique nc i j w h.1 h.2 h'.1 h'.2)) dst
    refine ⟨_, rfl, h1, fun i k hi hk => ?_⟩
    have hfit := row_fits nc size i _ hi hbuf
    rw [h2 i hi _ ⟨by omega, by omega⟩]
    unfold revOutBody
    rw [hlog, hbr i hi]
    have hiff := rowoff_lt_iff (bitrev d i) (size / o.extension) nca oc (by omega)
    by_cases hext : o.extension ≤ 1
    · rw [if_pos hext, if_pos (Or.inl hext), copyRow_row dst src nc i _ i k hk hfit, if_pos rfl]
    · rw [if_neg hext]
      by_cases hc : bitrev d i < size / o.extension
      · rw [if_pos (hiff.2 hc), if_pos (Or.inr hc), copyRow_row dst src nc i _ i k hk hfit, if_pos rfl]
      · rw [if_neg (fun h => hc (hiff.1 h)), if_neg (fun h => h.elim hext hc), zeroRow_row dst nc i i k hk hfit, if_pos rfl]
  | true =>
    obtain ⟨rfl, rfl⟩ := hip rfl
    simp only [if_true] at hbuf ⊢
    rw [reversePermutation_in_eq]
    -- both in-place loops are the generic one: rows `≥ nIn` read as zero (`nIn = size`: none does)
    have e := iter_congr size src (revInBody o size nc) (ipBody (if o.extension ≤ 1 then size else size / o.extension) nc d)
      (by
        intro i hi s
        have hr : br i d < size := by rw [hbr i hi]; exact hlt i
        unfold revInBody ipBody swapStep
        rw [hlog]
        by_cases hext : o.extension ≤ 1
        · simp only [if_pos hext, if_pos hr, if_pos hi]
          by_cases h1 : br i d < i
          · rw [if_pos h1, if_pos h1]
          · rw [if_neg h1, if_neg h1, if_neg (by omega)]
        · simp only [if_neg hext])
    have key := ipLoop (if o.extension ≤ 1 then size else size / o.extension) nc d size src hd hsize hbuf
    rw [← e] at key
    refine ⟨_, rfl, key.1, fun i k hi hk => ?_⟩
    rw [key.2 i k hi hk, Nat.add_zero]
    unfold vrow
    by_cases hext : o.extension ≤ 1
    · rw [if_pos hext, if_pos (hlt i), if_pos (Or.inl hext)]
    · rw [if_neg hext]
      by_cases hc : bitrev d i < size / o.extension
      · rw [if_pos hc, if_pos (Or.inr hc)]
      · rw [if_neg hc, if_neg (fun h => h.elim hext hc)]

end GoldilocksVerif.Model.Ntt
