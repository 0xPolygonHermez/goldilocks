/-
  The parts of the TRANSLATED `NTT_Goldilocks::extendPol` (Gen/NttGen.lean) around its two transforms: the refresh of the
  `r` / `r_` cache against the hand model's `refreshCache`, and the local transform object (constructed on entry, never given a
  cache, destroyed on exit).  The whole function: Lemmas/BridgeNttExtendEq.lean.
-/
import GoldilocksVerif.Lemmas.BridgeNttBuf
import GoldilocksVerif.Lemmas.BridgeNttCtor
import GoldilocksVerif.Lemmas.NttObj

namespace GoldilocksVerif.BridgeNtt
open GoldilocksVerif Gen.NttGen

theorem ofU64_bv' (v : Nat) (h : v < 2 ^ 31) : I32.ofU64 (bv v) = (v : Int) := ofU64_bv v h

/-- `refresh_rw href (X3, self') : self, n`: the cache refresh of the translated `extendPol` — the first `Option.bind` argument
    of the goal, HOWEVER the source writes it (one nested `if`, two sequential `if`s with the pointers reset, …) — is replaced
    by the value `href` states for the canonical text of `refresh_gen`.  Both texts are evaluated in the four cases
    `r == NULL` × `r_N == n`, where they coincide. -/
macro "refresh_rw " href:ident v:term " : " self:term ", " n:term : tactic => `(tactic| (
  name_bind_arg G with hG
  have hGv : G = some $v := by
    rw [← hG]
    cases hr0 : (($self).r == Ptr.null) <;> cases hn0 : (($self).r_N == $n) <;>
      simp only [hr0, hn0, bne, Bool.not_true, Bool.not_false, Bool.true_or, Bool.false_or, Bool.or_true, Bool.or_false,
        Bool.true_and, Bool.false_and, Bool.and_true, Bool.and_false, if_true, if_false, Bool.false_eq_true, computeR_irrel,
        beq_self_eq_true] at $href:ident ⊢ <;>
      exact $href
  rw [hGv]
  clear hGv hG))

/-- **cache refresh** `if (r == NULL || r_N != N) { if (r != NULL) { delete[] r; delete[] r_; } computeR(N); }` = the model's
    `refreshCache`; blocks other than the old tables are unchanged, the new tables are new blocks -/
theorem refresh_gen (fuel : Nat) (hf : 64 ≤ fuel) (X : Heap) (self : NTT_Goldilocks) (o : Model.Ntt.Obj)
    (hrep : ObjRep X self o) (hin : ObjIn X self) (hdisj : ObjDisj self)
    (hlast : o.rcache ≠ none → self.r.blk + 1 < X.size ∧ self.r_.blk + 1 < X.size)
    (N : Nat) (hN1 : 1 ≤ N) (hN31 : N < 2 ^ 31) :
    ∃ X' self',
      (if (self.r == Ptr.null || self.r_N != bv N) = true then
          (NTT_computeR fuel (if (self.r != Ptr.null) = true then (X.free self.r).free self.r_ else X) self
            (I32.ofU64 (bv N))).bind fun rt_3 => some (rt_3.1, rt_3.2)
        else some (X, self)) = some (X', self') ∧
      ObjRep X' self' (Model.Ntt.refreshCache o N) ∧ ObjIn X' self' ∧ ObjDisj self' ∧ X.size ≤ X'.size ∧
      (∀ c, c < X.size → c ≠ self.r.blk → c ≠ self.r_.blk → X'.block c = X.block c) ∧
      (∀ A, A < X.size → ObjFrame self A → ObjFrame self' A) ∧
      (Model.Ntt.refreshCache o N).rcache ≠ none := by
  obtain ⟨i1, i2, i3, i4⟩ := hin
  obtain ⟨d1, d2, d3, d4⟩ := hdisj
  have hc := hrep.cache
  rw [ofU64_bv N hN31]
  -- the situation in which the tables are (re)built, from a heap X1 that agrees with X outside the old tables
  have build : ∀ X1 : Heap, X1.size = X.size → (∀ c, c ≠ self.r.blk → c ≠ self.r_.blk → X1.block c = X.block c) →
      (o.rcache = none ∨ (self.r.blk ≠ 0)) →
      Model.Ntt.refreshCache o N = { o with rcache := some (Model.Ntt.computeR o N) } →
      ∃ X' self', (NTT_computeR fuel X1 self (N : Int)).bind (fun rt_3 => some (rt_3.1, rt_3.2)) = some (X', self') ∧
        ObjRep X' self' (Model.Ntt.refreshCache o N) ∧ ObjIn X' self' ∧ ObjDisj self' ∧ X.size ≤ X'.size ∧
        (∀ c, c < X.size → c ≠ self.r.blk → c ≠ self.r_.blk → X'.block c = X.block c) ∧
        (∀ A, A < X.size → ObjFrame self A → ObjFrame self' A) ∧
        (Model.Ntt.refreshCache o N).rcache ≠ none := by
    intro X1 hs1 hb1 _ href
    have hcr := computeR_gen fuel (by unfold log2Fuel; omega) X1 self o N hN1 hN31
      (by rw [hb1 _ d3 d4]; exact hrep.pti) hrep.pti_off (by omega)
    rw [hcr]
    simp only [Option.bind_some]
    refine ⟨_, _, rfl, ?_, ?_, ?_, ?_, ?_, ?_, ?_⟩
    · rw [href]
      have hlt : ∀ c, c < X.size → ((X1.push (Model.Ntt.computeR o N).2.1).push (Model.Ntt.computeR o N).2.2).block c
          = X1.block c := by
        intro c hc'
        rw [Heap.block_push_lt _ _ _ (by simp; omega), Heap.block_push_lt _ _ _ (by omega)]
      refine ⟨hrep.hs, ?_, hrep.roots_off, ?_, hrep.pti_off, hrep.ext, ?_⟩
      · show ((X1.push _).push _).block self.roots.blk = o.roots
        rw [hlt _ i1, hb1 _ d1 d2]; exact hrep.roots
      · show ((X1.push _).push _).block self.powTwoInv.blk = o.powTwoInv
        rw [hlt _ i2, hb1 _ d3 d4]; exact hrep.pti
      · show (⟨X1.size, 0⟩ : Ptr) ≠ Ptr.null ∧ (BitVec.ofNat 64 N).toNat = (Model.Ntt.computeR o N).1 ∧
          ((X1.push _).push _).block X1.size = (Model.Ntt.computeR o N).2.1 ∧ (0 : Nat) = 0 ∧
          ((X1.push _).push _).block (X1.size + 1) = (Model.Ntt.computeR o N).2.2 ∧ (0 : Nat) = 0
        refine ⟨?_, ?_, ?_, rfl, ?_, rfl⟩
        · intro e; injection e with e _; omega
        · rw [BitVec.toNat_ofNat, Nat.mod_eq_of_lt (by omega)]; rfl
        · rw [Heap.block_push_lt _ _ _ (by simp), Heap.block_push_last _ _ _ rfl]
        · rw [Heap.block_push_last _ _ _ (by simp)]
    · refine ⟨?_, ?_, ?_, ?_⟩ <;> simp <;> omega
    · show self.roots.blk ≠ X1.size ∧ self.roots.blk ≠ X1.size + 1 ∧ self.powTwoInv.blk ≠ X1.size ∧
        self.powTwoInv.blk ≠ X1.size + 1
      omega
    · simp; omega
    · intro c hc1 hc2 hc3
      rw [Heap.block_push_lt _ _ _ (by simp; omega), Heap.block_push_lt _ _ _ (by omega), hb1 _ hc2 hc3]
    · intro A hA ⟨f1, f2, f3, f4⟩
      refine ⟨f1, f2, ?_, ?_⟩
      · show A ≠ X1.size; omega
      · show A ≠ X1.size + 1; omega
    · rw [href]; simp
  cases hrc : o.rcache with
  | none =>
    rw [hrc] at hc
    have hnull : (self.r == Ptr.null) = true := by rw [hc]; simp
    have hnn : (self.r != Ptr.null) = false := by rw [hc]; simp
    rw [hnull, Bool.true_or, if_pos rfl, hnn]
    simp only [Bool.false_eq_true, if_false]
    exact build X rfl (fun _ _ _ => rfl) (Or.inl hrc) (by unfold Model.Ntt.refreshCache; rw [hrc])
  | some v =>
    obtain ⟨n0, r, r_⟩ := v
    rw [hrc] at hc
    obtain ⟨c1, c2, c3, c4, c5, c6⟩ := hc
    have hnull : (self.r == Ptr.null) = false := by simpa using c1
    have hnn : (self.r != Ptr.null) = true := by simpa using c1
    have hrN : (self.r_N != bv N) = decide (n0 ≠ N) := by
      rw [Bool.eq_iff_iff]
      simp only [bne_iff_ne, ne_eq, decide_eq_true_eq]
      constructor
      · intro h e; apply h; apply BitVec.eq_of_toNat_eq; rw [c2, e, bv_toNat _ (by omega)]
      · intro h e; apply h; rw [← c2, e, bv_toNat _ (by omega)]
    rw [hnull, Bool.false_or, hrN, hnn]
    by_cases hn : n0 = N
    · have : decide (n0 ≠ N) = false := by simp [hn]
      rw [this]
      simp only [Bool.false_eq_true, if_false]
      have href : Model.Ntt.refreshCache o N = o := by
        unfold Model.Ntt.refreshCache; rw [hrc]; simp [hn]
      rw [href]
      exact ⟨X, self, rfl, hrep, ⟨i1, i2, i3, i4⟩, ⟨d1, d2, d3, d4⟩, Nat.le_refl _, fun _ _ _ _ => rfl, fun _ _ h => h,
        by rw [hrc]; simp⟩
    · have : decide (n0 ≠ N) = true := by simp [hn]
      rw [this, if_pos rfl, if_pos rfl]
      obtain ⟨l1, l2⟩ := hlast (by rw [hrc]; simp)
      have hr0 : self.r.blk ≠ 0 := by
        intro e; apply c1
        have : self.r = ⟨self.r.blk, self.r.off⟩ := rfl
        rw [this, e, c4]; rfl
      have hs1 : (X.free self.r).size = X.size := Heap.size_free_mid _ _ (by omega)
      have hs2 : ((X.free self.r).free self.r_).size = X.size := by
        rw [Heap.size_free_mid _ _ (by rw [hs1]; omega), hs1]
      exact build _ hs2 (fun c h1 h2 => by rw [Heap.block_free_other _ _ _ h2, Heap.block_free_other _ _ _ h1])
        (Or.inr hr0) (by unfold Model.Ntt.refreshCache; rw [hrc]; simp [hn])

theorem refreshCache_fields (o : Model.Ntt.Obj) (n : Nat) :
    (Model.Ntt.refreshCache o n).s = o.s ∧ (Model.Ntt.refreshCache o n).extension = o.extension ∧
    (Model.Ntt.refreshCache o n).roots = o.roots ∧ (Model.Ntt.refreshCache o n).powTwoInv = o.powTwoInv := by
  unfold Model.Ntt.refreshCache
  cases hc : o.rcache with
  | none => exact ⟨rfl, rfl, rfl, rfl⟩
  | some v =>
    obtain ⟨n0, r, r_⟩ := v
    simp only
    by_cases h : n0 = n
    · rw [if_pos h]; exact ⟨rfl, rfl, rfl, rfl⟩
    · rw [if_neg h]; exact ⟨rfl, rfl, rfl, rfl⟩

theorem ObjRep.frame_fresh {X0 X : Heap} {obj : NTT_Goldilocks} {o : Model.Ntt.Obj} (h : ObjRep X0 obj o) (hc : o.rcache = none)
    (h1 : X.block obj.roots.blk = X0.block obj.roots.blk) (h2 : X.block obj.powTwoInv.blk = X0.block obj.powTwoInv.blk) :
    ObjRep X obj o := by
  refine ⟨h.hs, ?_, h.roots_off, ?_, h.pti_off, h.ext, ?_⟩
  · rw [h1]; exact h.roots
  · rw [h2]; exact h.pti
  · have := h.cache
    rw [hc] at this ⊢
    exact this

theorem dtor_block_fresh (hp : Heap) (obj : NTT_Goldilocks) (c : Nat) (hr : obj.r = Ptr.null) (hr_ : obj.r_ = Ptr.null)
    (c1 : c ≠ obj.roots.blk) (c2 : c ≠ obj.powTwoInv.blk) : (NTT_dtor hp obj).block c = hp.block c := by
  unfold NTT_dtor
  dsimp only
  have h2 : (obj.r != Ptr.null) = false := by rw [hr]; simp
  have h3 : (obj.r_ != Ptr.null) = false := by rw [hr_]; simp
  by_cases h1 : (obj.s != 0#32) = true <;>
    simp only [h1, h2, h3, if_true, if_false, Bool.false_eq_true] <;>
    simp only [Heap.block_free_other _ _ _ c1, Heap.block_free_other _ _ _ c2]

/-- `Heap.free` of the last block shrinks the heap; never below a block the object does not own -/
theorem lt_size_dtor (hp : Heap) (obj : NTT_Goldilocks) (c : Nat) (hc : c < hp.size)
    (c1 : c ≠ obj.roots.blk ∨ obj.roots.blk = 0) (c2 : c ≠ obj.powTwoInv.blk ∨ obj.powTwoInv.blk = 0)
    (c3 : c ≠ obj.r.blk ∨ obj.r.blk = 0) (c4 : c ≠ obj.r_.blk ∨ obj.r_.blk = 0) :
    c < (NTT_dtor hp obj).size := by
  unfold NTT_dtor
  dsimp only
  by_cases h1 : (obj.s != 0#32) = true <;> by_cases h2 : (obj.r != Ptr.null) = true <;>
    by_cases h3 : (obj.r_ != Ptr.null) = true <;>
    simp only [h1, h2, h3, if_true, if_false, Bool.false_eq_true] <;>
    first
    | exact hc
    | (apply Heap.lt_size_free _ _ _ _ ‹_›; first
        | exact hc
        | (apply Heap.lt_size_free _ _ _ _ ‹_›; first
            | exact hc
            | (apply Heap.lt_size_free _ _ _ _ ‹_›; first
                | exact hc
                | (apply Heap.lt_size_free _ _ _ _ ‹_›; exact hc))))

/-- **the local transform object of `extendPol`**: constructed on `hp` it owns exactly the two new table blocks `hp.size`,
    `hp.size + 1`; as it never gets a cache, any heap that holds the two tables represents it, and its destructor releases
    these two blocks only -/
theorem ctor_local (fuel : Nat) (hf : 64 ≤ fuel) (hp : Heap) (hpos : 0 < hp.size) (m : BitVec 64) (thr : BitVec 32) (e : Nat)
    (hm0 : m ≠ 0#64) (o : Model.Ntt.Obj) (hobj : Model.Ntt.mkObj m.toNat e = some o) :
    ∃ selfE, NTT_ctor fuel hp NTT_Goldilocks.init m thr (e : Int) = some ((hp.push o.roots).push o.powTwoInv, selfE) ∧
      selfE.roots.blk = hp.size ∧ selfE.powTwoInv.blk = hp.size + 1 ∧
      (∀ X : Heap, hp.size + 2 ≤ X.size → X.block hp.size = o.roots → X.block (hp.size + 1) = o.powTwoInv →
        ObjRep X selfE o ∧ ObjIn X selfE) ∧
      (∀ c, c ≠ 0 → c ≠ hp.size → c ≠ hp.size + 1 → ObjFrame selfE c) ∧
      (∀ (X : Heap) (c : Nat), c ≠ hp.size → c ≠ hp.size + 1 →
        (NTT_dtor X selfE).block c = X.block c ∧ (c < X.size → c < (NTT_dtor X selfE).size)) := by
  obtain ⟨selfE, hc, hrep, _, f1, f2, f3, f4⟩ := ctor_rep fuel hf hp NTT_Goldilocks.init m thr e hm0 o hobj
  have b1 : selfE.roots.blk = hp.size := by rw [f1]
  have b2 : selfE.powTwoInv.blk = hp.size + 1 := by rw [f2]
  have b3 : selfE.r.blk = 0 := by rw [f3]; rfl
  have b4 : selfE.r_.blk = 0 := by rw [f4]; rfl
  refine ⟨selfE, hc, b1, b2, ?_, ?_, ?_⟩
  · intro X hX h1 h2
    refine ⟨hrep.frame_fresh (Model.Ntt.mkObj_fresh _ _ _ hobj) ?_ ?_, ?_⟩
    · rw [hrep.roots, b1]; exact h1
    · rw [hrep.pti, b2]; exact h2
    · unfold ObjIn
      rw [b1, b2, b3, b4]
      omega
  · intro c h0 h1 h2
    unfold ObjFrame
    rw [b1, b2, b3, b4]
    exact ⟨h1, h2, h0, h0⟩
  · intro X c h1 h2
    refine ⟨dtor_block_fresh X selfE c f3 f4 (by rw [b1]; exact h1) (by rw [b2]; exact h2), fun hc => ?_⟩
    exact lt_size_dtor X selfE c hc (Or.inl (by rw [b1]; exact h1)) (Or.inl (by rw [b2]; exact h2)) (Or.inr b3) (Or.inr b4)

end GoldilocksVerif.BridgeNtt
