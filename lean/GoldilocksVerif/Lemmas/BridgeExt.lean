/-
  Bridge: the TRANSLATED `Goldilocks3::inv` (both overloads) and `Goldilocks3::div` (Gen/ExtInvGen.lean, regenerated from
  goldilocks_cubic_extension.hpp on every run) in terms of the hand models of Model/Ext.lean, for every fuel ≥ `invFuel`
  (= 129: the only loop is the Euclid loop of the base-field inversion they call).
-/
import GoldilocksVerif.Gen.ExtInvGen
import GoldilocksVerif.Lemmas.BridgeInv
import GoldilocksVerif.Lemmas.ExtF
import GoldilocksVerif.Lemmas.ExtIrred
import GoldilocksVerif.Lemmas.ExtBatch

namespace GoldilocksVerif
open Gen.Scalar Gen.Ext Gen.InvGen Gen.ExtInvGen Model

/-- What every extension routine does with its result. -/
def put3 (result : Region) (e : E3) : Region :=
  Region.set (Region.set (Region.set result 0 e.c0) 1 e.c1) 2 e.c2

theorem den3_put3 (result : Region) (e : E3) : den3 (put3 result e) = denE e := den3_set3 _ _ _ _
theorem put3_frame (result : Region) (e : E3) (k : Nat) (hk : 3 ≤ k) : (put3 result e) k = result k :=
  (set3 result e.c0 e.c1 e.c2).2.2.2 k hk

/-- The generated body IS "t, one base-field inversion, three cofactors written to result[0..2]": unfolding of definitions
    and `let`s only, after that the two sides are syntactically equal. -/
theorem G3_inv_gen_unfold (fuel : Nat) (result a : Region) :
    G3_inv___a3a3 fuel result a =
      (inv___rE fuel (g3t (E3.ofRegion a))).bind (fun ti => some (put3 result (g3cof (E3.ofRegion a) ti))) := by
  unfold G3_inv___a3a3 g3t g3cof put3 E3.ofRegion
  dsimp only

theorem G3_inv_gen_eq (fuel : Nat) (hf : invFuel ≤ fuel) (result a : Region) :
    G3_inv___a3a3 fuel result a = (g3inv (E3.ofRegion a)).map (put3 result) := by
  rw [G3_inv_gen_unfold, inv_r_gen_eq fuel hf]
  unfold g3inv
  cases Model.inv (g3t (E3.ofRegion a)) <;> rfl

theorem G3_inv_pp_gen_eq (fuel : Nat) (hf : invFuel ≤ fuel) (result a : Region) :
    G3_inv___pp fuel result a = (g3inv (E3.ofRegion a)).map (put3 result) := by
  unfold G3_inv___pp
  rw [G3_inv_gen_eq fuel hf]
  cases g3inv (E3.ofRegion a) <;> rfl

theorem G3_div_gen_eq (fuel : Nat) (hf : invFuel ≤ fuel) (result a : Region) (b : BitVec 64) :
    G3_div fuel result a b = (Model.inv b).map (fun bi => G3_mul__a3a3e result a bi) := by
  unfold G3_div
  rw [inv_r_gen_eq fuel hf]
  cases Model.inv b <;> rfl

theorem G3_inv_gen_spec (fuel : Nat) (hf : invFuel ≤ fuel) (result a : Region) :
    (G3_inv___a3a3 fuel result a = none ↔ den3 a = K3.zero) ∧
    (∀ r, G3_inv___a3a3 fuel result a = some r →
      K3.mul (den3 r) (den3 a) = K3.one ∧ ∀ k, 3 ≤ k → r k = result k) := by
  rw [G3_inv_gen_eq fuel hf]
  constructor
  · rw [← denE_ofRegion, ← g3inv_none_iff]
    cases g3inv (E3.ofRegion a) <;> simp
  · intro r hr
    cases hi : g3inv (E3.ofRegion a) with
    | none => rw [hi] at hr; cases hr
    | some e =>
      rw [hi] at hr
      simp only [Option.map_some, Option.some.injEq] at hr
      subst hr
      exact ⟨by rw [den3_put3, ← denE_ofRegion]; exact (g3inv_den _).2 e hi, fun k hk => put3_frame _ _ k hk⟩

theorem G3_div_gen_spec (fuel : Nat) (hf : invFuel ≤ fuel) (result a : Region) (b : BitVec 64) :
    (G3_div fuel result a b = none ↔ den b = 0) ∧
    (∀ r, G3_div fuel result a b = some r → K3.mul (den3 r) (K3.ofBase (den b)) = den3 a) := by
  rw [G3_div_gen_eq fuel hf]
  have hinv := inv_spec b
  constructor
  · rw [← hinv.1]; cases Model.inv b <;> simp
  · intro r hr
    cases hbi : Model.inv b with
    | none => rw [hbi] at hr; cases hr
    | some bi =>
      rw [hbi] at hr
      simp only [Option.map_some, Option.some.injEq] at hr
      rw [← hr, mul_base_den]
      exact K3.mul_ofBase_cancel _ _ _ (hinv.2 bi hbi).1

end GoldilocksVerif
