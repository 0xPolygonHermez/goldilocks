/-
  Simp set of the pointwise region comparison of Lemmas/BridgeEquiv.lean (`ge_region`; an attribute has to be registered in
  a file of its own).
  `region_pt` : word j of a region expression (`memcpy` / `memset` / pointer-offset steps) as nested case distinctions on j.
-/
import Lean
register_simp_attr region_pt
