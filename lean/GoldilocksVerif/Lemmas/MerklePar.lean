/-
  Order independence of the loops of the Merkle builders, on the model (Model/Sponge.lean).

  The model is purely functional: the leaf digests are `rows.flatMap leaf`, a level is `nextLevel node k lvl` (list
  recursion), the tree is the concatenation of the levels.  It has no indexed writes, so "any order" cannot be stated about
  the model's own loops.  Hence an IMPERATIVE rendering of the C loops on one tree buffer (`writeAt` = `memcpy` into the
  buffer; `leafStep`, `nodeStep`, `levelLoop`, `upperLoops`, `merkleTreeIn`), whose iterations have the footprints of
  `C12_merkle_leaves` / `C12_merkle_level` and which, run sequentially, produces exactly the model's lists (read word by
  word: `nextLevel_getD`, `leaves_getD`).  The rendering is written by hand from the loops of poseidon_goldilocks.cpp; it
  is not executed against the C++ (the functional model is).
-/
import GoldilocksVerif.Lemmas.NttPar
import GoldilocksVerif.Lemmas.MerkleL

namespace GoldilocksVerif.Model
open GoldilocksVerif.Par

theorem lgetD_append (a b : List Wd) (j : Nat) :
    (a ++ b).getD j 0#64 = if j < a.length then a.getD j 0#64 else b.getD (j - a.length) 0#64 := by
  simp only [List.getD_eq_getElem?_getD, List.getElem?_append]
  by_cases h : j < a.length <;> simp [h]

theorem lgetD_take (a : List Wd) (n j : Nat) : (a.take n).getD j 0#64 = if j < n then a.getD j 0#64 else 0#64 := by
  simp only [List.getD_eq_getElem?_getD, List.getElem?_take]
  by_cases h : j < n <;> simp [h]

theorem lgetD_drop (a : List Wd) (n j : Nat) : (a.drop n).getD j 0#64 = a.getD (n + j) 0#64 := by
  simp only [List.getD_eq_getElem?_getD, List.getElem?_drop]

theorem lgetD_ge (a : List Wd) (j : Nat) (h : a.length ≤ j) : a.getD j 0#64 = 0#64 := by
  simp [List.getD_eq_getElem?_getD, h]

theorem list_ext_getD (a b : List Wd) (hl : a.length = b.length) (h : ∀ j, j < a.length → a.getD j 0#64 = b.getD j 0#64) :
    a = b := by
  apply List.ext_getElem hl
  intro i h1 h2
  have := h i h1
  simpa [List.getD_eq_getElem?_getD, h1, h2] using this

/-- the induction step shared by `nextLevel_getD` and `leaves_getD` -/
theorem blocks_getD (g : Nat → List Wd) (hg : (g 0).length = 4) (ys : List Wd) (n : Nat)
    (hys : ∀ j, ys.getD j 0#64 = if j < 4 * n then (g (j / 4 + 1)).getD (j % 4) 0#64 else 0#64) (j : Nat) :
    (g 0 ++ ys).getD j 0#64 = if j < 4 * (n + 1) then (g (j / 4)).getD (j % 4) 0#64 else 0#64 := by
  rw [lgetD_append, hg, hys]
  by_cases h4 : j < 4
  · have e1 : j / 4 = 0 := by omega
    have e2 : j % 4 = j := by omega
    rw [if_pos h4, if_pos (by omega), e1, e2]
  · rw [if_neg h4]
    by_cases hk : j - 4 < 4 * n
    · have e1 : j / 4 = (j - 4) / 4 + 1 := by omega
      have e2 : (j - 4) % 4 = j % 4 := by omega
      rw [if_pos hk, if_pos (by omega), e1, e2]
    · rw [if_neg hk, if_neg (by omega)]

theorem nextLevel_getD (node : List Wd → List Wd) (hn : ∀ x, (node x).length = 4) :
    ∀ (k : Nat) (lvl : List Wd) (j : Nat),
      (nextLevel node k lvl).getD j 0#64
        = if j < 4 * k then (node ((lvl.drop (8 * (j / 4))).take 8)).getD (j % 4) 0#64 else 0#64 := by
  intro k
  induction k with
  | zero => intro lvl j; simp [nextLevel]
  | succ k ih =>
    intro lvl j
    refine blocks_getD (fun i => node ((lvl.drop (8 * i)).take 8)) (hn _) _ k (fun j => ?_) j
    rw [ih, List.drop_drop, Nat.mul_succ, Nat.add_comm]

theorem leaves_getD (leaf : List Wd → List Wd) (hl : ∀ x, (leaf x).length = 4) :
    ∀ (rows : List (List Wd)) (j : Nat),
      (rows.flatMap leaf).getD j 0#64
        = if j < 4 * rows.length then (leaf (rows.getD (j / 4) [])).getD (j % 4) 0#64 else 0#64 := by
  intro rows
  induction rows with
  | nil => intro j; simp
  | cons r rs ih =>
    intro j
    exact blocks_getD (fun i => leaf ((r :: rs).getD i [])) (hl _) _ rs.length ih j

theorem nextLevel_prefix (node : List Wd → List Wd) : ∀ (k : Nat) (a b : List Wd), 8 * k ≤ a.length →
    nextLevel node k (a ++ b) = nextLevel node k a := by
  intro k
  induction k with
  | zero => intro a b _; rfl
  | succ k ih =>
    intro a b h
    unfold nextLevel
    rw [List.take_append_of_le_length (by omega), List.drop_append_of_le_length (by omega),
      ih _ _ (by rw [List.length_drop]; omega)]

/-- `memcpy(&t[off], v, |v|)` into the buffer `t` (writes beyond the end are dropped; the length never changes) -/
def writeAt (t : List Wd) (off : Nat) (v : List Wd) : List Wd :=
  (List.range t.length).map (fun j => if off ≤ j ∧ j < off + v.length then v.getD (j - off) 0#64 else t.getD j 0#64)

theorem writeAt_length (t : List Wd) (off : Nat) (v : List Wd) : (writeAt t off v).length = t.length := by
  simp [writeAt]

theorem writeAt_getD (t : List Wd) (off : Nat) (v : List Wd) (j : Nat) :
    (writeAt t off v).getD j 0#64
      = if off ≤ j ∧ j < off + v.length ∧ j < t.length then v.getD (j - off) 0#64 else t.getD j 0#64 := by
  unfold writeAt
  by_cases h : j < t.length
  · rw [List.getD_eq_getElem?_getD, List.getElem?_map, List.getElem?_range h]
    by_cases c : off ≤ j ∧ j < off + v.length
    · rw [if_pos ⟨c.1, c.2, h⟩]; exact if_pos c
    · rw [if_neg (fun x => c ⟨x.1, x.2.1⟩)]; exact if_neg c
  · rw [if_neg (fun x => h x.2.2), lgetD_ge t j (by omega), lgetD_ge _ j (by rw [List.length_map, List.length_range]; omega)]

def viewT : View (List Wd) where
  shape t := [t.length]
  rd t l := if l.1 = 0 then t.getD l.2 0#64 else 0#64
  ext := fun a a' hs h => list_ext_getD a a' (List.cons.inj hs).1 (fun j _ => h (0, j))

/-- the common shape of the iterations of the leaf and level loops; what `g` reads outside the tree buffer is not state -/
def hashIter (g : List Wd → List Wd) (hg : ∀ x, (g x).length = 4) (rd0 rn wr0 : Nat) : PIter viewT where
  run := fun t => writeAt t wr0 (g ((t.drop rd0).take rn))
  R := fun l => l.1 = 0 ∧ rd0 ≤ l.2 ∧ l.2 < rd0 + rn
  W := fun l => l.1 = 0 ∧ wr0 ≤ l.2 ∧ l.2 < wr0 + 4
  shape_eq := fun t => by show [(writeAt _ _ _).length] = [t.length]; rw [writeAt_length]
  frame := by
    intro t l hl
    show (if l.1 = 0 then (writeAt _ _ _).getD l.2 0#64 else 0#64) = (if l.1 = 0 then t.getD l.2 0#64 else 0#64)
    by_cases h0 : l.1 = 0
    · rw [if_pos h0, if_pos h0, writeAt_getD, hg, if_neg (fun c => hl ⟨h0, c.1, c.2.1⟩)]
    · rw [if_neg h0, if_neg h0]
  dep := by
    intro t t' hs hag l hl
    have hs' : t.length = t'.length := by simpa [viewT] using hs
    have hseg : (t.drop rd0).take rn = (t'.drop rd0).take rn := by
      apply list_ext_getD
      · simp only [List.length_take, List.length_drop, hs']
      · intro j hj
        rw [lgetD_take, lgetD_take, lgetD_drop, lgetD_drop]
        by_cases hjn : j < rn
        · rw [if_pos hjn, if_pos hjn]
          have := hag (0, rd0 + j) ⟨rfl, by simp, by simp; omega⟩
          simpa [viewT] using this
        · rw [if_neg hjn, if_neg hjn]
    show (if l.1 = 0 then (writeAt _ _ _).getD l.2 0#64 else 0#64) = (if l.1 = 0 then (writeAt _ _ _).getD l.2 0#64 else 0#64)
    rw [if_pos hl.1, if_pos hl.1, writeAt_getD, writeAt_getD, hg, hg, hseg, hs']
    by_cases hb : l.2 < t'.length
    · rw [if_pos ⟨hl.2.1, hl.2.2, hb⟩, if_pos ⟨hl.2.1, hl.2.2, hb⟩]
    · rw [if_neg (fun c => hb c.2.2), if_neg (fun c => hb c.2.2), lgetD_ge t _ (by omega), lgetD_ge t' _ (by omega)]

/-- iteration `i` of a leaf loop: `linear_hash(&tree[i*4], &input[i*ncols], ncols)` — the input is not part of the state -/
def leafStep (leaf : List Wd → List Wd) (rows : List (List Wd)) (i : Nat) (t : List Wd) : List Wd :=
  writeAt t (4 * i) (leaf (rows.getD i []))

/-- iteration `i` of a level loop: `hash(&tree[nxt + i*4], &tree[off + i*8])`, `nxt = off + 4·p` for a level of `p` nodes -/
def nodeStep (node : List Wd → List Wd) (off p : Nat) (i : Nat) (t : List Wd) : List Wd :=
  writeAt t (off + 4 * p + 4 * i) (node ((t.drop (off + 8 * i)).take 8))

theorem leafStep_run (leaf : List Wd → List Wd) (hl : ∀ x, (leaf x).length = 4) (rows : List (List Wd)) (i : Nat) (t : List Wd) :
    (hashIter (fun _ => leaf (rows.getD i [])) (fun _ => hl _) 0 0 (4 * i)).run t = leafStep leaf rows i t := rfl

theorem nodeStep_run (node : List Wd → List Wd) (hn : ∀ x, (node x).length = 4) (off p i : Nat) (t : List Wd) :
    (hashIter node hn (off + 8 * i) 8 (off + 4 * p + 4 * i)).run t = nodeStep node off p i t := rfl

/-! ### leaf and level iterations in any order (the closed forms of the sequential loops are below) -/

/-- the leaf iterations read nothing of the tree and write disjoint words -/
theorem leafStep_any_order (leaf : List Wd → List Wd) (hl : ∀ x, (leaf x).length = 4) (rows : List (List Wd))
    (is' : List Nat) (hp : is'.Perm (List.range rows.length)) (t : List Wd) :
    is'.foldl (fun t i => leafStep leaf rows i t) t = (List.range rows.length).foldl (fun t i => leafStep leaf rows i t) t := by
  refine any_order (fun i => hashIter (fun _ => leaf (rows.getD i [])) (fun _ => hl _) 0 0 (4 * i)) _ _ hp ?_ t
  intro i _ j _ hne
  refine FootIndep.of_writes (fun _ => False) ?_ ?_ ?_ (fun _ => False.elim)
  · rintro ⟨b, x⟩ ⟨⟨_, h1, h2⟩, ⟨_, h3, h4⟩⟩; simp only at h1 h2 h3 h4; omega
  · rintro ⟨b, x⟩ ⟨_, h1, h2⟩; simp only at h1 h2; omega
  · rintro ⟨b, x⟩ ⟨_, h1, h2⟩; simp only at h1 h2; omega

/-- Bernstein for the iterations of a level loop (`n ≤ p/2` nodes), in the presentation of `hashIter` and of `ParGen.nodeIter`
    (Lemmas/ParGenMerkle.lean): the children `[off + 8i, +8)` lie below `off + 4p`, where no iteration writes; the parents
    `[off + 4p + 4i, +4)` are disjoint -/
theorem level_indep (off p n i i' : Nat) (hnp : 2 * n ≤ p) (hi : i < n) (hi' : i' < n) (hne : i ≠ i') :
    FootIndep (fun l : Nat × Nat => l.1 = 0 ∧ off + 8 * i ≤ l.2 ∧ l.2 < off + 8 * i + 8)
      (fun l => l.1 = 0 ∧ off + 4 * p + 4 * i ≤ l.2 ∧ l.2 < off + 4 * p + 4 * i + 4)
      (fun l => l.1 = 0 ∧ off + 8 * i' ≤ l.2 ∧ l.2 < off + 8 * i' + 8)
      (fun l => l.1 = 0 ∧ off + 4 * p + 4 * i' ≤ l.2 ∧ l.2 < off + 4 * p + 4 * i' + 4) := by
  refine FootIndep.of_writes (fun l => l.2 < off + 4 * p) ?_ ?_ ?_ ?_
  · rintro ⟨b, x⟩ ⟨⟨_, h1, h2⟩, ⟨_, h3, h4⟩⟩; simp only at h1 h2 h3 h4; omega
  · rintro ⟨b, x⟩ ⟨_, h1, h2⟩; right; simp only at h1 h2 ⊢; omega
  · rintro ⟨b, x⟩ ⟨_, h1, h2⟩; right; simp only at h1 h2 ⊢; omega
  · rintro ⟨b, x⟩ h
    constructor <;> rintro ⟨_, h1, _⟩ <;> simp only at h h1 <;> omega

theorem nodeStep_any_order (node : List Wd → List Wd) (hn : ∀ x, (node x).length = 4) (off p n : Nat) (hnp : 2 * n ≤ p)
    (is' : List Nat) (hp : is'.Perm (List.range n)) (t : List Wd) :
    is'.foldl (fun t i => nodeStep node off p i t) t = (List.range n).foldl (fun t i => nodeStep node off p i t) t :=
  any_order (fun i => hashIter node hn (off + 8 * i) 8 (off + 4 * p + 4 * i)) _ _ hp
    (fun i hi i' hi' hne =>
      level_indep off p n i i' hnp (List.mem_range.1 ((hp.mem_iff).1 hi)) (List.mem_range.1 ((hp.mem_iff).1 hi')) hne) t

theorem range_foldl_succ {σ : Type} (f : σ → Nat → σ) (s : σ) (n : Nat) :
    (List.range (n + 1)).foldl f s = f ((List.range n).foldl f s) n := by
  rw [List.range_succ, List.foldl_append]; rfl

/-- `hstable`: `v i` reads nothing from `w0` on, so no iteration sees what another one wrote -/
theorem writeLoop_seq (v : Nat → List Wd → List Wd) (hv : ∀ i t, (v i t).length = 4) (w0 n : Nat) (t : List Wd)
    (hstable : ∀ i, i < n → ∀ T : List Wd, T.length = t.length → (∀ j, j < w0 → T.getD j 0#64 = t.getD j 0#64) →
      v i T = v i t) :
    ∀ m, m ≤ n →
      ((List.range m).foldl (fun t i => writeAt t (w0 + 4 * i) (v i t)) t).length = t.length ∧
      ∀ j, ((List.range m).foldl (fun t i => writeAt t (w0 + 4 * i) (v i t)) t).getD j 0#64
        = if w0 ≤ j ∧ j < w0 + 4 * m ∧ j < t.length then (v ((j - w0) / 4) t).getD ((j - w0) % 4) 0#64
          else t.getD j 0#64 := by
  intro m
  induction m with
  | zero => intro _; exact ⟨rfl, fun j => by rw [if_neg (by omega)]; rfl⟩
  | succ m ih =>
    intro hm
    obtain ⟨i1, i2⟩ := ih (by omega)
    rw [range_foldl_succ]
    generalize (List.range m).foldl (fun t i => writeAt t (w0 + 4 * i) (v i t)) t = T at i1 i2
    rw [hstable m (by omega) T i1 (fun j hj => by rw [i2, if_neg (by omega)])]
    refine ⟨by rw [writeAt_length, i1], ?_⟩
    intro j
    rw [writeAt_getD, hv, i1, i2 j]
    by_cases c : w0 + 4 * m ≤ j ∧ j < w0 + 4 * m + 4 ∧ j < t.length
    · have e1 : (j - w0) / 4 = m := by omega
      have e2 : (j - w0) % 4 = j - (w0 + 4 * m) := by omega
      rw [if_pos c, if_pos (by omega), e1, e2]
    · rw [if_neg c]
      by_cases h1 : w0 ≤ j ∧ j < w0 + 4 * m ∧ j < t.length
      · rw [if_pos h1, if_pos (by omega)]
      · rw [if_neg h1, if_neg (by omega)]

theorem levelLoop_seq_eq (node : List Wd → List Wd) (hn : ∀ x, (node x).length = 4) (t : List Wd) (off p n : Nat)
    (hnp : 2 * n ≤ p) (hfit : off + 4 * p + 4 * n ≤ t.length) :
    (List.range n).foldl (fun t i => nodeStep node off p i t) t
      = t.take (off + 4 * p) ++ nextLevel node n (t.drop off) ++ t.drop (off + 4 * p + 4 * n) := by
  obtain ⟨h1, h2⟩ := writeLoop_seq (fun i t => node ((t.drop (off + 8 * i)).take 8)) (fun _ _ => hn _) (off + 4 * p) n t
    (by
      -- the children read by iteration `i` lie below the words the loop writes
      intro i hi T hT hag
      congr 1
      apply list_ext_getD
      · simp only [List.length_take, List.length_drop, hT]
      · intro j _
        rw [lgetD_take, lgetD_take, lgetD_drop, lgetD_drop]
        by_cases hj : j < 8
        · rw [if_pos hj, if_pos hj, hag _ (by omega)]
        · rw [if_neg hj, if_neg hj])
    n (Nat.le_refl _)
  have hnl := nextLevel_length node hn n (t.drop off)
  unfold nodeStep
  apply list_ext_getD
  · rw [h1]; simp only [List.length_append, List.length_take, List.length_drop, hnl]; omega
  · intro j hj
    rw [h1] at hj
    rw [h2 j, lgetD_append, lgetD_append, lgetD_take, lgetD_drop]
    simp only [List.length_append, List.length_take, hnl]
    have hmin : min (off + 4 * p) t.length = off + 4 * p := by omega
    rw [hmin]
    by_cases c1 : j < off + 4 * p
    · rw [if_neg (by omega), if_pos (by omega), if_pos c1, if_pos c1]
    · by_cases c2 : j < off + 4 * p + 4 * n
      · rw [if_pos (by omega), if_pos c2, if_neg c1, nextLevel_getD node hn, if_pos (by omega), List.drop_drop]
      · rw [if_neg (by omega), if_neg c2]
        congr 1; omega

theorem leafLoop_seq_eq (leaf : List Wd → List Wd) (hl : ∀ x, (leaf x).length = 4) (rows : List (List Wd)) (t : List Wd)
    (ht : 4 * rows.length ≤ t.length) :
    (List.range rows.length).foldl (fun t i => leafStep leaf rows i t) t = rows.flatMap leaf ++ t.drop (4 * rows.length) := by
  obtain ⟨h1, h2⟩ := writeLoop_seq (fun i _ => leaf (rows.getD i [])) (fun _ _ => hl _) 0 rows.length t
    (fun _ _ _ _ _ => rfl) rows.length (Nat.le_refl _)
  simp only [Nat.zero_add, Nat.sub_zero, Nat.zero_le, true_and] at h1 h2
  have hll := leaves_length leaf hl rows
  unfold leafStep
  apply list_ext_getD
  · rw [h1, List.length_append, List.length_drop, hll]; omega
  · intro j _
    rw [h2 j, lgetD_append, lgetD_drop, hll, leaves_getD leaf hl]
    by_cases c : j < 4 * rows.length
    · rw [if_pos ⟨c, by omega⟩, if_pos c, if_pos c]
    · rw [if_neg (fun h => c h.1), if_neg c]; congr 1; omega

def levelLoop (node : List Wd → List Wd) (ord : List Nat) (off p : Nat) (t : List Wd) : List Wd :=
  ord.foldl (fun t i => nodeStep node off p i t) t

/-- the `while (pending > 1)` loop on the tree buffer: the current level (`pending` nodes) starts at word `off`, the next
    one is written right behind it; a level loop of `n` iterations is executed in the order `ords n` -/
def upperLoops (node : List Wd → List Wd) (ords : Nat → List Nat) : Nat → Nat → Nat → List Wd → List Wd
  | 0, _, _, t => t
  | fuel + 1, pending, off, t =>
    if pending ≤ 1 then t
    else upperLoops node ords fuel (pending / 2) (off + 4 * pending) (levelLoop node (ords (pending / 2)) off pending t)

def merkleTreeIn (leaf node : List Wd → List Wd) (rows : List (List Wd)) (ordLeaf : List Nat) (ords : Nat → List Nat)
    (t0 : List Wd) : List Wd :=
  upperLoops node ords rows.length rows.length 0 (ordLeaf.foldl (fun t i => leafStep leaf rows i t) t0)

theorem upperLoops_eq (node : List Wd → List Wd) (hn : ∀ x, (node x).length = 4) (ords : Nat → List Nat)
    (hlev : ∀ off p n t, 2 * n ≤ p → levelLoop node (ords n) off p t = levelLoop node (List.range n) off p t) :
    ∀ (fuel pending off : Nat) (pre lvl rest : List Wd), pre.length = off → lvl.length = 4 * pending →
      rest.length = (upperLevels node fuel pending lvl).length →
      upperLoops node ords fuel pending off (pre ++ lvl ++ rest) = pre ++ lvl ++ upperLevels node fuel pending lvl := by
  intro fuel
  induction fuel with
  | zero =>
    intro pending off pre lvl rest _ _ hr
    have : rest = [] := List.eq_nil_of_length_eq_zero (by simpa [upperLevels] using hr)
    subst this
    rfl
  | succ fuel ih =>
    intro pending off pre lvl rest hpre hlvl hr
    unfold upperLoops upperLevels
    by_cases hp : pending ≤ 1
    · rw [if_pos hp, if_pos hp]
      have : rest = [] := List.eq_nil_of_length_eq_zero (by unfold upperLevels at hr; simpa [hp] using hr)
      subst this
      rfl
    · rw [if_neg hp, if_neg hp]
      simp only
      unfold upperLevels at hr
      rw [if_neg hp] at hr
      simp only [List.length_append] at hr
      have hnl := nextLevel_length node hn (pending / 2) lvl
      have hnp : 2 * (pending / 2) ≤ pending := by omega
      have hlen : (pre ++ lvl ++ rest).length = off + 4 * pending + rest.length := by
        simp only [List.length_append, hpre, hlvl]
      rw [hlev off pending (pending / 2) _ hnp]
      unfold levelLoop
      rw [levelLoop_seq_eq node hn _ off pending (pending / 2) hnp (by rw [hlen]; omega)]
      have e1 : (pre ++ lvl ++ rest).take (off + 4 * pending) = pre ++ lvl := by
        rw [List.take_append_of_le_length (by simp only [List.length_append, hpre, hlvl]; omega)]
        exact List.take_of_length_le (by simp only [List.length_append, hpre, hlvl]; omega)
      have e2 : (pre ++ lvl ++ rest).drop off = lvl ++ rest := by
        rw [List.append_assoc, List.drop_append_of_le_length (by omega), List.drop_of_length_le (by omega)]
        rfl
      have e3 : (pre ++ lvl ++ rest).drop (off + 4 * pending + 4 * (pending / 2)) = rest.drop (4 * (pending / 2)) := by
        have : off + 4 * pending + 4 * (pending / 2) = (pre ++ lvl).length + 4 * (pending / 2) := by
          simp only [List.length_append, hpre, hlvl]
        rw [this, List.drop_append, List.drop_of_length_le (by omega), Nat.add_sub_cancel_left]
        rfl
      rw [e1, e2, e3, nextLevel_prefix node _ _ _ (by omega)]
      rw [ih (pending / 2) (off + 4 * pending) (pre ++ lvl) (nextLevel node (pending / 2) lvl) (rest.drop (4 * (pending / 2)))
        (by simp only [List.length_append, hpre, hlvl]) hnl (by rw [List.length_drop]; omega)]
      simp only [List.append_assoc]

theorem merkleTreeIn_eq (leaf node : List Wd → List Wd) (hl : ∀ x, (leaf x).length = 4) (hn : ∀ x, (node x).length = 4)
    (rows : List (List Wd)) (ordLeaf : List Nat) (ords : Nat → List Nat) (t0 : List Wd)
    (hleaf : ordLeaf.foldl (fun t i => leafStep leaf rows i t) t0
      = (List.range rows.length).foldl (fun t i => leafStep leaf rows i t) t0)
    (hlev : ∀ off p n t, 2 * n ≤ p → levelLoop node (ords n) off p t = levelLoop node (List.range n) off p t)
    (ht0 : t0.length = (merkleTree leaf node rows).length) :
    merkleTreeIn leaf node rows ordLeaf ords t0 = merkleTree leaf node rows := by
  have hll := leaves_length leaf hl rows
  unfold merkleTree at ht0 ⊢
  simp only [List.length_append, hll] at ht0
  unfold merkleTreeIn
  rw [hleaf, leafLoop_seq_eq leaf hl rows t0 (by omega)]
  have := upperLoops_eq node hn ords hlev rows.length rows.length 0 [] (rows.flatMap leaf) (t0.drop (4 * rows.length))
    rfl hll (by rw [List.length_drop]; omega)
  simpa using this

end GoldilocksVerif.Model
