/-
  Sizes in the hand model Model/Ntt.lean: no operation of `reversePermutation` / `pass` changes the size of a buffer (the
  two ping-pong buffers exchange roles).  Needed to know the size of the scratch block the translated `NTT_iters` leaves behind.
-/
import GoldilocksVerif.Lemmas.NttArr
import GoldilocksVerif.Lemmas.NttStage
import GoldilocksVerif.Lemmas.NttParBatch
import GoldilocksVerif.Lemmas.NttParRev

namespace GoldilocksVerif.Model.Ntt
open GoldilocksVerif.Par

theorem passBatch_size (o : Obj) (size dp nc s sInc : Nat) (lastInv extend : Bool) (b : Nat) (st : Buf × Buf) :
    (passBatch o size dp nc s sInc lastInv extend b st).1.size = st.1.size ∧
    (passBatch o size dp nc s sInc lastInv extend b st).2.size = st.2.size := by
  rw [passBatch_split]
  exact ⟨(batchF_local o dp nc s sInc b).size _, (batchG_writer o size dp nc sInc lastInv extend b).size _ _⟩

theorem pass_size (o : Obj) (size dp nc : Nat) (inverse extend : Bool) (st : Buf × Buf × Bool) (p : Nat × Nat) :
    (pass o size dp nc inverse extend st p).1.size = st.2.1.size ∧
    (pass o size dp nc inverse extend st p).2.1.size = st.1.size ∧
    (pass o size dp nc inverse extend st p).2.2 = !st.2.2 := by
  unfold pass
  dsimp only
  have key := iter_ind (fun _ x => x.1.size = st.1.size ∧ x.2.size = st.2.1.size) (size / 2 ^ p.2) (st.1, st.2.1)
    (passBatch o size dp nc p.1 p.2 (!decide (p.1 + p.2 ≤ dp) && inverse) extend) ⟨rfl, rfl⟩
    (fun b _ x hx => by
      obtain ⟨a, c⟩ := passBatch_size o size dp nc p.1 p.2 (!decide (p.1 + p.2 ≤ dp) && inverse) extend b x
      rw [a, c]; exact hx)
  exact ⟨key.2, key.1, rfl⟩

/-- after a list of passes the two buffers have kept their sizes, in the order the flag tells -/
theorem foldl_pass_size (o : Obj) (size dp nc : Nat) (inverse extend : Bool) :
    ∀ (L : List (Nat × Nat)) (st : Buf × Buf × Bool),
      ((L.foldl (pass o size dp nc inverse extend) st).2.2 = st.2.2 →
        (L.foldl (pass o size dp nc inverse extend) st).1.size = st.1.size ∧
        (L.foldl (pass o size dp nc inverse extend) st).2.1.size = st.2.1.size) ∧
      ((L.foldl (pass o size dp nc inverse extend) st).2.2 = !st.2.2 →
        (L.foldl (pass o size dp nc inverse extend) st).1.size = st.2.1.size ∧
        (L.foldl (pass o size dp nc inverse extend) st).2.1.size = st.1.size) := by
  intro L
  induction L with
  | nil =>
    intro st
    refine ⟨fun _ => ⟨rfl, rfl⟩, fun h => ?_⟩
    simp at h
  | cons p L ih =>
    intro st
    rw [List.foldl_cons]
    obtain ⟨s1, s2, s3⟩ := pass_size o size dp nc inverse extend st p
    obtain ⟨i1, i2⟩ := ih (pass o size dp nc inverse extend st p)
    rw [s3] at i1 i2
    constructor
    · intro h
      have := i2 (by rw [h]; simp)
      rw [s1, s2] at this
      exact ⟨this.1, this.2⟩
    · intro h
      have := i1 h
      rw [s1, s2] at this
      exact ⟨this.1, this.2⟩

theorem reversePermutation_size (o : Obj) (dst src : Buf) (inPlace : Bool) (size oc nc nca : Nat) (t : Buf)
    (h : reversePermutation o dst src inPlace size oc nc nca = .ok t) :
    t.size = (if inPlace then src else dst).size := by
  cases inPlace with
  | false =>
    rw [reversePermutation_out_eq] at h
    injection h with h
    rw [← h]
    exact iter_size _ _ (fun i b => (revOutBody_writer o size oc nc nca i).size src b)
  | true =>
    by_cases ha : oc = 0 ∧ nc = nca
    · obtain ⟨rfl, rfl⟩ := ha
      rw [reversePermutation_in_eq] at h
      injection h with h
      rw [← h]
      exact iter_size _ _ (fun i b => (revInBody_local o size nc i).size b)
    · rw [reversePermutation_in_assert o dst src size oc nc nca ha] at h
      cases h

end GoldilocksVerif.Model.Ntt
