/-
  IN-BOUNDS ACCESSES of the generated `reversePermutation` (all four branches): every `memcpy` / `memset` range lies inside
  its block and source and destination of a `memcpy` do not overlap; the run-time sized row temporary is released at its
  start while live.  `NTT_reversePermutation.Safe` is DERIVED from the generated definition (Lemmas/HeapSafeDefs.lean).
-/
import GoldilocksVerif.Lemmas.HeapSafeVCL
import GoldilocksVerif.Lemmas.HeapSafeDefs
import GoldilocksVerif.Lemmas.BridgeNttRevPermG
open GoldilocksVerif Gen.NttGen GoldilocksVerif.BridgeNtt
namespace GoldilocksVerif.HeapSafe

section distinct
variable (dst src : Ptr) (oc nc nca : BitVec 64) (ds : BitVec 32) (k size : Nat)
variable (hk : k ≤ 32) (hds : ds.toNat = k) (hsz : size = 2 ^ k)
variable (hb1 : size * nca.toNat + oc.toNat < 2 ^ 64) (hb2 : size * nc.toNat < 2 ^ 64) (hb3 : nc.toNat * 8 < 2 ^ 64)
variable (hcols : oc.toNat + nc.toNat ≤ nca.toNat) (hne : dst.blk ≠ src.blk)

include hk hds hsz hb1 hb2 hb3 hcols hne in
/-- another block, extension ≤ 1: row `i` of the destination, columns [oc, oc + nc) of row br(i) of the source -/
theorem rp1_safe (st : Heap) (hdst : dst.off + size * nc.toNat ≤ st.ext dst.blk)
    (hsrc : src.off + size * nca.toNat ≤ st.ext src.blk) (i : Nat) (hi : i < size) :
    NTT_reversePermutation_loop1.Safe dst src oc nc nca ds i st := by
  obtain ⟨_, hlt⟩ := BR_i ds k size hk hds hsz i hi
  have h1 := mul_le_of_lt _ _ nc.toNat hi
  have h2 := mul_le_of_lt _ _ nca.toNat hlt
  unfold NTT_reversePermutation_loop1.Safe
  zeta_goal
  rw [src_off oc nca ds k size hk hds hsz hb1 i hi, dst_off nc k size hk hsz hb2 i hi, words_toNat nc hb3]
  exact ⟨RangeOK_add (by omega), RangeOK_add (by omega), Or.inr (Or.inl hne)⟩

include hk hds hsz hb1 hb2 hb3 hcols hne in
/-- another block, extension > 1: a source row is read only when it is one of the first `E` rows (`ext_` = E·ncols_all
    words); otherwise the destination row is zeroed -/
theorem rp2_safe (E : Nat) (ext_ : BitVec 64) (hext : ext_.toNat = E * nca.toNat) (st : Heap)
    (hdst : dst.off + size * nc.toNat ≤ st.ext dst.blk) (hsrc : src.off + E * nca.toNat ≤ st.ext src.blk) (i : Nat)
    (hi : i < size) : NTT_reversePermutation_loop2.Safe dst src oc nc nca ds ext_ i st := by
  have h1 := mul_le_of_lt _ _ nc.toNat hi
  unfold NTT_reversePermutation_loop2.Safe
  zeta_goal
  rw [src_off oc nca ds k size hk hds hsz hb1 i hi, dst_off nc k size hk hsz hb2 i hi, words_toNat nc hb3]
  refine ⟨fun hc => ⟨RangeOK_add (by omega), RangeOK_add ?_, Or.inr (Or.inl hne)⟩, fun _ => RangeOK_add (by omega)⟩
  have hc' := of_decide_eq_true hc
  rw [BitVec.lt_def, src_off oc nca ds k size hk hds hsz hb1 i hi, hext] at hc'
  have hr : Model.Ntt.br i k < E := by
    rcases Nat.lt_or_ge (Model.Ntt.br i k) E with h | h
    · exact h
    · have := Nat.mul_le_mul_right nca.toNat h
      omega
  have h3 := mul_le_of_lt _ _ nca.toNat hr
  omega

end distinct

/-- the row temporary of the in-place branches: in `st.alloc n` the new block holds one row of `n` words and is released at
    its start while live; rows `a < b` of the `size` rows at `p` keep their place in their block, which is another block,
    and do not overlap -/
theorem tmp_row (st : Heap) (p : Ptr) (n size a b : Nat) (hn : 0 < n) (hdst : p.off + size * n ≤ st.ext p.blk) (hab : a < b)
    (hb : b < size) :
    (st.alloc n).1.RangeOK (st.alloc n).2 n ∧ (st.alloc n).1.RangeOK (p.add (a * n)) n ∧
      (st.alloc n).1.RangeOK (p.add (b * n)) n ∧ p.blk ≠ (st.alloc n).2.blk ∧ (st.alloc n).1.FreeOK (st.alloc n).2 ∧
      p.off + a * n + n ≤ p.off + b * n := by
  have h1 := mul_le_of_lt _ _ n hb
  have h2 := mul_le_of_lt _ _ n hab
  have hlive : 0 < st.ext p.blk := by
    have : 0 < size * n := Nat.mul_pos (by omega) hn
    omega
  have eo := ext_alloc_old st n p.blk hlive
  have en := ext_alloc_new st n
  have hoff : (st.alloc n).2.off = 0 := rfl
  exact ⟨RangeOK_base (by rw [en, hoff]; omega), RangeOK_add (by rw [eo]; omega), RangeOK_add (by rw [eo]; omega),
    alloc_blk_ne st n p.blk hlive, Or.inr ⟨rfl, by rw [en]; exact hn⟩, by omega⟩

section inplace
variable (p : Ptr) (nc : BitVec 64) (ds : BitVec 32) (k size : Nat)
variable (hk : k ≤ 32) (hds : ds.toNat = k) (hsz : size = 2 ^ k)
variable (hb2 : size * nc.toNat < 2 ^ 64) (hb3 : nc.toNat * 8 < 2 ^ 64) (hnc : 0 < nc.toNat)

include hk hds hsz hb2 hb3 hnc in
/-- in place, extension ≤ 1: rows br(i) < i are swapped through the temporary row (a new block of `ncols` words) -/
theorem rp3_safe (st : Heap) (hdst : p.off + size * nc.toNat ≤ st.ext p.blk) (i : Nat) (hi : i < size) :
    NTT_reversePermutation_loop3.Safe p p nc ds i st := by
  unfold NTT_reversePermutation_loop3.Safe
  zeta_goal
  obtain ⟨e, hlt⟩ := BR_i ds k size hk hds hsz i hi
  have h64 : size < 2 ^ 64 := by rw [hsz]; exact Nat.pow_lt_pow_right (by decide) (by omega)
  rw [ip_off nc ds k size hk hds hsz hb2 i hi, dst_off nc k size hk hsz hb2 i hi, words_toNat nc hb3]
  intro hc
  have hri : Model.Ntt.br i k < i := by
    have := of_decide_eq_true hc
    rwa [lt_ofNat _ i (by omega), e] at this
  obtain ⟨r1, rr, ri, hne, c4, hd⟩ := tmp_row st p nc.toNat size _ i hnc hdst hri hi
  -- the three copies and the release, each on a heap of the shape of `(st.alloc ncols).1`
  refine ⟨⟨r1, rr, Or.inr (Or.inl (fun x => hne x.symm))⟩, ?_, ?_, ?_⟩
  · exact Heap.CopyOK.same (a := (st.alloc nc.toNat).1) (by heap_steps) ⟨rr, ri, Or.inr (Or.inr (Or.inl hd))⟩
  · exact Heap.CopyOK.same (a := (st.alloc nc.toNat).1) (by heap_steps) ⟨ri, r1, Or.inr (Or.inl hne)⟩
  · exact c4.same (by heap_steps)


include hk hds hsz hb2 hb3 hnc in
/-- in place, extension > 1: as before; rows beyond `nrows_in` are not read but zeroed -/
theorem rp4_safe (nIn : BitVec 64) (st : Heap) (hdst : p.off + size * nc.toNat ≤ st.ext p.blk) (i : Nat) (hi : i < size) :
    NTT_reversePermutation_loop4.Safe p p nc ds nIn i st := by
  unfold NTT_reversePermutation_loop4.Safe
  zeta_goal
  obtain ⟨e, hlt⟩ := BR_i ds k size hk hds hsz i hi
  have h64 : size < 2 ^ 64 := by rw [hsz]; exact Nat.pow_lt_pow_right (by decide) (by omega)
  rw [ip_off nc ds k size hk hds hsz hb2 i hi, dst_off nc k size hk hsz hb2 i hi, words_toNat nc hb3]
  have h1 := mul_le_of_lt _ _ nc.toNat hi
  refine ⟨fun hc => ?_, fun _ _ => RangeOK_add (by omega)⟩
  have hri : Model.Ntt.br i k < i := by
    have := of_decide_eq_true hc
    rwa [lt_ofNat _ i (by omega), e] at this
  obtain ⟨r1, rr, ri, hne, c4, hd⟩ := tmp_row st p nc.toNat size _ i hnc hdst hri hi
  refine ⟨⟨fun _ => ⟨r1, rr, Or.inr (Or.inl (fun x => hne x.symm))⟩, fun _ => r1⟩, ⟨fun _ => ?_, fun _ => ?_⟩, ?_, ?_⟩
  · exact Heap.CopyOK.same (a := (st.alloc nc.toNat).1) (by heap_steps) ⟨rr, ri, Or.inr (Or.inr (Or.inl hd))⟩
  · exact rr.same (by heap_steps)
  · exact Heap.CopyOK.same (a := (st.alloc nc.toNat).1) (by heap_steps) ⟨ri, r1, Or.inr (Or.inl hne)⟩
  · exact c4.same (by heap_steps)

end inplace

/-- number of source rows `reversePermutation` may read: all of them, or the first `size / extension` -/
def srcRows (self : NTT_Goldilocks) (size : BitVec 64) : Nat :=
  if self.extension ≤ 1 then size.toNat else (size / I32.toU64 self.extension).toNat

/-- the documented shape of a `reversePermutation(dst, src, size, offset_cols, ncols, ncols_all)` call:
    `size = 2^k` rows; the destination has `size` rows of `ncols` words, the source `srcRows` rows of `ncols_all ≥
    offset_cols + ncols` words; a destination that is not the source is another block; byte counts fit in 64 bits -/
structure RPShape (hp : Heap) (self : NTT_Goldilocks) (dst src : Ptr) (size oc nc nca : BitVec 64) (k : Nat) : Prop where
  hk : k ≤ 32
  hsize : size.toNat = 2 ^ k
  hnc : 0 < nc.toNat
  hcols : oc.toNat + nc.toNat ≤ nca.toNat
  hbytes : size.toNat * nca.toNat * 8 < 2 ^ 64
  hdst : dst.off + size.toNat * nc.toNat ≤ hp.ext dst.blk
  hsrc : src.off + srcRows self size * nca.toNat ≤ hp.ext src.blk
  hdisj : dst ≠ src → dst.blk ≠ src.blk

theorem reversePermutation_safe (fuel : Nat) (hf : log2Fuel ≤ fuel) (hp : Heap) (self : NTT_Goldilocks) (dst src : Ptr)
    (size oc nc nca : BitVec 64) (k : Nat) (hs : 0 < hp.size) (sh : RPShape hp self dst src size oc nc nca k) :
    NTT_reversePermutation.Safe fuel hp self dst src size oc nc nca := by
  obtain ⟨hk, hsize, hnc, hcols, hbytes, hdst, hsrc, hdisj⟩ := sh
  have hsz0 : 0 < size.toNat := pow2_pos hsize
  have hb3 : nc.toNat * 8 < 2 ^ 64 := by
    have : nc.toNat ≤ size.toNat * nca.toNat := Nat.le_trans (by omega) (Nat.le_mul_of_pos_left _ hsz0)
    omega
  have hb1 : size.toNat * nca.toNat + oc.toNat < 2 ^ 64 := by
    have : oc.toNat ≤ size.toNat * nca.toNat := Nat.le_trans (by omega) (Nat.le_mul_of_pos_left _ hsz0)
    omega
  have hb2 : size.toNat * nc.toNat < 2 ^ 64 := by
    have : size.toNat * nc.toNat ≤ size.toNat * nca.toNat := Nat.mul_le_mul_left _ (by omega)
    omega
  have hne0 : size ≠ 0#64 := by
    intro e
    rw [e] at hsz0
    exact absurd hsz0 (by decide)
  have hlogk : Model.Ntt.log2 size.toNat = k := by rw [hsize]; exact Nat.log2_two_pow
  have hlog := log2_gen_eq fuel hf size hne0
  rw [hlogk] at hlog
  have hds : (BitVec.ofNat 32 k).toNat = k := by
    rw [BitVec.toNat_ofNat]; exact Nat.mod_eq_of_lt (by omega)
  unfold NTT_reversePermutation.Safe
  intro y hy
  rw [hlog] at hy
  cases hy
  zeta_goal
  refine ⟨fun hne => ⟨fun he => ?_, fun he => ?_⟩, fun heq => ⟨fun he hassert => ?_, fun he hassert => ?_⟩⟩
  · have hne' : dst ≠ src := by simpa using hne
    have he' : self.extension ≤ 1 := of_decide_eq_true he
    unfold srcRows at hsrc
    rw [if_pos he'] at hsrc
    refine Loop.RangeAll.of_same (fun i s _ => by loop_same) (fun i st _ hi hst => ?_)
    exact rp1_safe dst src oc nc nca _ k size.toNat hk hds hsize hb1 hb2 hb3 hcols (hdisj hne') st (by rw [hst.2]; exact hdst)
      (by rw [hst.2]; exact hsrc) i hi
  · have hne' : dst ≠ src := by simpa using hne
    have he' : ¬ self.extension ≤ 1 := fun x => he (decide_eq_true x)
    unfold srcRows at hsrc
    rw [if_neg he'] at hsrc
    have hle : (size / I32.toU64 self.extension).toNat ≤ size.toNat := by
      rw [BitVec.toNat_udiv]; exact Nat.div_le_self _ _
    have hE : (size / I32.toU64 self.extension * nca).toNat = (size / I32.toU64 self.extension).toNat * nca.toNat := by
      have := Nat.mul_le_mul_right nca.toNat hle
      rw [mul_toNat _ _ (by omega)]
    refine Loop.RangeAll.of_same (fun i s _ => by loop_same) (fun i st _ hi hst => ?_)
    exact rp2_safe dst src oc nc nca _ k size.toNat hk hds hsize hb1 hb2 hb3 hcols (hdisj hne') _ _ hE st
      (by rw [hst.2]; exact hdst) (by rw [hst.2]; exact hsrc) i hi
  · have heq' : dst = src := by simpa using heq
    subst heq'
    refine Loop.RangeAll.of_same (fun i s hsame => by have hpos' := hsame.size_pos hs; loop_same) (fun i st _ hi hst => ?_)
    exact rp3_safe dst nc _ k size.toNat hk hds hsize hb2 hb3 hnc st (by rw [hst.2]; exact hdst) i hi
  · have heq' : dst = src := by simpa using heq
    subst heq'
    refine Loop.RangeAll.of_same (fun i s hsame => by have hpos' := hsame.size_pos hs; loop_same) (fun i st _ hi hst => ?_)
    exact rp4_safe dst nc _ k size.toNat hk hds hsize hb2 hb3 hnc _ st (by rw [hst.2]; exact hdst) i hi

end GoldilocksVerif.HeapSafe
