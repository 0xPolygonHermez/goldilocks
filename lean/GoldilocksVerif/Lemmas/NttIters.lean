/-
  L2, part 4: the loop over the passes (`List.foldl pass` over the schedule) and `NTT_iters` as a whole:
  bit-reversal permutation, passes, ping-pong parity, final copy.
-/
import GoldilocksVerif.Lemmas.NttPass
import GoldilocksVerif.Lemmas.NttRevPerm
import GoldilocksVerif.Lemmas.NttSched

namespace GoldilocksVerif.Model.Ntt
open GoldilocksVerif.NttSpec

/-- which of the two buffers has which size: `flag` = "`a` designates dst_" -/
def SzInv (flag : Bool) (a a2 : Buf) (ds as : Nat) : Prop :=
  if flag then a.size = ds ∧ a2.size = as else a.size = as ∧ a2.size = ds

/-- the output of the fused last pass of an inverse transform -/
def InvOut (o : Obj) (S : Nat → Nat → Nat → Nat → F) (d nc : Nat) (extend : Bool) (a : Buf) : Prop :=
  ∀ k' k, k' < 2 ^ d → k < nc → cell a nc k' k = S d 0 (inttIdx k' (2 ^ d)) k * den (scaleFactor o extend d k')

theorem foldl_spec (o : Obj) (S : Nat → Nat → Nat → Nat → F) (d nc ds as : Nat) (inverse extend : Bool)
    (hR : RootsOk o d) (hS : SRec d S) (hds : 2 ^ d * nc ≤ ds) (has : 2 ^ d * nc ≤ as) :
    ∀ (ps : List (Nat × Nat)) (t : Nat) (a a2 : Buf) (flag : Bool),
      SchedOk d (t + 1) ps → SzInv flag a a2 ds as → Lay S d t nc a →
      ∃ a' a2', ps.foldl (pass o (2 ^ d) d nc inverse extend) (a, a2, flag)
          = (a', a2', (flag != decide (ps.length % 2 = 1))) ∧
        SzInv (flag != decide (ps.length % 2 = 1)) a' a2' ds as ∧
        (if inverse = true ∧ ps ≠ [] then InvOut o S d nc extend a' else Lay S d d nc a') := by
  intro ps
  induction ps with
  | nil =>
    intro t a a2 flag hs hz hl
    have ht : t = d := by simp only [SchedOk] at hs; omega
    subst ht
    refine ⟨a, a2, ?_, ?_, ?_⟩
    · simp
    · simpa using hz
    · rw [if_neg (by simp)]; exact hl
  | cons p rest ih =>
    intro t a a2 flag hs hz hl
    obtain ⟨s, c⟩ := p
    simp only [SchedOk] at hs
    obtain ⟨hs1, hc1, hsc, hrest⟩ := hs
    subst hs1
    have hsz : 2 ^ d * nc ≤ a.size ∧ 2 ^ d * nc ≤ a2.size := by
      unfold SzInv at hz
      cases flag <;> simp at hz <;> omega
    have hflip : ∀ (a' a2' : Buf), a2'.size = a2.size → a'.size = a.size → SzInv (!flag) a2' a' ds as := by
      intro a' a2' h1 h2
      unfold SzInv at hz ⊢
      cases flag <;> simp at hz ⊢ <;> omega
    have hpar : ((!flag) != decide (rest.length % 2 = 1)) = (flag != decide ((rest.length + 1) % 2 = 1)) := by
      rcases Nat.mod_two_eq_zero_or_one rest.length with h | h
      · have h2 : (rest.length + 1) % 2 = 1 := by omega
        rw [h, h2]; cases flag <;> rfl
      · have h2 : (rest.length + 1) % 2 = 0 := by omega
        rw [h, h2]; cases flag <;> rfl
    rw [List.foldl_cons, List.length_cons]
    cases hrest' : rest with
    | nil =>
      rw [hrest'] at hrest
      have htc : t + c = d := by simp only [SchedOk] at hrest; omega
      by_cases hinv : inverse = true
      · subst hinv
        obtain ⟨a', a2', e, z1, z2, hout⟩ := pass_inv o S d t c nc a a2 flag extend hR hS htc hsz.1 hsz.2 hl
        refine ⟨a2', a', ?_, ?_, ?_⟩
        · rw [e]; simp
        · have := hflip a' a2' z1 z2
          simpa using this
        · rw [if_pos ⟨rfl, by simp⟩]; exact hout
      · have hinv' : inverse = false := by cases inverse <;> simp at hinv ⊢
        obtain ⟨a', a2', e, z1, z2, hout⟩ := pass_fwd o S d t c nc a a2 flag inverse extend hR hS (by omega)
          (Or.inr hinv') hsz.1 hsz.2 hl
        refine ⟨a2', a', ?_, ?_, ?_⟩
        · rw [e]; simp
        · have := hflip a' a2' z1 z2
          simpa using this
        · rw [if_neg (fun h => hinv h.1)]
          rw [htc] at hout; exact hout
    | cons p2 rest2 =>
      rw [hrest'] at hrest
      obtain ⟨s2, c2⟩ := p2
      have hlt : t + c < d := by simp only [SchedOk] at hrest; omega
      obtain ⟨a', a2', e, z1, z2, hout⟩ := pass_fwd o S d t c nc a a2 flag inverse extend hR hS (by omega)
        (Or.inl hlt) hsz.1 hsz.2 hl
      rw [e]
      have hrest2 : SchedOk d (t + c + 1) rest := by
        rw [hrest']
        have : t + 1 + c = t + c + 1 := by omega
        rw [← this]; exact hrest
      obtain ⟨b', b2', e', y1, y2⟩ := ih (t + c) a2' a' (!flag) hrest2 (hflip a' a2' z1 z2) hout
      rw [hrest'] at e' y1 y2 hpar
      refine ⟨b', b2', ?_, ?_, ?_⟩
      · rw [e', hpar]
      · rw [← hpar]; exact y1
      · simp only [ne_eq, reduceCtorEq, not_false_eq_true, and_true] at y2 ⊢
        exact y2

/-- the (zero-extended) input column `oc + k` of the source, as field elements -/
def xin (o : Obj) (srcB : Buf) (size nca oc : Nat) (k j : Nat) : F :=
  if o.extension ≤ 1 ∨ j < size / o.extension then den (srcB.getD (j * nca + oc + k) 0#64) else 0

def Sfam (d : Nat) (x : Nat → Nat → F) : Nat → Nat → Nat → Nat → F := fun t lo hi k => NttSpec.S d (x k) t lo hi

theorem Sfam_rec (d : Nat) (hd : d ≤ 32) (x : Nat → Nat → F) : SRec d (Sfam d x) := by
  intro t lo h k ht
  exact S_succ d (x k) t lo h ht hd

/-- what a forward / inverse transform of the column `x` delivers in row `k'` (size 1: nothing is computed) -/
def outSpec (o : Obj) (d : Nat) (inverse extend : Bool) (x : Nat → F) (k' : Nat) : F :=
  if d = 0 then x 0
  else if inverse then dft (omega d)⁻¹ (2 ^ d) x k' * den (scaleFactor o extend d k')
  else dft (omega d) (2 ^ d) x k'

/-- the part of `NTT_iters` after the bit-reversal permutation -/
def itersTail (o : Obj) (srcB : Buf) (dstIsSrc : Bool) (d nc np : Nat) (inverse extend : Bool) (st0 : Buf × Buf × Bool) :
    Except String (Buf × Buf) :=
  let st := (schedule d np).foldl (pass o (2 ^ d) d nc inverse extend) st0
  if !st.2.2 then
    if 2 ^ d > 1 then .error "assert(0) // should never need this copy" else
    let dd := copyRow st.2.1 0 st.1 0 (2 ^ d * nc)
    if dstIsSrc then .ok (dd, dd) else .ok (dd, srcB)
  else
    if dstIsSrc then .ok (st.1, st.1) else .ok (st.1, srcB)

theorem nttIters_eq (o : Obj) (dstB srcB auxB : Buf) (dstIsSrc : Bool) (d oc nc nca nphase : Nat) (inverse extend : Bool) :
    nttIters o dstB srcB auxB dstIsSrc (2 ^ d) oc nc nca nphase inverse extend =
      if clampPhase nphase d % 2 = 1 then
        match reversePermutation o auxB srcB false (2 ^ d) oc nc nca with
        | .error e => .error e
        | .ok t => itersTail o srcB dstIsSrc d nc (clampPhase nphase d) inverse extend
            (t, if dstIsSrc then srcB else dstB, false)
      else
        match reversePermutation o (if dstIsSrc then srcB else dstB) srcB dstIsSrc (2 ^ d) oc nc nca with
        | .error e => .error e
        | .ok t => itersTail o srcB dstIsSrc d nc (clampPhase nphase d) inverse extend (t, auxB, true) := by
  have hlog : log2 (2 ^ d) = d := Nat.log2_two_pow
  unfold nttIters
  simp only [hlog]
  rw [if_neg (by simp)]
  by_cases hodd : clampPhase nphase d % 2 = 1
  · rw [if_pos hodd, if_pos (decide_eq_true hodd)]
    cases reversePermutation o auxB srcB false (2 ^ d) oc nc nca <;> rfl
  · rw [if_neg hodd, if_neg (by simpa using hodd)]
    cases reversePermutation o (if dstIsSrc = true then srcB else dstB) srcB dstIsSrc (2 ^ d) oc nc nca <;> rfl

theorem itersTail_spec (o : Obj) (srcB t0 a20 : Buf) (flag0 dstIsSrc : Bool) (d nc np ds as : Nat) (inverse extend : Bool)
    (x : Nat → Nat → F) (hd : d ≤ 32) (hR : RootsOk o d)
    (hnp1 : 1 ≤ np) (hnp2 : 1 ≤ d → np ≤ d) (hnp3 : d = 0 → np = 1)
    (hds : 2 ^ d * nc ≤ ds) (has : 2 ^ d * nc ≤ as)
    (hflag0 : flag0 = !decide (np % 2 = 1)) (hsz0 : SzInv flag0 t0 a20 ds as) (hlay0 : Lay (Sfam d x) d 0 nc t0) :
    ∃ out, itersTail o srcB dstIsSrc d nc np inverse extend (t0, a20, flag0) = .ok (out, if dstIsSrc then out else srcB) ∧
      out.size = ds ∧
      ∀ k' k, k' < 2 ^ d → k < nc → cell out nc k' k = outSpec o d inverse extend (x k) k' := by
  unfold itersTail outSpec
  dsimp only
  rcases Nat.eq_zero_or_pos d with hd0 | hd1
  · -- size 1: no pass, the result is copied from aux
    subst hd0
    have hnp := hnp3 rfl
    subst hnp
    have hf : flag0 = false := by rw [hflag0]; rfl
    subst hf
    rw [schedule_zero]
    simp only [List.foldl_nil, Bool.not_false, if_true]
    have h1 : ¬ (2 ^ 0 > 1) := by simp
    rw [if_neg h1]
    unfold SzInv at hsz0
    simp only [Bool.false_eq_true, if_false] at hsz0
    have hcell : ∀ k' k, k' < 2 ^ 0 → k < nc → cell (copyRow a20 0 t0 0 (2 ^ 0 * nc)) nc k' k = x k 0 := by
      intro k' k hk' hk
      have : k' = 0 := by simpa using hk'
      subst this
      unfold cell
      rw [copyRow_getD, if_pos (by simp at hds ⊢; omega)]
      have h0 := hlay0 0 0 k (by simp) (by simp) hk
      unfold cell Sfam at h0
      rw [S_zero] at h0
      simp only [Nat.zero_mul, Nat.zero_add, Nat.sub_zero, Nat.add_zero] at h0 ⊢
      rw [h0]; rfl
    refine ⟨_, by cases dstIsSrc <;> rfl, by rw [copyRow_size]; exact hsz0.2, ?_⟩
    simpa using hcell
  · obtain ⟨hsched, hlen⟩ := schedule_ok d np hnp1 (hnp2 hd1)
    obtain ⟨a', a2', e, z, hout⟩ := foldl_spec o (Sfam d x) d nc ds as inverse extend hR (Sfam_rec d hd x) hds has
      (schedule d np) 0 t0 a20 flag0 hsched hsz0 hlay0
    have hfl : (flag0 != decide ((schedule d np).length % 2 = 1)) = true := by
      rw [hlen, hflag0]; cases decide (np % 2 = 1) <;> rfl
    rw [hfl] at e z
    rw [e]
    simp only [Bool.not_true, Bool.false_eq_true, if_false]
    unfold SzInv at z
    simp only [if_true] at z
    have hne : schedule d np ≠ [] := by
      intro h; rw [h] at hlen; simp at hlen; omega
    refine ⟨a', by cases dstIsSrc <;> rfl, z.1, ?_⟩
    intro k' k hk' hk
    rw [if_neg (by omega)]
    cases inverse with
    | false =>
      rw [if_neg (by simp)] at hout
      have := hout k' 0 k hk' (by simp) hk
      rw [Nat.sub_self, Nat.pow_zero, Nat.mul_one, Nat.add_zero] at this
      rw [this, if_neg (by simp)]
      exact S_final d (x k) k'
    | true =>
      rw [if_pos ⟨rfl, hne⟩] at hout
      rw [hout k' k hk' hk, if_pos rfl]
      unfold Sfam
      rw [S_final, dft_reflect d hd (x k) k' hk']

theorem nttIters_spec' (o : Obj) (dstB srcB auxB : Buf) (dstIsSrc : Bool) (d oc nc nca nphase : Nat) (inverse extend : Bool)
    (hd : d ≤ 32) (hR : RootsOk o d)
    (hdst : 2 ^ d * nc ≤ (if dstIsSrc then srcB else dstB).size) (haux : 2 ^ d * nc ≤ auxB.size)
    (hoc : oc + nc ≤ nca) (hip : dstIsSrc = true → oc = 0 ∧ nc = nca) :
    ∃ out, nttIters o dstB srcB auxB dstIsSrc (2 ^ d) oc nc nca nphase inverse extend
        = .ok (out, if dstIsSrc then out else srcB) ∧
      out.size = (if dstIsSrc then srcB else dstB).size ∧
      ∀ k' k, k' < 2 ^ d → k < nc →
        cell out nc k' k = outSpec o d inverse extend (xin o srcB (2 ^ d) nca oc k) k' := by
  rw [nttIters_eq]
  generalize ha0 : (if dstIsSrc then srcB else dstB) = a0 at hdst ⊢
  obtain ⟨cp1, cp2, cp3⟩ := clampPhase_range nphase d
  have hlay : ∀ t : Buf, (∀ i k, i < 2 ^ d → k < nc → t.getD (i * nc + k) 0#64 =
      if o.extension ≤ 1 ∨ bitrev d i < 2 ^ d / o.extension then srcB.getD (bitrev d i * nca + oc + k) 0#64 else 0#64) →
      Lay (Sfam d (xin o srcB (2 ^ d) nca oc)) d 0 nc t := by
    intro t ht hi lo k hhi hlo hk
    have : hi = 0 := by simpa using hhi
    subst this
    rw [Nat.sub_zero] at hlo
    unfold Sfam
    rw [S_zero, Nat.zero_mul, Nat.zero_add]
    unfold cell xin
    rw [ht lo k hlo hk]
    by_cases hc : o.extension ≤ 1 ∨ bitrev d lo < 2 ^ d / o.extension
    · rw [if_pos hc, if_pos hc]
    · rw [if_neg hc, if_neg hc, den_zero]
  have tail := fun t0 a20 flag0 => itersTail_spec o srcB t0 a20 flag0 dstIsSrc d nc (clampPhase nphase d) a0.size auxB.size
    inverse extend (xin o srcB (2 ^ d) nca oc) hd hR cp1 cp2 cp3 hdst haux
  by_cases hodd : clampPhase nphase d % 2 = 1
  · rw [if_pos hodd]
    obtain ⟨res, e, rs, rv⟩ := reversePermutation_spec o auxB srcB false d (2 ^ d) oc nc nca hd rfl
      (by simpa using haux) hoc (by simp)
    rw [e]
    exact tail res a0 false (by simp [hodd]) (by unfold SzInv; simp; simpa using rs) (hlay res rv)
  · rw [if_neg hodd]
    have hbuf : 2 ^ d * nc ≤ (if dstIsSrc = true then srcB else a0).size := by
      cases dstIsSrc
      · simpa using hdst
      · simp at ha0; simp; rw [ha0]; exact hdst
    obtain ⟨res, e, rs, rv⟩ := reversePermutation_spec o a0 srcB dstIsSrc d (2 ^ d) oc nc nca hd rfl hbuf hoc hip
    rw [e]
    refine tail res auxB true (by simp [hodd]) ?_ (hlay res rv)
    unfold SzInv; simp
    rw [rs]
    cases dstIsSrc
    · simp
    · simp at ha0; simp; rw [ha0]

theorem nttIters_spec (o : Obj) (dstB srcB auxB : Buf) (dstIsSrc : Bool) (d oc nc nca nphase : Nat) (inverse extend : Bool)
    (hd : d ≤ 32) (hR : RootsOk o d)
    (hdst : 2 ^ d * nc ≤ (if dstIsSrc then srcB else dstB).size) (haux : 2 ^ d * nc ≤ auxB.size)
    (hoc : oc + nc ≤ nca) (hip : dstIsSrc = true → oc = 0 ∧ nc = nca) :
    ∃ out, nttIters o dstB srcB auxB dstIsSrc (2 ^ d) oc nc nca nphase inverse extend
        = .ok (out, if dstIsSrc then out else srcB) ∧
      out.size = (if dstIsSrc then srcB else dstB).size ∧
      (d = 0 → ∀ k, k < nc → cell out nc 0 k = xin o srcB (2 ^ d) nca oc k 0) ∧
      (1 ≤ d → inverse = false → ∀ k' k, k' < 2 ^ d → k < nc →
        cell out nc k' k = dft (omega d) (2 ^ d) (xin o srcB (2 ^ d) nca oc k) k') ∧
      (1 ≤ d → inverse = true → ∀ k' k, k' < 2 ^ d → k < nc →
        cell out nc k' k = dft (omega d)⁻¹ (2 ^ d) (xin o srcB (2 ^ d) nca oc k) k' * den (scaleFactor o extend d k')) := by
  obtain ⟨out, e, hs, hc⟩ := nttIters_spec' o dstB srcB auxB dstIsSrc d oc nc nca nphase inverse extend hd hR hdst haux hoc hip
  refine ⟨out, e, hs, fun h0 k hk => ?_, fun h1 hi k' k hk' hk => ?_, fun h1 hi k' k hk' hk => ?_⟩
  · rw [hc 0 k (Nat.two_pow_pos d) hk, outSpec, if_pos h0]
  · rw [hc k' k hk' hk, outSpec, if_neg (by omega), hi, if_neg Bool.false_ne_true]
  · rw [hc k' k hk' hk, outSpec, if_neg (by omega), hi, if_pos rfl]

end GoldilocksVerif.Model.Ntt
