/-
  Field-level facts about the hand models of inv / div / exp (Model/Inv.lean), for C10: the Euclid invariant,
  `equal` / `isZero` as statements about residues, and one iteration of `expLoop` with the bit tests in `Nat`
  (`expLoop_unfold`, which is also what the generated loop is matched against in Lemmas/BridgeInvCore.lean).
-/
import GoldilocksVerif.Model.Inv
import GoldilocksVerif.Lemmas.Prime
set_option linter.unusedSimpArgs false
set_option linter.unusedTactic false
set_option linter.unreachableTactic false
namespace GoldilocksVerif
open Gen.Scalar Model

theorem den_toU64 (x : BitVec 64) : den (toU64__rE x) = den x := by
  apply den_of_mod; rw [Model.toU64_r_toNat, Nat.mod_mod]
theorem toU64_r_lt (x : BitVec 64) : (toU64__rE x).toNat < P := by
  rw [Model.toU64_r_toNat]; exact Nat.mod_lt _ P_pos
theorem fromU64_eq (x : BitVec 64) : fromU64__rE x = x := rfl
theorem den_fromU64 (x : BitVec 64) : den (fromU64__rE x) = den x := by rw [fromU64_eq]

theorem den_stepVal (x y q : BitVec 64) : den (stepVal x y q) = den x - den q * den y := by
  unfold stepVal
  rw [den_toU64, den_sub_r, den_mul_r, den_fromU64, den_fromU64]

/-- the word `GOLDILOCKS_PRIME` -/
theorem P_word_toNat : (18446744069414584321#64 : BitVec 64).toNat = P := rfl
theorem den_P : den 18446744069414584321#64 = 0 := ZMod.natCast_self P
theorem den_one : den 1#64 = 1 := Nat.cast_one
theorem den_zero : den 0#64 = 0 := Nat.cast_zero
theorem den_zero_r : den zero__r = 0 := den_zero
theorem den_one_r : den one__r = 1 := den_one

theorem toNat_pos_of_ne_zero {x : BitVec 64} (h : x ≠ 0#64) : 0 < x.toNat :=
  Nat.pos_of_ne_zero fun h' => h (BitVec.eq_of_toNat_eq h')

theorem invLoop_of_zero (t r newt newr : BitVec 64) (hn : newr.toNat < P) (hz : newr = 0#64) :
    invLoop t r newt newr hn = t := by
  subst hz; exact invLoop_zero _ _ _ _

/-- The invariant of the extended Euclid: `t·a = r` and `newt·a = newr` in the field, `gcd(r, newr) = 1` on the integers. -/
theorem invLoop_spec (a : F) : ∀ (k : Nat) (t r newt newr : BitVec 64) (hn : newr.toNat < P), newr.toNat = k →
    t.toNat < P → den t * a = den r → den newt * a = den newr → Nat.gcd r.toNat newr.toNat = 1 →
    den (invLoop t r newt newr hn) * a = 1 ∧ (invLoop t r newt newr hn).toNat < P := by
  intro k
  induction k using Nat.strong_induction_on with
  | _ k ih =>
    intro t r newt newr hn hk ht h1 h2 hg
    by_cases h0 : newr = 0#64
    · subst h0
      rw [invLoop_zero]
      refine ⟨?_, ht⟩
      have hr1 : r.toNat = 1 := by simpa using hg
      rw [h1]
      have : den r = ((1 : Nat) : F) := den_of_mod _ 1 (by rw [hr1])
      simpa using this
    · rw [invLoop_succ t r newt newr hn h0]
      have hpos : 0 < newr.toNat := toNat_pos_of_ne_zero h0
      have e_r' : (toU64__rE (fromU64__rE newr)).toNat = newr.toNat := by
        rw [Model.toU64_r_toNat]; exact Nat.mod_eq_of_lt hn
      have e_newr' : (stepVal r newr (fromU64__rE (r / newr))).toNat = r.toNat % newr.toNat :=
        stepVal_rem r newr hpos hn
      have i1 : den (toU64__rE (fromU64__rE newt)) * a = den (toU64__rE (fromU64__rE newr)) := by
        rw [den_toU64, den_toU64, den_fromU64, den_fromU64]; exact h2
      have i2 : den (stepVal t newt (fromU64__rE (r / newr))) * a = den (stepVal r newr (fromU64__rE (r / newr))) := by
        rw [den_stepVal, den_stepVal, sub_mul, h1, mul_assoc, h2]
      have ig : Nat.gcd (toU64__rE (fromU64__rE newr)).toNat (stepVal r newr (fromU64__rE (r / newr))).toNat = 1 := by
        rw [e_r', e_newr', Nat.gcd_comm, ← Nat.gcd_rec, Nat.gcd_comm]; exact hg
      have hlt : (stepVal r newr (fromU64__rE (r / newr))).toNat < k := by
        rw [e_newr', ← hk]; exact Nat.mod_lt _ hpos
      exact ih _ hlt _ _ _ _ (stepVal_lt r newr h0 hn) rfl (toU64_r_lt _) i1 i2 ig

/-- the out-parameter overload of `toU64` (same text as the value-returning one) -/
theorem toU64_e_toNat (x : BitVec 64) : (toU64__eE x).toNat = x.toNat % P := Model.toU64_r_toNat x

/-- `Goldilocks::equal` compares the canonical representatives.  The proof does not depend on how the generated text names or
    orders the two canonical values, nor on the orientation of the `==`: both sides go to `Nat` and are compared up to symmetry. -/
theorem equal_iff_mod (a b : BitVec 64) : equal a b = true ↔ a.toNat % P = b.toNat % P := by
  unfold equal
  -- (`simp` closes the goal itself when the two sides come out in the same orientation)
  simp only [beq_iff_eq, ← BitVec.toNat_inj, Model.toU64_r_toNat, toU64_e_toNat] <;> first | exact Iff.rfl | exact eq_comm

theorem isZero_iff (a : BitVec 64) : isZero a = true ↔ a.toNat % P = 0 := by
  unfold isZero
  rw [equal_iff_mod]
  have : (zero__r).toNat % P = 0 := by decide
  rw [this]

theorem equal_iff (a b : BitVec 64) : equal a b = true ↔ den a = den b := by
  rw [den_eq_iff]
  exact equal_iff_mod a b

theorem isZero_iff_den (a : BitVec 64) : isZero a = true ↔ den a = 0 := by
  unfold isZero
  rw [equal_iff, den_zero_r]

/-- a partial function that refuses exactly when `Z` holds and whose results satisfy `Q` is total, with `Q`, outside `Z`: how
    `inv_spec`, `g3inv_den`, `g3batchInverse_none_iff`, `G3_inv_gen_spec` give "every non-zero element is inverted" -/
theorem Option.total_of_none_iff {α : Type} {o : Option α} {Z : Prop} {Q : α → Prop} (h0 : o = none ↔ Z)
    (h1 : ∀ r, o = some r → Q r) (hz : ¬ Z) : ∃ r, o = some r ∧ Q r := by
  cases o with
  | none => exact absurd (h0.mp rfl) hz
  | some r => exact ⟨r, rfl, h1 r rfl⟩

theorem inv_spec (a : BitVec 64) :
    (Model.inv a = none ↔ den a = 0) ∧
    (∀ r, Model.inv a = some r → den r * den a = 1 ∧ r.toNat < P) := by
  constructor
  · unfold Model.inv
    rw [← isZero_iff_den]
    by_cases h : isZero a = true
    · simp only [h, if_true]
    · simp only [h, Bool.false_eq_true, if_false, reduceCtorEq]
  · intro r hr
    unfold Model.inv at hr
    by_cases h : isZero a = true
    · simp [h] at hr
    · simp only [h, Bool.false_eq_true, if_false, Option.some.injEq] at hr
      have hnz : a.toNat % P ≠ 0 := fun hh => h ((isZero_iff a).mpr hh)
      have hcop : Nat.gcd (18446744069414584321#64 : BitVec 64).toNat (toU64__rE a).toNat = 1 := by
        rw [Model.toU64_r_toNat]
        exact (Nat.Prime.coprime_iff_not_dvd P_prime).mpr
          (Nat.not_dvd_of_pos_of_lt (Nat.pos_of_ne_zero hnz) (Nat.mod_lt _ P_prime.pos))
      have key := invLoop_spec (den a) _ 0#64 18446744069414584321#64 1#64 (toU64__rE a) (toU64_r_lt a) rfl
        (by decide) (by rw [den_zero, den_P]; ring) (by rw [den_one, den_toU64]; ring) hcop
      rw [← hr, den_fromU64]
      exact key

theorem ushiftRight_one_toNat (e : BitVec 64) : (e >>> 1).toNat = e.toNat / 2 := by
  rw [BitVec.toNat_ushiftRight, Nat.shiftRight_eq_div_pow]

theorem ushiftRight_one_eq_zero (e : BitVec 64) : (e >>> 1 = 0#64) ↔ e.toNat / 2 = 0 := by
  rw [← BitVec.toNat_inj, ushiftRight_one_toNat]; rfl

theorem and_one_toNat (e : BitVec 64) : (e &&& 1#64).toNat = e.toNat % 2 := by
  rw [BitVec.toNat_and]
  show e.toNat &&& 1 = e.toNat % 2
  exact Nat.and_one_is_mod _

theorem and_one_eq_zero (e : BitVec 64) : (e &&& 1#64 = 0#64) ↔ e.toNat % 2 = 0 := by
  rw [← BitVec.toNat_inj, and_one_toNat]; rfl

theorem expLoop_unfold (n : Nat) (result base e : BitVec 64) :
    expLoop (n + 1) result base e =
      if e.toNat / 2 = 0 then (if e.toNat % 2 = 1 then mul__eEE result base else result)
      else expLoop n (if e.toNat % 2 = 1 then mul__eEE result base else result) (mul__eEE base base) (e >>> 1) := by
  have hc : (e &&& 1#64 != 0#64) = decide (e.toNat % 2 = 1) := by
    rw [Bool.eq_iff_iff]
    simp only [bne_iff_ne, ne_eq, and_one_eq_zero, decide_eq_true_eq]
    omega
  have hz : (e >>> 1 == 0#64) = decide (e.toNat / 2 = 0) := by
    rw [Bool.eq_iff_iff]
    simp only [beq_iff_eq, ushiftRight_one_eq_zero, decide_eq_true_eq]
  conv => lhs; unfold expLoop
  simp only [hc, hz, decide_eq_true_eq]

/-- `Goldilocks::exp` is the square-and-multiply of Lemmas/Prime.lean (which leaves when the exponent is 0, the C++ loop one
    test earlier, when its half is): for every fuel and exponent -/
theorem expLoop_eq_sqMul : ∀ (n : Nat) (result base e : BitVec 64),
    expLoop n result base e = sqMul mul__eEE n base e.toNat result := by
  intro n
  induction n with
  | zero => exact fun _ _ _ => rfl
  | succ n ih =>
    intro result base e
    rw [expLoop_unfold, ih, ushiftRight_one_toNat, sqMul]
    by_cases h0 : e.toNat = 0
    · rw [if_pos h0, if_pos (by omega), if_neg (by omega)]
    · rw [if_neg h0]
      split
      · rename_i hz
        rw [hz]
        cases n <;> rfl
      · rfl

theorem expLoop_spec (n : Nat) (result base e : BitVec 64) (h : e.toNat < 2 ^ n) :
    den (expLoop n result base e) = den result * den base ^ e.toNat := by
  rw [expLoop_eq_sqMul]
  exact sqMul_hom mul__eEE den den_mul n base e.toNat result h

theorem exp_spec (b e : BitVec 64) : den (Model.exp b e) = den b ^ e.toNat := by
  unfold Model.exp
  rw [expLoop_spec 64 _ _ _ e.isLt, den_one_r, one_mul]

end GoldilocksVerif
