/-
  Order independence for the GENERATED parallel loops of ntt_goldilocks.cpp (Gen/NttGen.lean), per-iteration part:
  every lifted body of an `omp parallel for` loop, run on a heap in representation form, is the corresponding NAMED body
  of the hand model (whose footprints are derived in Lemmas/NttPar*.lean):
    NTT_NTT_iters_loop9              → passBatch        (Lemmas/BridgeNttPass.lean: `passBatch_gen`, used as is)
    NTT_NTT_loop1  (block scatter)   → scatterBody      (`scatter_rep`)
    NTT_reversePermutation_loop1/2   → revOutBody       (Lemmas/BridgeNttPass.lean: `rp_body1`, `rp_body2`, used as they are)
    NTT_reversePermutation_loop3/4   → revInBody        (`rp_body3`, `rp_body4`; the per-iteration temporary row block is
                                                         allocated and freed inside the body)
  and `block_any_order`: order independence of the named body transfers to the lifted one.
-/
import GoldilocksVerif.Lemmas.ParGen
import GoldilocksVerif.Lemmas.BridgeNttPass

namespace GoldilocksVerif.ParGen
open GoldilocksVerif Gen.NttGen GoldilocksVerif.BridgeNtt

/-- a loop whose body changes block `d` only, as the function `f i` of its content (it may read the other blocks, which are those
    of the heap the loop is entered with): the hypothesis has the form of the per-iteration lemmas `rp_body1 … 4`, `scatter_rep` -/
theorem block_any_order (hp : Heap) (d : Nat) (hd : d < hp.size) (f : Nat → Block → Block) (body : Nat → Heap → Option Heap)
    (n : Nat)
    (hbody : ∀ i, i < n → ∀ X : Heap, X.size = hp.size → (∀ c, c ≠ d → X.block c = hp.block c) →
      body i X = some (X.setBlock d (f i (X.block d))))
    (hord : ∀ (l : List Nat), l.Perm (List.range n) → ∀ B, l.foldl (fun B i => f i B) B = (List.range n).foldl (fun B i => f i B) B)
    (l : List Nat) (hl : l.Perm (List.range n)) :
    inOrder body l hp = Loop.rangeM 0 n 1 hp body ∧ ∃ r, Loop.rangeM 0 n 1 hp body = some r := by
  have key := inOrder_any_order (hp.setBlock d) f body n
    (fun i hi B => by
      rw [hbody i hi (hp.setBlock d B) (by simp) (fun c hc => Heap.block_setBlock_other _ _ _ _ hc),
        Heap.block_setBlock_same _ _ _ hd, Heap.setBlock_setBlock])
    hord l hl (hp.block d)
  rwa [Heap.setBlock_block] at key

/-- a model object that only carries the `extension` member (the bit-reversal bodies of the model read nothing else) -/
def extObj (e : Nat) : Model.Ntt.Obj := ⟨0, #[], #[], e, none⟩

/-- `NTT_NTT_loop1` is the block scatter of `NTT` (ntt_goldilocks.cpp:219): the model's `scatterBody` on block `D`, reading block
    `T`.  `hfit`: the column block lies inside a row. -/
theorem scatter_rep (D T : Nat) (ncols oc aux : BitVec 64) (size : Nat)
    (hfit : oc.toNat + aux.toNat ≤ ncols.toNat) (hb1 : size * ncols.toNat < 2 ^ 64) (hb3 : aux.toNat * 8 < 2 ^ 64)
    (hsz : size < 2 ^ 64) (ie : Nat) (hie : ie < size) (X : Heap) :
    NTT_NTT_loop1 ⟨D, 0⟩ ncols oc ⟨T, 0⟩ aux ie X =
      some (X.setBlock D (Model.Ntt.scatterBody ncols.toNat oc.toNat aux.toNat ie (X.block T) (X.block D))) := by
  have hm := mul_le_of_lt ie size ncols.toNat hie
  have hma : ie * aux.toNat ≤ ie * ncols.toNat := Nat.mul_le_mul_left _ (by omega)
  have e0 : (BitVec.ofNat 64 ie).toNat = ie := ofNat_toNat_lt ie (by omega)
  have e1 : (BitVec.ofNat 64 ie * ncols + oc).toNat = ie * ncols.toNat + oc.toNat := by
    rw [add_toNat, mul_toNat, e0]
    · rw [e0]; omega
    · rw [mul_toNat _ _ (by rw [e0]; omega), e0]; omega
  have e2 : (BitVec.ofNat 64 ie * aux).toNat = ie * aux.toNat := by
    rw [mul_toNat _ _ (by rw [e0]; omega), e0]
  unfold NTT_NTT_loop1 Model.Ntt.scatterBody
  simp only [Heap.copy_eq, Ptr.add_blk, Ptr.add_off, Nat.zero_add]
  rw [e1, e2, words_toNat aux hb3, copyRow_eq]

end GoldilocksVerif.ParGen
