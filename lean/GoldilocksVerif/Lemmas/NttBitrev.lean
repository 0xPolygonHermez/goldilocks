/-
  Bit reversal on `Nat` (specification side of `BR`), core-only facts.
-/
import GoldilocksVerif.Lemmas.NttArr

namespace GoldilocksVerif.Model.Ntt

def bitrev : Nat → Nat → Nat
  | 0, _ => 0
  | d + 1, i => (i % 2) * 2 ^ d + bitrev d (i / 2)

theorem bitrev_zero (i : Nat) : bitrev 0 i = 0 := rfl
theorem bitrev_succ (d i : Nat) : bitrev (d + 1) i = (i % 2) * 2 ^ d + bitrev d (i / 2) := rfl

theorem bitrev_lt (d : Nat) : ∀ i, bitrev d i < 2 ^ d := by
  induction d with
  | zero => intro i; simp [bitrev]
  | succ d ih =>
    intro i
    rw [bitrev_succ, Nat.pow_succ]
    have := ih (i / 2)
    rcases Nat.mod_two_eq_zero_or_one i with h0 | h0 <;> rw [h0] <;> omega

theorem bitrev_even (d i : Nat) : bitrev (d + 1) (2 * i) = bitrev d i := by
  rw [bitrev_succ]
  have h1 : 2 * i % 2 = 0 := by omega
  have h2 : 2 * i / 2 = i := by omega
  rw [h1, h2]; omega

theorem bitrev_odd (d i : Nat) : bitrev (d + 1) (2 * i + 1) = 2 ^ d + bitrev d i := by
  rw [bitrev_succ]
  have h1 : (2 * i + 1) % 2 = 1 := by omega
  have h2 : (2 * i + 1) / 2 = i := by omega
  rw [h1, h2]; omega

end GoldilocksVerif.Model.Ntt
