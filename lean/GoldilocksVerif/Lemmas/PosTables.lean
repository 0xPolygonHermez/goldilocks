/-
  Poseidon (C06): the side conditions on the constant tables (Gen/PosConsts.lean) in the form the vector backends'
  proofs consume them: round constants canonical, M_ entries below 2^8, M_ / P_ the transposes of M / P.
  (The same finite facts are exported as `C06_tables_*` in Props/C06.lean.)
-/
import GoldilocksVerif.Gen.PosConsts
import GoldilocksVerif.Lemmas.ScalarNat
namespace GoldilocksVerif
open Gen.PosConsts

theorem all_getD {α : Type} (l : List α) (p : α → Bool) (d : α) (h : l.all p = true) (k : Nat) (hk : k < l.length) :
    p (l.getD k d) = true := by
  rw [List.all_eq_true] at h
  have e : l.getD k d = l[k] := by simp [hk]
  rw [e]
  exact h _ (List.getElem_mem hk)

theorem posC_all_canon : (c_Pos_C_list.all (fun x => decide (x.toNat < P))) = true := by decide +kernel

theorem posM__all_8bit : (c_Pos_M__list.all (fun x => decide (x.toNat < 256))) = true := by decide +kernel

theorem posC_canon (k : Nat) (hk : k < 118) : (c_Pos_C k).toNat < P :=
  of_decide_eq_true (all_getD c_Pos_C_list _ 0#64 posC_all_canon k hk)

theorem posM__8bit (k : Nat) (hk : k < 144) : (c_Pos_M_ k).toNat < 256 :=
  of_decide_eq_true (all_getD c_Pos_M__list _ 0#64 posM__all_8bit k hk)

theorem range_all (n : Nat) (p : Nat → Bool) (h : (List.range n).all p = true) (k : Nat) (hk : k < n) : p k = true := by
  rw [List.all_eq_true] at h
  exact h k (List.mem_range.mpr hk)

/-- column `i` of a row-major table with rows of length `n`: every `n`-th element from position `i` on
  (one pass over the list; reading the entries of a transposed table one by one with `getD` is quadratic) -/
def col {α : Type} (n : Nat) : Nat → List α → List α
  | _, [] => []
  | 0, x :: l => x :: col n (n - 1) l
  | i + 1, _ :: l => col n i l

theorem col_getD {α : Type} (n : Nat) (hn : 0 < n) (d : α) :
    ∀ (l : List α) (i j : Nat), i < n → (col n i l).getD j d = l.getD (i + n * j) d
  | [], i, j, _ => by cases i <;> simp [col]
  | x :: l, 0, 0, _ => by simp [col]
  | x :: l, 0, j + 1, _ => by
    have e : 0 + n * (j + 1) = (n - 1 + n * j) + 1 := by rw [Nat.mul_succ]; omega
    rw [e, col, List.getD_cons_succ, List.getD_cons_succ, col_getD n hn d l (n - 1) j (by omega)]
  | x :: l, i + 1, j, h => by
    have e : i + 1 + n * j = (i + n * j) + 1 := by omega
    rw [e, col, List.getD_cons_succ, col_getD n hn d l i j (by omega)]

/-- `lt` is the transpose of the `n × n` row-major table `l` as soon as row `i` of `lt` is column `i` of `l` -/
theorem transp_of_cols {α : Type} [DecidableEq α] (n : Nat) (hn : 0 < n) (lt l : List α) (d : α)
    (h : (List.range n).all (fun i => decide ((lt.drop (n * i)).take n = col n i l)) = true) :
    (List.range (n * n)).all (fun k => lt.getD k d == l.getD (n * (k % n) + k / n) d) = true := by
  rw [List.all_eq_true] at h ⊢
  intro k hk
  rw [List.mem_range] at hk
  have hj : k % n < n := Nat.mod_lt _ hn
  have hi : k / n < n := Nat.div_lt_of_lt_mul hk
  have hr := of_decide_eq_true (h (k / n) (List.mem_range.mpr hi))
  have e : lt.getD k d = ((lt.drop (n * (k / n))).take n).getD (k % n) d := by
    rw [List.getD_eq_getElem?_getD, List.getD_eq_getElem?_getD, List.getElem?_take, if_pos hj, List.getElem?_drop,
      Nat.div_add_mod]
  rw [beq_iff_eq, e, hr, col_getD n hn d l _ _ hi, Nat.add_comm]

theorem posM__transp_all :
    (List.range 144).all (fun k => c_Pos_M__list.getD k 0 == c_Pos_M_list.getD (12 * (k % 12) + k / 12) 0) = true :=
  transp_of_cols 12 (by decide) _ _ 0 (by decide +kernel)

theorem posP__transp_all :
    (List.range 144).all (fun k => c_Pos_P__list.getD k 0 == c_Pos_P_list.getD (12 * (k % 12) + k / 12) 0) = true :=
  transp_of_cols 12 (by decide) _ _ 0 (by decide +kernel)

theorem posM__transp (k : Nat) (hk : k < 144) : c_Pos_M_ k = c_Pos_M (12 * (k % 12) + k / 12) :=
  eq_of_beq (range_all _ _ posM__transp_all k hk)

theorem posP__transp (k : Nat) (hk : k < 144) : c_Pos_P_ k = c_Pos_P (12 * (k % 12) + k / 12) :=
  eq_of_beq (range_all _ _ posP__transp_all k hk)

end GoldilocksVerif
