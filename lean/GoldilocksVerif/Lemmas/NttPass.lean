/-
  L2, part 3: one pass of `NTT_iters` = the stages on every batch followed by the transposing copy
  (or, in the last pass of an inverse transform, the reflecting and scaling copy).
  The batches are independent iterations (Lemmas/NttParBatch.lean), so every row of the other buffer holds what the batch that
  writes it makes of the buffers the pass started from (`PIter.iter_at`); no invariant over the batches is needed.
-/
import GoldilocksVerif.Lemmas.NttBatch
import GoldilocksVerif.Lemmas.NttDit

namespace GoldilocksVerif.Model.Ntt
open GoldilocksVerif.NttSpec GoldilocksVerif.Par

theorem fill_cell (dst : Buf) (nc r0 : Nat) (g : Nat → W) (k : Nat) (hk : k < nc) (hfit : (r0 + 1) * nc ≤ dst.size) :
    cell (iter nc dst (fun k d => d.setIfInBounds (r0 * nc + k) (g k))) nc r0 k = den (g k) := by
  unfold cell
  rw [fill_row dst nc r0 g r0 k hk hfit, if_pos rfl]

theorem copyRow_cell (dst src : Buf) (nc r0 s0 k : Nat) (hk : k < nc) (hfit : (r0 + 1) * nc ≤ dst.size) :
    cell (copyRow dst (r0 * nc) src (s0 * nc) nc) nc r0 k = cell src nc s0 k :=
  fill_cell dst nc r0 _ k hk hfit

theorem scaleRow_cell (a2 a : Buf) (nc r0 s0 k : Nat) (f : W) (hk : k < nc) (hfit : (r0 + 1) * nc ≤ a2.size) :
    cell (scaleRow a2 a (r0 * nc) (s0 * nc) nc f) nc r0 k = cell a nc s0 k * den f := by
  have h := fill_cell a2 nc r0 (fun k => Gen.Scalar.mul__eEE (a.getD (s0 * nc + k) 0#64) f) k hk hfit
  rw [den_mul] at h
  exact h

/-- a loop over the rows `x` of batch `b` that writes row `ρ (x*nB + b)` from row `b*B + x` (`wr`), for an injective `ρ`: a
    parallel loop, so each row holds what its own `wr` makes of the initial buffer -/
theorem rowLoop_val (wr : Buf → Buf → Nat → Nat → Buf) (ρ : Nat → Nat) (φ : Nat → F → F) (B nB nc : Nat)
    (hloc : ∀ (A' : Buf) (r0 s0 : Nat), LocalB (fun C => wr C A' r0 s0) (fun j => r0 * nc ≤ j ∧ j < r0 * nc + nc))
    (hval : ∀ (C A' : Buf) (r0 s0 k : Nat), (r0 + 1) * nc ≤ C.size → k < nc →
      cell (wr C A' r0 s0) nc r0 k = φ r0 (cell A' nc s0 k))
    (hρlt : ∀ q, q < B * nB → ρ q < B * nB) (hρ : ∀ q q', q < B * nB → q' < B * nB → ρ q = ρ q' → q = q')
    (A2 A' : Buf) (b x k : Nat) (hb : b < nB) (hx : x < B) (hk : k < nc) (hsz : B * nB * nc ≤ A2.size) :
    cell (iter B A2 (fun x a2 => wr a2 A' (ρ (x * nB + b)) (b * B + x))) nc (ρ (x * nB + b)) k
      = φ (ρ (x * nB + b)) (cell A' nc (b * B + x) k) := by
  obtain ⟨_, h2, _⟩ := LocalB.iter_at (n := B) (fun x => hloc A' (ρ (x * nB + b)) (b * B + x))
    (fun x x' hx hx' hne w h h' => hne (by
      have e := hρ _ _ (mr_lt _ _ _ _ hx hb) (mr_lt _ _ _ _ hx' hb) (row_unique nc _ _ w h.1 h.2 h'.1 h'.2)
      have := mr_div x b nB hb
      have := mr_div x' b nB hb
      rw [e] at *
      omega)) A2
  refine Eq.trans (congrArg den (h2 x hx _ ⟨by omega, by omega⟩)) ?_
  exact hval A2 A' _ _ k (row_fits nc (B * nB) _ _ (hρlt _ (mr_lt _ _ _ _ hx hb)) hsz) hk

/-- what the copy of a pass does to a value on its way into row `row` -/
def copyPhi (o : Obj) (d : Nat) (li extend : Bool) (row : Nat) (v : F) : F :=
  if li then v * den (scaleFactor o extend d row) else v

/-- the copy of batch `b`, both kinds: logical row `q = x*nB + b` lands in row `passSigma q`, transformed by `copyPhi` -/
theorem batchG_val (o : Obj) (d c nc : Nat) (li extend : Bool) (hc : c ≤ d) (A' A2 : Buf) (b x k : Nat)
    (hb : b < 2 ^ (d - c)) (hx : x < 2 ^ c) (hk : k < nc) (hsz : 2 ^ d * nc ≤ A2.size) :
    cell (batchG o (2 ^ d) d nc c li extend b A' A2) nc (passSigma (2 ^ d) li (x * 2 ^ (d - c) + b)) k
      = copyPhi o d li extend (passSigma (2 ^ d) li (x * 2 ^ (d - c) + b)) (cell A' nc (b * 2 ^ c + x) k) := by
  have hdiv : 2 ^ d / 2 ^ c = 2 ^ (d - c) := Nat.pow_div hc (by omega)
  have eD : 2 ^ c * 2 ^ (d - c) = 2 ^ d := (pow_split c (d - c) d (by omega)).symm
  rw [← eD] at hsz
  unfold batchG passSigma copyPhi
  rw [hdiv]
  cases li with
  | false =>
    exact rowLoop_val (fun C A' r0 s0 => copyRow C (r0 * nc) A' (s0 * nc) nc) (fun q => q) (fun _ v => v) _ _ nc
      (fun A' r0 s0 => (copyRow_writer (r0 * nc) (s0 * nc) nc).local A')
      (fun C A' r0 s0 k hfit hk => copyRow_cell C A' nc r0 s0 k hk hfit)
      (fun _ h => h) (fun _ _ _ _ h => h) A2 A' b x k hb hx hk hsz
  | true =>
    exact rowLoop_val (fun C A' r0 s0 => scaleRow C A' (r0 * nc) (s0 * nc) nc (scaleFactor o extend d r0))
      (fun q => inttIdx q (2 ^ d)) (fun row v => v * den (scaleFactor o extend d row)) _ _ nc
      (fun A' r0 s0 => (scaleRow_writer (r0 * nc) (s0 * nc) nc _).local A')
      (fun C A' r0 s0 k hfit hk => scaleRow_cell C A' nc r0 s0 k _ hk hfit)
      (fun _ _ => by rw [eD]; exact inttIdx_lt _ _ (Nat.two_pow_pos d))
      (fun q q' hq hq' => inttIdx_inj _ q q' (by rw [← eD]; exact hq) (by rw [← eD]; exact hq'))
      A2 A' b x k hb hx hk hsz

/-- the layout after the passes covering stages `1 … t`: row `hi * 2^(d-t) + lo` holds `S t lo hi` -/
def Lay (S : Nat → Nat → Nat → Nat → F) (d t nc : Nat) (a : Buf) : Prop :=
  ∀ hi lo k, hi < 2 ^ t → lo < 2 ^ (d - t) → k < nc → cell a nc (hi * 2 ^ (d - t) + lo) k = S t lo hi k

theorem passBatches_spec (o : Obj) (S : Nat → Nat → Nat → Nat → F) (d t c nc : Nat) (a a2 : Buf) (li extend : Bool)
    (hR : RootsOk o d) (hS : SRec d S) (htc : t + c ≤ d)
    (ha : 2 ^ d * nc ≤ a.size) (ha2 : 2 ^ d * nc ≤ a2.size) (hlay : Lay S d t nc a) :
    let R := iter (2 ^ d / 2 ^ c) (a, a2) (passBatch o (2 ^ d) d nc (t + 1) c li extend)
    R.1.size = a.size ∧ R.2.size = a2.size ∧
    ∀ q k, q < 2 ^ d → k < nc →
      cell R.2 nc (passSigma (2 ^ d) li q) k
        = copyPhi o d li extend (passSigma (2 ^ d) li q) (S (t + c) (q % 2 ^ (d - t - c)) (q / 2 ^ (d - t - c)) k) := by
  intro R
  have hdiv : 2 ^ d / 2 ^ c = 2 ^ (d - c) := Nat.pow_div (by omega) (by omega)
  have eD : 2 ^ d = 2 ^ c * 2 ^ (d - c) := pow_split c (d - c) d (by omega)
  have eN : 2 ^ (d - c) = 2 ^ (d - t - c) * 2 ^ t := pow_split (d - t - c) t (d - c) (by omega)
  have eG : 2 ^ (d - t) = 2 ^ (d - t - c) * 2 ^ c := pow_split (d - t - c) c (d - t) (by omega)
  have hG0 : 0 < 2 ^ (d - t - c) := Nat.two_pow_pos _
  -- the batches are independent iterations (C12): what batch `m` writes is what it alone makes of `(a, a2)`
  obtain ⟨hsh, hat, _⟩ := PIter.iter_at (n := 2 ^ d / 2 ^ c) (batchIter o (2 ^ d) d nc (t + 1) c li extend)
    (fun b b' hb hb' hne => batchIter_indep o (2 ^ d) d nc (t + 1) c li extend b b' hb hb' hne) (a, a2)
  have hrun : (fun b st => (batchIter o (2 ^ d) d nc (t + 1) c li extend b).run st)
      = passBatch o (2 ^ d) d nc (t + 1) c li extend := by
    funext b st; exact batchIter_run o (2 ^ d) d nc (t + 1) c li extend b st
  rw [hrun] at hsh hat
  refine ⟨(List.cons.inj hsh).1, (List.cons.inj (List.cons.inj hsh).2).1, fun q k hq hk => ?_⟩
  -- logical row `q` is row `x = q / 2^(d-c)` of batch `m = q % 2^(d-c)`
  have hm : q % 2 ^ (d - c) < 2 ^ (d - c) := Nat.mod_lt _ (Nat.two_pow_pos _)
  have hx : q / 2 ^ (d - c) < 2 ^ c := Nat.div_lt_of_lt_mul (by rw [Nat.mul_comm, ← eD]; exact hq)
  have hq' : q / 2 ^ (d - c) * 2 ^ (d - c) + q % 2 ^ (d - c) = q := Nat.div_add_mod' q _
  generalize q % 2 ^ (d - c) = m at hm hq'
  generalize q / 2 ^ (d - c) = x at hx hq'
  have e := hat m (by rw [hdiv]; exact hm) (1, passSigma (2 ^ d) li q * nc + k)
    (Or.inr ⟨rfl, _, ⟨x, hx, by rw [hdiv, hq']⟩, by omega, by omega⟩)
  rw [batchIter_run, passBatch_split] at e
  refine Eq.trans (congrArg den e) ?_
  have hv := batchG_val o d c nc li extend (by omega) (batchF o d nc (t + 1) c m a) a2 m x k hm hx hk ha2
  rw [hq'] at hv
  refine Eq.trans hv (congrArg _ ?_)
  -- the stages of batch `m = hi * 2^(d-t-c) + mid` on the initial layout
  have hmdm : m / 2 ^ (d - t - c) * 2 ^ (d - t - c) + m % 2 ^ (d - t - c) = m := Nat.div_add_mod' m _
  have hhi : m / 2 ^ (d - t - c) < 2 ^ t := Nat.div_lt_of_lt_mul (by rw [← eN]; exact hm)
  have hmid : m % 2 ^ (d - t - c) < 2 ^ (d - t - c) := Nat.mod_lt _ hG0
  have hfit : (m + 1) * 2 ^ c * nc ≤ a.size := by
    refine Nat.le_trans (Nat.mul_le_mul_right nc ?_) ha
    rw [eD, Nat.mul_comm (2 ^ c)]
    exact Nat.mul_le_mul_right _ (by omega)
  have hin : ∀ x k, x < 2 ^ c → k < nc →
      cell a nc ((m / 2 ^ (d - t - c) * 2 ^ (d - t - c) + m % 2 ^ (d - t - c)) * 2 ^ c + x) k
        = S t (m % 2 ^ (d - t - c) * 2 ^ c + x) (m / 2 ^ (d - t - c)) k := by
    intro x k hx hk
    have := hlay (m / 2 ^ (d - t - c)) (m % 2 ^ (d - t - c) * 2 ^ c + x) k hhi
      (by rw [eG]; exact mr_lt _ _ _ _ hmid hx) hk
    rw [← this, eG]
    congr 1
    ring
  obtain ⟨_, b2, _⟩ := batchStages_spec o S d t c (m / 2 ^ (d - t - c)) (m % 2 ^ (d - t - c)) nc (2 ^ (d - 1 - t) - 1) a hR hS
    htc hhi hmid (by rw [hmdm]; exact hfit) hin
  rw [hmdm] at b2
  have hb := b2 x k hx hk
  unfold batchF
  rw [Nat.add_sub_cancel]
  rw [hb]
  obtain ⟨e1, e2⟩ := mr_refine q (2 ^ (d - t - c)) (2 ^ t)
  rw [← eN] at e1 e2
  rw [← hq', mr_mod _ _ _ hm] at e1 e2
  rw [mr_div _ _ _ hm] at e2
  rw [← hq', ← e1, ← e2]

theorem pass_fwd (o : Obj) (S : Nat → Nat → Nat → Nat → F) (d t c nc : Nat) (a a2 : Buf) (flag inverse extend : Bool)
    (hR : RootsOk o d) (hS : SRec d S) (htc : t + c ≤ d) (hnl : t + c < d ∨ inverse = false)
    (ha : 2 ^ d * nc ≤ a.size) (ha2 : 2 ^ d * nc ≤ a2.size) (hlay : Lay S d t nc a) :
    ∃ a' a2', pass o (2 ^ d) d nc inverse extend (a, a2, flag) (t + 1, c) = (a2', a', !flag) ∧
      a2'.size = a2.size ∧ a'.size = a.size ∧ Lay S d (t + c) nc a2' := by
  have hli : (!decide (t + 1 + c ≤ d) && inverse) = false := by
    rcases hnl with h | h
    · have : decide (t + 1 + c ≤ d) = true := by simp; omega
      rw [this]; rfl
    · rw [h]; simp
  unfold pass
  simp only [hli]
  obtain ⟨r1, r2, r3⟩ := passBatches_spec o S d t c nc a a2 false extend hR hS htc ha ha2 hlay
  refine ⟨_, _, rfl, r2, r1, ?_⟩
  intro hi lo k hhi hlo hk
  have eG : d - (t + c) = d - t - c := by omega
  rw [eG] at hlo ⊢
  have := r3 (hi * 2 ^ (d - t - c) + lo) k
    (by rw [pow_split (t + c) (d - t - c) d (by omega)]; exact mr_lt _ _ _ _ hhi hlo) hk
  simp only [passSigma, copyPhi, Bool.false_eq_true, if_false] at this
  rw [mr_mod _ _ _ hlo, mr_div _ _ _ hlo] at this
  exact this

theorem pass_inv (o : Obj) (S : Nat → Nat → Nat → Nat → F) (d t c nc : Nat) (a a2 : Buf) (flag extend : Bool)
    (hR : RootsOk o d) (hS : SRec d S) (htc : t + c = d)
    (ha : 2 ^ d * nc ≤ a.size) (ha2 : 2 ^ d * nc ≤ a2.size) (hlay : Lay S d t nc a) :
    ∃ a' a2', pass o (2 ^ d) d nc true extend (a, a2, flag) (t + 1, c) = (a2', a', !flag) ∧
      a2'.size = a2.size ∧ a'.size = a.size ∧
      ∀ k' k, k' < 2 ^ d → k < nc →
        cell a2' nc k' k = S d 0 (inttIdx k' (2 ^ d)) k * den (scaleFactor o extend d k') := by
  have hli : (!decide (t + 1 + c ≤ d) && true) = true := by
    have : decide (t + 1 + c ≤ d) = false := by simp; omega
    rw [this]; rfl
  unfold pass
  simp only [hli]
  obtain ⟨r1, r2, r3⟩ := passBatches_spec o S d t c nc a a2 true extend hR hS (by omega) ha ha2 hlay
  refine ⟨_, _, rfl, r2, r1, ?_⟩
  intro k' k hk' hk
  have := r3 (inttIdx k' (2 ^ d)) k (inttIdx_lt _ _ (Nat.two_pow_pos _)) hk
  have eG : d - t - c = 0 := by omega
  simp only [passSigma, copyPhi, if_true] at this
  rw [inttIdx_inttIdx _ _ hk', eG, Nat.pow_zero, Nat.mod_one, Nat.div_one, htc] at this
  exact this

end GoldilocksVerif.Model.Ntt
