/-
  The cubic extension in the field view.  K = F[x]/(x^3 - x - 1) is represented by coefficient triples with the
  schoolbook product reduced by x^3 = x + 1, x^4 = x^2 + x (the oracle the property names).  For C09.
-/
import GoldilocksVerif.Model.Ext
import GoldilocksVerif.Lemmas.ConvF
import Mathlib.Tactic.FieldSimp
import Mathlib.Tactic.LinearCombination
set_option linter.unusedTactic false
set_option linter.unreachableTactic false
namespace GoldilocksVerif
open Gen.Scalar Gen.Ext Model

/-- coefficient triple (c0, c1, c2) of c0 + c1·x + c2·x² -/
structure K3 where
  c0 : F
  c1 : F
  c2 : F

namespace K3
@[ext] theorem ext' (a b : K3) (h0 : a.c0 = b.c0) (h1 : a.c1 = b.c1) (h2 : a.c2 = b.c2) : a = b := by
  cases a; cases b; simp_all
def add (a b : K3) : K3 := ⟨a.c0 + b.c0, a.c1 + b.c1, a.c2 + b.c2⟩
def sub (a b : K3) : K3 := ⟨a.c0 - b.c0, a.c1 - b.c1, a.c2 - b.c2⟩
def neg (a : K3) : K3 := ⟨-a.c0, -a.c1, -a.c2⟩
def ofBase (s : F) : K3 := ⟨s, 0, 0⟩
def one : K3 := ⟨1, 0, 0⟩
def zero : K3 := ⟨0, 0, 0⟩
def mul (a b : K3) : K3 :=
  ⟨a.c0 * b.c0 + (a.c1 * b.c2 + a.c2 * b.c1),
   a.c0 * b.c1 + a.c1 * b.c0 + (a.c1 * b.c2 + a.c2 * b.c1) + a.c2 * b.c2,
   a.c0 * b.c2 + a.c1 * b.c1 + a.c2 * b.c0 + a.c2 * b.c2⟩

theorem mk_congr {a b c a' b' c' : F} (h0 : a = a') (h1 : b = b') (h2 : c = c') : K3.mk a b c = K3.mk a' b' c' := by
  rw [h0, h1, h2]

/-! The product formula of the C++ (three products of sums, three plain products; `x³ = x + 1`) is `mul`: as the scalar and
    `_batch` routines write the middle coefficient, and as the vector kernels do. -/
theorem mul_kernel_batch (a0 a1 a2 b0 b1 b2 : F) :
    (⟨(a1 + a2) * (b1 + b2) + (a0 * b0 - a1 * b1) - a2 * b2,
      (a0 + a1) * (b0 + b1) + (a1 + a2) * (b1 + b2) - a1 * b1 - a1 * b1 - a0 * b0,
      (a0 + a2) * (b0 + b2) - (a0 * b0 - a1 * b1)⟩ : K3) = mul ⟨a0, a1, a2⟩ ⟨b0, b1, b2⟩ := by
  unfold mul
  refine mk_congr ?_ ?_ ?_ <;> ring
theorem mul_kernel_vec (a0 a1 a2 b0 b1 b2 : F) :
    (⟨(a1 + a2) * (b1 + b2) + (a0 * b0 - a1 * b1) - a2 * b2,
      (a0 + a1) * (b0 + b1) + (a1 + a2) * (b1 + b2) - (a1 * b1 + a1 * b1 + a0 * b0),
      (a0 + a2) * (b0 + b2) - (a0 * b0 - a1 * b1)⟩ : K3) = mul ⟨a0, a1, a2⟩ ⟨b0, b1, b2⟩ := by
  unfold mul
  refine mk_congr ?_ ?_ ?_ <;> ring

theorem add_comm (a b : K3) : add a b = add b a := by
  ext <;> simp only [add] <;> ring
theorem mul_comm (a b : K3) : mul a b = mul b a := by
  ext <;> simp only [mul] <;> ring
theorem mul_assoc (a b c : K3) : mul (mul a b) c = mul a (mul b c) := by
  ext <;> simp only [mul] <;> ring
theorem mul_one (a : K3) : mul a one = a := by
  ext <;> simp only [mul, one] <;> ring
theorem one_mul (a : K3) : mul one a = a := by rw [mul_comm, mul_one]
theorem ofBase_mul (s t : F) : mul (ofBase s) (ofBase t) = ofBase (s * t) := by
  ext <;> simp only [mul, ofBase] <;> ring
theorem mul_ofBase_cancel (a : K3) (s t : F) (h : s * t = 1) : mul (mul a (ofBase s)) (ofBase t) = a := by
  rw [mul_assoc, ofBase_mul, h]
  exact mul_one a

/-- the quantity `t` of `Goldilocks3::inv` (minus the norm of a) -/
def tval (a : K3) : F :=
  a.c1 * a.c0 * a.c2 + a.c1 * a.c0 * a.c2 + a.c1 * a.c0 * a.c2 + a.c1 * a.c0 * a.c1 - a.c0 * a.c0 * a.c0 -
    a.c0 * a.c0 * a.c2 - a.c0 * a.c0 * a.c2 - a.c0 * a.c2 * a.c2 - a.c1 * a.c1 * a.c1 + a.c1 * a.c2 * a.c2 -
    a.c2 * a.c2 * a.c2
/-- the cofactor formula of `Goldilocks3::inv` -/
def cof (a : K3) (ti : F) : K3 :=
  ⟨(a.c1 * a.c2 + a.c1 * a.c1 - a.c0 * a.c0 - a.c0 * a.c2 - a.c0 * a.c2 - a.c2 * a.c2) * ti,
   (a.c1 * a.c0 - a.c2 * a.c2) * ti,
   (a.c0 * a.c2 + a.c2 * a.c2 - a.c1 * a.c1) * ti⟩
/-- The adjugate identity: cofactors times the element is `t`. -/
theorem cof_mul (a : K3) (ti : F) (h : ti * tval a = 1) : mul (cof a ti) a = one := by
  have e0 : (mul (cof a ti) a).c0 = ti * tval a := by simp only [mul, cof, tval]; ring
  have e1 : (mul (cof a ti) a).c1 = 0 := by simp only [mul, cof]; ring
  have e2 : (mul (cof a ti) a).c2 = 0 := by simp only [mul, cof]; ring
  ext
  · rw [e0, h]; rfl
  · rw [e1]; rfl
  · rw [e2]; rfl
end K3

/-- the element of K a 3-word region denotes -/
def den3 (r : Region) : K3 := ⟨den (r 0), den (r 1), den (r 2)⟩
def denE (e : E3) : K3 := ⟨den e.c0, den e.c1, den e.c2⟩

/-- every extension routine writes exactly words 0,1,2 of its result -/
theorem set3 (r : Region) (x y z : BitVec 64) :
    (Region.set (Region.set (Region.set r 0 x) 1 y) 2 z) 0 = x ∧
    (Region.set (Region.set (Region.set r 0 x) 1 y) 2 z) 1 = y ∧
    (Region.set (Region.set (Region.set r 0 x) 1 y) 2 z) 2 = z ∧
    ∀ k, 3 ≤ k → (Region.set (Region.set (Region.set r 0 x) 1 y) 2 z) k = r k := by
  refine ⟨by simp [Region.set], by simp [Region.set], by simp [Region.set], ?_⟩
  intro k hk
  have h0 : k ≠ 0 := by omega
  have h1 : k ≠ 1 := by omega
  have h2 : k ≠ 2 := by omega
  simp [Region.set, h0, h1, h2]

theorem den3_set3 (r : Region) (x y z : BitVec 64) :
    den3 (Region.set (Region.set (Region.set r 0 x) 1 y) 2 z) = ⟨den x, den y, den z⟩ := by
  obtain ⟨h0, h1, h2, _⟩ := set3 r x y z
  unfold den3; rw [h0, h1, h2]

theorem den_neg_r (a : BitVec 64) : den (neg__rE a) = - den a := by
  have : neg__rE a = sub__rEE zero__r a := rfl
  rw [this, den_sub_r, den_zero_r, zero_sub]
theorem den_copy (x : BitVec 64) : copy__eE x = x := rfl

theorem den3_zero_r : den3 G3_zero__r = K3.zero := by
  show den3 (Region.ofList [zero__r, zero__r, zero__r]) = _
  unfold den3 K3.zero Region.ofList
  simp only [List.getD_cons_zero, List.getD_cons_succ, den_zero_r]
theorem den3_one_r : den3 G3_one__r = K3.one := by
  show den3 (Region.ofList [one__r, zero__r, zero__r]) = _
  unfold den3 K3.one Region.ofList
  simp only [List.getD_cons_zero, List.getD_cons_succ, den_zero_r, den_one_r]
theorem zero_a3_den (result : Region) : den3 (G3_zero__a3 result) = K3.zero := by
  unfold G3_zero__a3; rw [den3_set3]; simp only [den_zero_r, K3.zero]
theorem one_a3_den (result : Region) : den3 (G3_one__a3 result) = K3.one := by
  unfold G3_one__a3; rw [den3_set3]; simp only [den_zero_r, den_one_r, K3.one]
theorem copy_den (dst src : Region) : den3 (G3_copy__a3A3 dst src) = den3 src ∧ den3 (G3_copy__pP dst src) = den3 src := by
  constructor
  · unfold G3_copy__a3A3; rw [den3_set3]; simp only [den_copy, den3]
  · unfold G3_copy__pP; rw [den3_set3]; simp only [den_copy, den3]

/-! The routines are stated for distinct `result`, `a`, `b`.  The model generated for an aliased call pattern
  (`_al_result_a`, …) reads a word of the shared region only before that word is written, so it unfolds to the same term
  as the function below with the shared argument repeated: `add_den x x y` is also the statement about
  `G3_add__a3A3A3_al_result_a x y`. -/

theorem add_den (result a b : Region) :
    den3 (G3_add__a3A3A3 result a b) = K3.add (den3 a) (den3 b) := by
  unfold G3_add__a3A3A3
  simp only [den3_set3]
  simp only [den3, K3.add, den_add_r]

theorem add_base_den (result a : Region) (b : BitVec 64) :
    den3 (G3_add__a3A3E result a b) = K3.add (den3 a) (K3.ofBase (den b)) := by
  unfold G3_add__a3A3E
  simp only [den3_set3]
  simp only [den3, K3.add, K3.ofBase, den_add_r, add_zero]

theorem add_int_den (result a : Region) (b : BitVec 64) :
    den3 (G3_add__a3A3U result a b) = K3.add (den3 a) (K3.ofBase (den b)) := by
  unfold G3_add__a3A3U
  simp only [den3_set3]
  simp only [den3, K3.add, K3.ofBase, den_add_r, den_fromU64, add_zero]

theorem add_base_l_den (result : Region) (a : BitVec 64) (b : Region) :
    den3 (G3_add__a3EA3 result a b) = K3.add (K3.ofBase (den a)) (den3 b) := by
  unfold G3_add__a3EA3
  rw [add_base_den, K3.add_comm]

theorem sub_den (result a b : Region) :
    den3 (G3_sub__a3a3a3 result a b) = K3.sub (den3 a) (den3 b) := by
  unfold G3_sub__a3a3a3
  simp only [den3_set3]
  simp only [den3, K3.sub, den_sub_r]

theorem sub_base_den (result a : Region) (b : BitVec 64) :
    den3 (G3_sub__a3a3E result a b) = K3.sub (den3 a) (K3.ofBase (den b)) := by
  unfold G3_sub__a3a3E
  simp only [den3_set3]
  simp only [den3, K3.sub, K3.ofBase, den_sub_r, sub_zero]

theorem sub_int_den (result a : Region) (b : BitVec 64) :
    den3 (G3_sub__a3a3e result a b) = K3.sub (den3 a) (K3.ofBase (den b)) := by
  unfold G3_sub__a3a3e
  simp only [den3_set3]
  simp only [den3, K3.sub, K3.ofBase, den_sub_r, den_fromU64, sub_zero]

theorem sub_base_l_den (result : Region) (a : BitVec 64) (b : Region) :
    den3 (G3_sub__a3Ea3 result a b) = K3.sub (K3.ofBase (den a)) (den3 b) := by
  unfold G3_sub__a3Ea3
  simp only [den3_set3]
  simp only [den3, K3.sub, K3.ofBase, den_sub_r, den_neg_r, zero_sub]

/-- neg: whether written as `sub(result, zero(), a)` or coefficient-wise through `Goldilocks::neg` -/
theorem neg_den (result a : Region) : den3 (G3_neg result a) = K3.neg (den3 a) := by
  unfold G3_neg
  first
  | (rw [sub_den, den3_zero_r]
     simp only [K3.sub, K3.neg, K3.zero, zero_sub])
  | (simp only [den3_set3]
     simp only [den3, K3.neg, den_neg_r])

theorem mul_den (result a b : Region) :
    den3 (G3_mul__a3a3a3 result a b) = K3.mul (den3 a) (den3 b) := by
  unfold G3_mul__a3a3a3
  simp only [den3_set3]
  simp only [den3, den_add_r, den_sub_r, den_mul_r, K3.mul_kernel_batch, K3.mul]
  -- a body that writes the coefficients in another way is left to `ring`
  all_goals (refine K3.mk_congr ?_ ?_ ?_ <;> ring)

theorem mul_base_den (result a : Region) (b : BitVec 64) :
    den3 (G3_mul__a3a3e result a b) = K3.mul (den3 a) (K3.ofBase (den b)) := by
  unfold G3_mul__a3a3e
  simp only [den3_set3]
  ext <;> simp only [den3, K3.mul, K3.ofBase, den_mul_r] <;> ring

theorem mul_int_den (result a : Region) (b : BitVec 64) :
    den3 (G3_mul__a3a3E result a b) = K3.mul (den3 a) (K3.ofBase (den b)) := by
  unfold G3_mul__a3a3E
  simp only [den3_set3]
  ext <;> simp only [den3, K3.mul, K3.ofBase, den_mul_r, den_fromU64] <;> ring

theorem mul_base_l_den (result : Region) (a : BitVec 64) (b : Region) :
    den3 (G3_mul__a3Ea3 result a b) = K3.mul (K3.ofBase (den a)) (den3 b) := by
  unfold G3_mul__a3Ea3
  rw [mul_base_den, K3.mul_comm]

theorem mul_ptr_den (result a b : Region) : den3 (G3_mul__ppp result a b) = K3.mul (den3 a) (den3 b) :=
  mul_den result a b

theorem square_den (result a : Region) : den3 (G3_square result a) = K3.mul (den3 a) (den3 a) :=
  mul_den result a a

theorem g3t_den (a : E3) : den (g3t a) = K3.tval (denE a) := by
  unfold g3t
  simp only [den_add_r, den_sub_r, den_mul_r, K3.tval, denE]

theorem g3cof_den (a : E3) (ti : BitVec 64) : denE (g3cof a ti) = K3.cof (denE a) (den ti) := by
  unfold g3cof
  simp only [denE, K3.cof, den_add_r, den_sub_r, den_mul_r]

theorem g3inv_den (a : E3) :
    (g3inv a = none ↔ K3.tval (denE a) = 0) ∧
    (∀ r, g3inv a = some r → K3.mul (denE r) (denE a) = K3.one) := by
  have hinv := inv_spec (g3t a)
  rw [g3t_den] at hinv
  unfold g3inv
  constructor
  · rw [← hinv.1]
    cases Model.inv (g3t a) <;> simp
  · intro r hr
    cases hti : Model.inv (g3t a) with
    | none => rw [hti] at hr; cases hr
    | some tinv =>
      rw [hti] at hr
      simp only [Option.map_some, Option.some.injEq] at hr
      have hm := (hinv.2 tinv hti).1
      rw [← hr, g3cof_den]
      exact K3.cof_mul _ _ hm

theorem denE_scale (a : E3) (s : BitVec 64) :
    denE ⟨mul__rEE a.c0 s, mul__rEE a.c1 s, mul__rEE a.c2 s⟩ = K3.mul (denE a) (K3.ofBase (den s)) := by
  ext <;> simp only [denE, K3.mul, K3.ofBase, den_mul_r] <;> ring

theorem g3div_den (a : E3) (b : BitVec 64) :
    (g3div a b = none ↔ den b = 0) ∧
    (∀ r, g3div a b = some r → K3.mul (denE r) (K3.ofBase (den b)) = denE a) := by
  have hinv := inv_spec b
  unfold g3div
  constructor
  · rw [← hinv.1]; cases Model.inv b <;> simp
  · intro r hr
    cases hbi : Model.inv b with
    | none => rw [hbi] at hr; cases hr
    | some bi =>
      rw [hbi] at hr
      simp only [Option.some.injEq] at hr
      rw [← hr, denE_scale]
      exact K3.mul_ofBase_cancel _ _ _ (hinv.2 bi hbi).1

theorem g3mulScalar_den (a : E3) (s : String) (x : Int) (h : parseInt 10 s = some x) :
    ∃ r, g3mulScalar a s = some r ∧ denE r = K3.mul (denE a) (K3.ofBase (x : F)) := by
  have hs : Model.fromString s 10 = some (fromScalar x) := by unfold Model.fromString; rw [h]; rfl
  refine ⟨⟨mul__rEE a.c0 (fromScalar x), mul__rEE a.c1 (fromScalar x), mul__rEE a.c2 (fromScalar x)⟩, ?_, ?_⟩
  · unfold g3mulScalar; rw [hs]
  · rw [denE_scale, fromScalar_den]

theorem isOne_den (r : Region) : G3_isOne r = true ↔ den3 r = K3.one := by
  unfold G3_isOne
  simp only [Bool.and_eq_true, (predicates _).1, (predicates _).2.1]
  constructor
  · rintro ⟨⟨h0, h1⟩, h2⟩
    ext <;> simp only [den3, K3.one] <;> assumption
  · intro h
    have h0 := congrArg K3.c0 h
    have h1 := congrArg K3.c1 h
    have h2 := congrArg K3.c2 h
    simp only [den3, K3.one] at h0 h1 h2
    exact ⟨⟨h0, h1⟩, h2⟩

end GoldilocksVerif
