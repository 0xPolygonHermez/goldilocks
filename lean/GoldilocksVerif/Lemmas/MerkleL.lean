/-
  Structure of the Merkle builders of Model/Sponge.lean: how `nextLevel` / `upperLevels` unfold (one more node, one more
  level, independence of surplus fuel), buffer size and root position, for every power-of-two number of rows and any
  leaf / node hash producing 4-word digests.  The unfolding lemmas are what Lemmas/BridgeMerkle.lean runs the generated
  level loop against.
-/
import GoldilocksVerif.Model.Sponge
namespace GoldilocksVerif.Model

theorem nextLevel_length (node : List Wd → List Wd) (hn : ∀ x, (node x).length = 4) :
    ∀ k lvl, (nextLevel node k lvl).length = 4 * k := by
  intro k
  induction k with
  | zero => intro lvl; simp [nextLevel]
  | succ k ih => intro lvl; simp [nextLevel, List.length_append, hn, ih]; omega

theorem nextLevel_snoc (node : List Wd → List Wd) : ∀ (i : Nat) (lvl : List Wd),
    nextLevel node (i + 1) lvl = nextLevel node i lvl ++ node ((lvl.drop (8 * i)).take 8) := by
  intro i
  induction i with
  | zero => intro lvl; simp [nextLevel]
  | succ i ih =>
    intro lvl
    have h1 : nextLevel node (i + 1 + 1) lvl = node (lvl.take 8) ++ nextLevel node (i + 1) (lvl.drop 8) := rfl
    have h2 : nextLevel node (i + 1) lvl = node (lvl.take 8) ++ nextLevel node i (lvl.drop 8) := rfl
    rw [h1, ih (lvl.drop 8), h2, List.append_assoc, List.drop_drop]
    have e : 8 + 8 * i = 8 * (i + 1) := by omega
    rw [e]

theorem upperLevels_one (node : List Wd → List Wd) (f : Nat) (lvl : List Wd) : upperLevels node f 1 lvl = [] := by
  cases f <;> simp [upperLevels]

theorem upperLevels_succ (node : List Wd → List Wd) (f j : Nat) (lvl : List Wd) :
    upperLevels node (f + 1) (2 ^ (j + 1)) lvl =
      nextLevel node (2 ^ j) lvl ++ upperLevels node f (2 ^ j) (nextLevel node (2 ^ j) lvl) := by
  have hpos : 0 < 2 ^ j := Nat.two_pow_pos j
  have h2 : (2 : Nat) ^ (j + 1) = 2 * 2 ^ j := by rw [Nat.pow_succ]; omega
  have hgt : ¬ (2 ^ (j + 1) ≤ 1) := by omega
  have hdiv : 2 ^ (j + 1) / 2 = 2 ^ j := by omega
  conv => lhs; unfold upperLevels
  simp only [hgt, if_false, hdiv]

theorem upperLevels_fuel (node : List Wd → List Wd) : ∀ (j f f' : Nat) (lvl : List Wd), j ≤ f → j ≤ f' →
    upperLevels node f (2 ^ j) lvl = upperLevels node f' (2 ^ j) lvl := by
  intro j
  induction j with
  | zero => intro f f' lvl _ _; rw [Nat.pow_zero, upperLevels_one, upperLevels_one]
  | succ j ih =>
    intro f f' lvl hf hf'
    obtain ⟨g, rfl⟩ : ∃ g, f = g + 1 := ⟨f - 1, by omega⟩
    obtain ⟨g', rfl⟩ : ∃ g', f' = g' + 1 := ⟨f' - 1, by omega⟩
    rw [upperLevels_succ, upperLevels_succ, ih g g' _ (by omega) (by omega)]

theorem upperLevels_length (node : List Wd → List Wd) (hn : ∀ x, (node x).length = 4) :
    ∀ (k fuel : Nat) (lvl : List Wd), k ≤ fuel → (upperLevels node fuel (2 ^ k) lvl).length = 4 * (2 ^ k - 1) := by
  intro k
  induction k with
  | zero =>
    intro fuel lvl _
    rw [Nat.pow_zero, upperLevels_one]
    rfl
  | succ k ih =>
    intro fuel lvl hf
    obtain ⟨f, rfl⟩ : ∃ f, fuel = f + 1 := ⟨fuel - 1, by omega⟩
    have h2 : (2 : Nat) ^ (k + 1) = 2 * 2 ^ k := by rw [Nat.pow_succ]; omega
    have hpos : 0 < 2 ^ k := Nat.two_pow_pos k
    rw [upperLevels_succ, List.length_append, nextLevel_length node hn, ih f _ (by omega)]
    omega

theorem flatMap_length4 {α : Type} (g : α → List Wd) (hg : ∀ x, (g x).length = 4) (l : List α) :
    (l.flatMap g).length = 4 * l.length := by
  induction l with
  | nil => rfl
  | cons r rs ih => rw [List.flatMap_cons, List.length_append, hg, ih, List.length_cons]; omega

theorem leaves_length (leaf : List Wd → List Wd) (hl : ∀ x, (leaf x).length = 4) (rows : List (List Wd)) :
    (rows.flatMap leaf).length = 4 * rows.length :=
  flatMap_length4 leaf hl rows

theorem merkleTree_length (leaf node : List Wd → List Wd) (hl : ∀ x, (leaf x).length = 4) (hn : ∀ x, (node x).length = 4)
    (rows : List (List Wd)) (k : Nat) (hr : rows.length = 2 ^ k) :
    (merkleTree leaf node rows).length = treeNumElements rows.length ∧ treeNumElements rows.length = 4 * (2 * rows.length - 1) := by
  have hk : k ≤ rows.length := by rw [hr]; exact Nat.le_of_lt (Nat.lt_two_pow_self)
  have hleaves := leaves_length leaf hl rows
  have hpos : 0 < 2 ^ k := Nat.two_pow_pos k
  unfold merkleTree treeNumElements
  constructor
  · simp only [List.length_append, hleaves]
    rw [hr, upperLevels_length node hn k (2 ^ k) _ (by rw [← hr]; exact hk)]
    omega
  · omega

/-- the root, as the recursive pairwise hash of the digests -/
def rootOf (node : List Wd → List Wd) : Nat → List Wd → List Wd
  | 0, lvl => lvl
  | k + 1, lvl => rootOf node k (nextLevel node (2 ^ k) lvl)

/-- the last four elements of the buffer are the root (for one row the root is its digest) -/
theorem upperLevels_last (node : List Wd → List Wd) (hn : ∀ x, (node x).length = 4) :
    ∀ (k fuel : Nat) (lvl : List Wd), k ≤ fuel → lvl.length = 4 * 2 ^ k →
      (lvl ++ upperLevels node fuel (2 ^ k) lvl).drop ((lvl ++ upperLevels node fuel (2 ^ k) lvl).length - 4) = rootOf node k lvl := by
  intro k
  induction k with
  | zero =>
    intro fuel lvl _ hl
    rw [Nat.pow_zero, upperLevels_one]
    simp only [List.append_nil, rootOf]
    have : lvl.length - 4 = 0 := by simp at hl; omega
    rw [this]; rfl
  | succ k ih =>
    intro fuel lvl hf hl
    obtain ⟨f, rfl⟩ : ∃ f, fuel = f + 1 := ⟨fuel - 1, by omega⟩
    have h2 : (2 : Nat) ^ (k + 1) = 2 * 2 ^ k := by rw [Nat.pow_succ]; omega
    have hpos : 0 < 2 ^ k := Nat.two_pow_pos k
    have hnl : (nextLevel node (2 ^ k) lvl).length = 4 * 2 ^ k := nextLevel_length node hn _ _
    rw [upperLevels_succ]
    have key := ih f (nextLevel node (2 ^ k) lvl) (by omega) hnl
    simp only [rootOf]
    rw [← key]
    have hul := upperLevels_length node hn k f (nextLevel node (2 ^ k) lvl) (by omega)
    have htot : (lvl ++ (nextLevel node (2 ^ k) lvl ++ upperLevels node f (2 ^ k) (nextLevel node (2 ^ k) lvl))).length - 4 =
        lvl.length + ((nextLevel node (2 ^ k) lvl ++ upperLevels node f (2 ^ k) (nextLevel node (2 ^ k) lvl)).length - 4) := by
      simp only [List.length_append, hl, hnl, hul]; omega
    rw [htot, List.drop_append, List.drop_of_length_le (Nat.le_add_right _ _), List.nil_append, Nat.add_sub_cancel_left]

end GoldilocksVerif.Model
