/-
  The TRANSLATED `NTT_Goldilocks::extendPol` (Gen/NttGen.lean) called WITH A CALLER SCRATCH BUFFER (`buffer != NULL`, ANY content)
  EQUALS the hand model's `extendPol` (Model/Ntt.lean) bit for bit: `extendPol_gen_opt` (Lemmas/BridgeNttExtendEq.lean) with a
  buffer.  The buffer block keeps its size (its content is whatever the two transforms left: the hand model has no caller buffer,
  it takes fresh zero-filled scratch per transform).
-/
import GoldilocksVerif.Lemmas.BridgeNttExtendEq

namespace GoldilocksVerif.BridgeNtt
open GoldilocksVerif Gen.NttGen

section extendBuf
open GoldilocksVerif.Model.Ntt

/-- **extendPol with a caller scratch buffer, generated = hand model, bit for bit**: scope and final state as in
    `extendPol_gen_eq`; buffer `B`: another block than output / input / the object's, at least N_ext·ncols words, ANY content; it
    keeps its size -/
theorem extendPol_gen_buf_eq (fuel : Nat) (hf : 64 ≤ fuel) (hp : Heap) (self : NTT_Goldilocks) (o : Obj)
    (hrep : ObjRep hp self o) (hin : ObjIn hp self) (hdisj : ObjDisj self) (hos : o.s ≤ 32) (hext31 : o.extension < 2 ^ 31)
    (Out In B : Nat) (hOut : Out < hp.size) (hIn : In < hp.size) (hB : B < hp.size) (hOut0 : Out ≠ 0) (hB0 : B ≠ 0)
    (hOB : Out ≠ B) (hIB : In ≠ B)
    (hfrOut : ObjFrame self Out) (hfrIn : ObjFrame self In) (hfrB : ObjFrame self B)
    (dn de nc : Nat) (hde : dn ≤ de) (hde30 : de ≤ 30) (hdns : dn ≤ o.s) (hnc : 1 ≤ nc)
    (hbound : 2 ^ de * nc * 8 < 2 ^ 64) (nphase nblock : BitVec 64)
    (hout : 2 ^ de * nc ≤ (hp.block Out).size) (hbuf : 2 ^ de * nc ≤ (hp.block B).size) (hf1 : dn = 0 → nc < fuel) :
    match extendPol o (decide (Out = In)) (hp.block Out) (hp.block In) (2 ^ de) (2 ^ dn) nc nphase.toNat nblock.toNat with
    | .ok (o', out) => ∃ hp' self',
        NTT_extendPol fuel hp self ⟨Out, 0⟩ ⟨In, 0⟩ (bv (2 ^ de)) (bv (2 ^ dn)) (bv nc) ⟨B, 0⟩ nphase nblock =
          some (hp', self') ∧
        hp'.block Out = out ∧ ObjRep hp' self' o' ∧ ObjIn hp' self' ∧ ObjDisj self' ∧ hp.size ≤ hp'.size ∧
        (hp'.block B).size = (hp.block B).size ∧
        (∀ c, c < hp.size → c ≠ Out → c ≠ B → ObjFrame self c → hp'.block c = hp.block c) ∧
        (∀ c, c < hp.size → ObjFrame self c → ObjFrame self' c)
    | .error _ =>
        NTT_extendPol fuel hp self ⟨Out, 0⟩ ⟨In, 0⟩ (bv (2 ^ de)) (bv (2 ^ dn)) (bv nc) ⟨B, 0⟩ nphase nblock = none := by
  have h := extendPol_gen_opt fuel hf hp self o hrep hin hdisj hos hext31 Out In (some B) hOut hIn hOut0 hfrOut hfrIn dn de nc hde
    hde30 hdns hnc hbound nphase nblock hout hf1 (ScratchOk.some hB hB0 hOB hIB hfrB hbuf)
  cases hr : extendPol o (decide (Out = In)) (hp.block Out) (hp.block In) (2 ^ de) (2 ^ dn) nc nphase.toNat nblock.toNat with
  | error e => rw [hr] at h; exact h
  | ok v =>
    obtain ⟨o', out⟩ := v
    rw [hr] at h
    obtain ⟨hp', self', a1, a2, a3, a4, a5, a6, a7, a8, a9⟩ := h
    exact ⟨hp', self', a1, a2, a3, a4, a5, a6, a7 B rfl, fun c h1 h2 h3 h4 => a8 c h1 h2 (fun e => h3 (Option.some.inj e).symm) h4,
      a9⟩

end extendBuf

end GoldilocksVerif.BridgeNtt
