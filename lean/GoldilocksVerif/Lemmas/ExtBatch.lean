/-
  Batch inversion in the cubic extension (Model.g3batchInverse: prefix products, one inversion, backward sweep).
  K3 has no zero divisors (from `K3.tval_ne_zero`), the product of the generated routine on `E3` values is `K3.mul`,
  and the backward sweep keeps the invariant  z · (src[0]·…·src[i]) = 1.
-/
import GoldilocksVerif.Lemmas.ExtIrred

namespace GoldilocksVerif
open Gen.Scalar Gen.Ext Model

namespace K3
theorem mul_zero (a : K3) : mul a zero = zero := by
  ext <;> simp only [mul, zero] <;> ring
theorem zero_mul (a : K3) : mul zero a = zero := by rw [mul_comm, mul_zero]
theorem one_ne_zero : one ≠ zero := by
  intro h
  have := congrArg K3.c0 h
  simp only [one, zero] at this
  exact _root_.one_ne_zero this

theorem exists_inv (a : K3) (h : a ≠ zero) : ∃ b, mul b a = one :=
  ⟨cof a (tval a)⁻¹, cof_mul a _ (inv_mul_cancel₀ (tval_ne_zero a h))⟩

theorem mul_eq_zero (a b : K3) : mul a b = zero ↔ a = zero ∨ b = zero := by
  constructor
  · intro h
    by_cases ha : a = zero
    · exact Or.inl ha
    · right
      obtain ⟨c, hc⟩ := exists_inv a ha
      calc b = mul one b := (one_mul b).symm
        _ = mul (mul c a) b := by rw [hc]
        _ = mul c (mul a b) := mul_assoc _ _ _
        _ = zero := by rw [h, mul_zero]
  · rintro (h | h)
    · rw [h, zero_mul]
    · rw [h, mul_zero]

theorem inv_unique (a b c : K3) (hb : mul b a = one) (hc : mul c a = one) : b = c := by
  calc b = mul b one := (mul_one b).symm
    _ = mul b (mul c a) := by rw [hc]
    _ = mul b (mul a c) := by rw [mul_comm c a]
    _ = mul (mul b a) c := (mul_assoc _ _ _).symm
    _ = c := by rw [hb, one_mul]
end K3

theorem den3_toRegion (e : E3) : den3 e.toRegion = denE e := by
  unfold den3 denE E3.toRegion Region.ofList
  simp only [List.getD_cons_zero, List.getD_cons_succ]

theorem denE_ofRegion (r : Region) : denE (E3.ofRegion r) = den3 r := rfl

theorem g3mul_den (a b : E3) : denE (g3mul a b) = K3.mul (denE a) (denE b) := by
  unfold g3mul
  rw [denE_ofRegion, mul_den, den3_toRegion, den3_toRegion]

-- from here on the generated product is opaque: nothing below may unfold it (the generated body is huge)
attribute [local irreducible] g3mul

theorem g3inv_none_iff (a : E3) : g3inv a = none ↔ denE a = K3.zero := by
  rw [(g3inv_den a).1, K3.tval_eq_zero_iff]

def InvOf (r s : E3) : Prop := K3.mul (denE r) (denE s) = K3.one

def lastProd : E3 → List E3 → E3
  | acc, [] => acc
  | acc, x :: xs => lastProd (g3mul acc x) xs

/-- the pairs (tmp[i-1], src[i]) in forward order -/
def fwdPairs : E3 → List E3 → List (E3 × E3)
  | _, [] => []
  | acc, x :: xs => (acc, x) :: fwdPairs (g3mul acc x) xs

theorem zip_prefix (s0 : E3) (rest : List E3) : (s0 :: prefixProds s0 rest).zip rest = fwdPairs s0 rest := by
  induction rest generalizing s0 with
  | nil => rfl
  | cons x xs ih =>
    simp only [prefixProds, fwdPairs, List.zip_cons_cons]
    rw [ih]

theorem getLast_prefix (s0 : E3) (rest : List E3) : (s0 :: prefixProds s0 rest).getLast! = lastProd s0 rest := by
  induction rest generalizing s0 with
  | nil => rfl
  | cons x xs ih =>
    have := ih (g3mul s0 x)
    simp only [prefixProds, lastProd]
    rw [← this]
    simp [List.getLast!_eq_getLast?_getD, List.getLast?_cons_cons]

theorem lastProd_append (s0 : E3) (xs : List E3) (x : E3) : lastProd s0 (xs ++ [x]) = g3mul (lastProd s0 xs) x := by
  induction xs generalizing s0 with
  | nil => rfl
  | cons y ys ih => exact ih (g3mul s0 y)

theorem fwdPairs_append (s0 : E3) (xs : List E3) (x : E3) :
    fwdPairs s0 (xs ++ [x]) = fwdPairs s0 xs ++ [(lastProd s0 xs, x)] := by
  induction xs generalizing s0 with
  | nil => rfl
  | cons y ys ih => exact congrArg ((s0, y) :: ·) (ih (g3mul s0 y))

theorem backSweep_cons (z tp s : E3) (rest : List (E3 × E3)) (acc : List E3) :
    backSweep z ((tp, s) :: rest) acc = backSweep (g3mul z s) rest (g3mul z tp :: acc) := rfl

/-- Started with the inverse `z` of the top prefix product, the backward sweep produces the element-wise inverses (`acc` /
    `accsrc`: the part already produced and its sources).  The sweep eats the pairs from the last one, so the induction
    takes `rest` apart at its end: `z · x` inverts the prefix product without `x`, and `z ·` that prefix product inverts `x`. -/
theorem backSweep_spec (s0 : E3) (rest : List E3) : ∀ (z : E3) (acc accsrc : List E3),
    InvOf z (lastProd s0 rest) → List.Forall₂ InvOf acc accsrc →
    List.Forall₂ InvOf (backSweep z (fwdPairs s0 rest).reverse acc) (s0 :: (rest ++ accsrc)) := by
  induction rest using List.reverseRecOn with
  | nil => exact fun z acc accsrc hz hacc => List.Forall₂.cons hz hacc
  | append_singleton xs x ih =>
    intro z acc accsrc hz hacc
    unfold InvOf at hz
    rw [lastProd_append, g3mul_den] at hz
    have hz' : InvOf (g3mul z x) (lastProd s0 xs) := by
      unfold InvOf
      rw [g3mul_den, K3.mul_assoc, K3.mul_comm (denE x)]; exact hz
    have hr : InvOf (g3mul z (lastProd s0 xs)) x := by
      unfold InvOf
      rw [g3mul_den, K3.mul_assoc]; exact hz
    rw [fwdPairs_append, List.reverse_append, List.reverse_singleton, List.singleton_append, backSweep_cons,
      List.append_assoc, List.singleton_append]
    exact ih _ _ _ hz' (List.Forall₂.cons hr hacc)

theorem lastProd_eq_zero_iff (s0 : E3) (rest : List E3) :
    denE (lastProd s0 rest) = K3.zero ↔ denE s0 = K3.zero ∨ ∃ x ∈ rest, denE x = K3.zero := by
  induction rest generalizing s0 with
  | nil => simp only [lastProd, List.not_mem_nil, false_and, exists_false, or_false]
  | cons x xs ih =>
    rw [lastProd, ih, g3mul_den, K3.mul_eq_zero]
    simp only [List.mem_cons, exists_eq_or_imp, or_assoc]

/-!
  Neither the elaborator nor the kernel may be asked to reduce `match g3inv X with …` for a symbolic X: both unfold the
  matcher eagerly and then evaluate the scrutinee (g3inv → Model.inv → isZero (g3t X) → the generated arithmetic), which
  does not terminate in practical time.  So the routine is restated with the inversion abstracted (`batchGen`, built from
  the SAME auxiliary matchers, so that `g3batchInverse = batchGen g3inv` holds syntactically after one unfolding), the
  case analysis is done for an opaque `inv`, and the result is instantiated.  -/

set_option linter.auxLemma false in
/-- `g3batchInverse` with the inversion routine as a parameter (same matchers as the model definition; if Model/Ext.lean is
    refactored and the matcher names change, this definition stops compiling — it cannot silently drift) -/
def batchGen (inv : E3 → Option E3) : List E3 → Option (List E3) :=
  fun src =>
  g3batchInverse.match_3 (fun _ => Option (List E3)) src (fun _ => none) fun s0 rest =>
    have tmp := s0 :: prefixProds s0 rest;
    g3batchInverse.match_1 (fun _ => Option (List E3)) (inv tmp.getLast!)
      (fun _ => none) fun z =>
      have pairs := (tmp.zip rest).reverse;
      some (backSweep z pairs [])

theorem g3batchInverse_eq_batchGen : g3batchInverse = batchGen g3inv := rfl

theorem batchGen_cons (inv : E3 → Option E3) (s0 : E3) (rest : List E3) :
    batchGen inv (s0 :: rest) =
      (inv (lastProd s0 rest)).map (fun z => backSweep z (fwdPairs s0 rest).reverse []) := by
  unfold batchGen
  dsimp only
  rw [getLast_prefix, zip_prefix]
  cases inv (lastProd s0 rest) <;> rfl

theorem g3batchInverse_cons (s0 : E3) (rest : List E3) :
    g3batchInverse (s0 :: rest) =
      (g3inv (lastProd s0 rest)).map (fun z => backSweep z (fwdPairs s0 rest).reverse []) := by
  rw [g3batchInverse_eq_batchGen, batchGen_cons]

theorem g3batchInverse_nil : g3batchInverse [] = none := rfl

theorem g3batchInverse_forall2 (src res : List E3) (h : g3batchInverse src = some res) : List.Forall₂ InvOf res src := by
  cases src with
  | nil => rw [g3batchInverse_nil] at h; cases h
  | cons s0 rest =>
    rw [g3batchInverse_cons] at h
    cases hz : g3inv (lastProd s0 rest) with
    | none => rw [hz] at h; cases h
    | some z =>
      rw [hz] at h
      simp only [Option.map_some, Option.some.injEq] at h
      have hinv : InvOf z (lastProd s0 rest) := (g3inv_den _).2 z hz
      have := backSweep_spec s0 rest z [] [] hinv List.Forall₂.nil
      rw [List.append_nil, h] at this
      exact this

theorem g3batchInverse_none_iff (src : List E3) :
    g3batchInverse src = none ↔ src = [] ∨ ∃ x ∈ src, denE x = K3.zero := by
  cases src with
  | nil => simp [g3batchInverse_nil]
  | cons s0 rest =>
    rw [g3batchInverse_cons, Option.map_eq_none_iff, g3inv_none_iff, lastProd_eq_zero_iff]
    simp only [List.mem_cons, exists_eq_or_imp, reduceCtorEq, false_or]

end GoldilocksVerif
