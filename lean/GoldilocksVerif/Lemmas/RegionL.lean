/-
  Regions (Model/Region.lean) read as lists: `Region.toList` of sums, shifts, hand-outs (`unshift`) and zero-padded blocks;
  agreement of two regions on a prefix (`Region.Agree`) and truncation to a prefix (`Region.trunc`).  The sponge and Merkle
  bridges state what a `memcpy` / `memset` / pointer-offset sequence leaves in a buffer with these, instead of comparing
  word by word.
-/
import GoldilocksVerif.Model.Region
import GoldilocksVerif.Model.Sponge
import Mathlib.Tactic.SplitIfs

namespace GoldilocksVerif
open Model

namespace Region
theorem length_toList (r : Region) (n : Nat) : (toList r n).length = n := by simp [toList]
theorem getElem?_toList (r : Region) (n i : Nat) : (toList r n)[i]? = if i < n then some (r i) else none := by
  unfold toList
  by_cases h : i < n
  · rw [if_pos h, List.getElem?_eq_getElem (by simpa using h)]; simp
  · rw [if_neg h, List.getElem?_eq_none (by simpa using h)]

theorem toList_add (r : Region) (a b : Nat) : toList r (a + b) = toList r a ++ toList (shift r a) b := by
  unfold toList
  rw [List.range_add, List.map_append, List.map_map]
  rfl

theorem toList_congr {r s : Region} {n : Nat} (h : ∀ i < n, r i = s i) : toList r n = toList s n :=
  List.map_congr_left fun i hi => h i (List.mem_range.mp hi)

theorem toList_take (r : Region) (n m : Nat) : (toList r n).take m = toList r (min m n) := by
  unfold toList
  rw [← List.map_take, List.take_range]

theorem toList_drop (r : Region) (n m : Nat) : (toList r n).drop m = toList (shift r m) (n - m) := by
  apply List.ext_getElem?
  intro j
  simp only [getElem?_toList, List.getElem?_drop, shift_apply]
  split_ifs <;> first | rfl | omega

theorem toList_eq_zeros {r : Region} {n : Nat} (h : ∀ i < n, r i = 0#64) : toList r n = zeros n := by
  apply List.ext_getElem?
  intro j
  simp only [getElem?_toList, zeros, List.getElem?_replicate]
  split_ifs with hj
  · rw [h j hj]
  · rfl

theorem toList_pad {r src : Region} {k m : Nat} (hm : m ≤ k)
    (h : ∀ i < k, r i = if i < m then src i else 0#64) : toList r k = toList src m ++ zeros (k - m) := by
  obtain ⟨d, rfl⟩ := Nat.exists_eq_add_of_le hm
  rw [toList_add, Nat.add_sub_cancel_left]
  congr 1
  · exact toList_congr fun i hi => by rw [h i (by omega), if_pos hi]
  · exact toList_eq_zeros fun i hi => by rw [shift_apply, h _ (by omega), if_neg (by omega)]

theorem toList_drop_take (r : Region) {N k n : Nat} (h : k + n ≤ N) :
    ((toList r N).drop k).take n = toList (shift r k) n := by
  rw [toList_drop, toList_take, Nat.min_eq_left (by omega)]

theorem toList_zero (n : Nat) : toList Region.zero n = zeros n := toList_eq_zeros fun _ _ => rfl

theorem toList_copyN (d s : Region) (n : Nat) : toList (copyN d s n) n = toList s n :=
  toList_congr fun i hi => by rw [copyN_apply, if_pos hi]

theorem toList_zeroN (d : Region) (n : Nat) : toList (zeroN d n) n = zeros n :=
  toList_eq_zeros fun i hi => by rw [zeroN_apply, if_pos hi]

def Agree (n : Nat) (s s' : Region) : Prop := ∀ i, i < n → s i = s' i

def trunc (n : Nat) (x : Region) : Region := ofList (toList x n)

theorem agree_trunc (x : Region) (n : Nat) : Agree n x (trunc n x) := fun i hi => by
  rw [trunc, ofList_apply, List.getD_eq_getElem?_getD, getElem?_toList, if_pos hi]
  rfl

theorem trunc_congr {n : Nat} {x x' : Region} (h : Agree n x x') : trunc n x = trunc n x' :=
  congrArg ofList (toList_congr h)

theorem copyN_agree {n : Nat} (d d' : Region) {s s' : Region} (h : Agree n s s') : Agree n (copyN d s n) (copyN d' s' n) :=
  fun i hi => by rw [copyN_apply, copyN_apply, if_pos hi, if_pos hi, h i hi]

theorem shift_shift (r : Region) (a b : Nat) : shift (shift r a) b = shift r (a + b) := by
  ext i
  simp only [shift_apply, Nat.add_assoc]

theorem shift_unshift (t r : Region) (k : Nat) : shift (unshift t k r) k = r := by
  ext i
  rw [shift_apply, unshift_apply, if_pos (Nat.le_add_right k i), Nat.add_sub_cancel_left]

theorem toList_unshift_of_le (t r : Region) {n k : Nat} (h : n ≤ k) : toList (unshift t k r) n = toList t n :=
  toList_congr fun i hi => by rw [unshift_apply, if_neg (by omega)]

/-- a block `r` that was handed out as `t + k` and written only below `c` leaves `t` unchanged from `k + c` on -/
theorem unshift_apply_of_frame {t r : Region} {k c j : Nat} (h : ∀ i, c ≤ i → r i = (shift t k) i) (hj : k + c ≤ j) :
    (unshift t k r) j = t j := by
  rw [unshift_apply, if_pos (by omega), h _ (by omega), shift_apply, Nat.add_sub_cancel' (by omega)]

end Region

end GoldilocksVerif
