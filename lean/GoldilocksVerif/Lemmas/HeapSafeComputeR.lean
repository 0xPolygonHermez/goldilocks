/-
  IN-BOUNDS ACCESSES of the generated `computeR(int N)` (`NTT_computeR.Safe`, derived from the generated definition):
  `r = new Element[N]`, `r_ = new Element[N]` are the two new last blocks of N words; `r[0]`, `r_[0]`, the loop
  `r[i] = r[i-1]·shift; r_[i] = r[i]·powTwoInv[domainPow]` for 1 ≤ i < N stay inside them, and `powTwoInv[log2 N]` is a
  word of the object's table (s + 1 words) when log2 N ≤ s (the object was built for a domain of at least N points).
-/
import GoldilocksVerif.Lemmas.HeapSafeIters
import GoldilocksVerif.Lemmas.HeapSafeOwn
open GoldilocksVerif Gen.NttGen GoldilocksVerif.BridgeNtt
namespace GoldilocksVerif.HeapSafe

/-- **in-bounds accesses of `computeR(N)`**, 1 ≤ N < 2^31 (an `int`), on an object whose `powTwoInv` table has the s + 1
    words the constructor gave it, log2 N ≤ s -/
theorem computeR_safe (fuel : Nat) (hf : 64 ≤ fuel) (hp : Heap) (self : NTT_Goldilocks) (N : Nat)
    (hN1 : 1 ≤ N) (hN31 : N < 2 ^ 31) (hlog : Model.Ntt.log2 N ≤ self.s.toNat)
    (hpti : self.powTwoInv.off + self.s.toNat + 1 ≤ hp.ext self.powTwoInv.blk) :
    NTT_computeR.Safe fuel hp self (N : Int) := by
  have hNt : (bv N).toNat = N := bv_toNat N (by omega)
  have hNne : bv N ≠ 0#64 := bv_ne_zero N hN1 (by omega)
  have hlg := log2_gen_eq fuel (by unfold log2Fuel; omega) (bv N) hNne
  rw [hNt] at hlg
  have hs32 : self.s.toNat < 2 ^ 32 := self.s.isLt
  have hdp : (BitVec.setWidth 64 (BitVec.ofNat 32 (Model.Ntt.log2 N))).toNat = Model.Ntt.log2 N := by
    rw [setWidth_ofNat32 _ (by omega), bv_toNat _ (by omega)]
  have hpl : self.powTwoInv.blk < hp.size := Heap.lt_size_of_live hp _ (by omega)
  obtain ⟨x1, x2, x3, x4⟩ := ext_alloc_two hp N N
  unfold NTT_computeR.Safe
  intro y hy
  rw [toU64_nat, hlg] at hy
  cases hy
  zeta_goal
  simp only [toU64_nat, hNt, Int.toNat_natCast, hdp]
  have hb1 : (hp.alloc N).2 = ⟨hp.size, 0⟩ := rfl
  have hb2 : ((hp.alloc N).1.alloc N).2 = ⟨hp.size + 1, 0⟩ := by
    rw [Heap.alloc_snd, Heap.size_alloc]
  rw [hb1, hb2]
  -- every access is `r[j]`, `r_[j]` (j < N: the two new blocks of N words) or `powTwoInv[log2 N]`; the accesses in front of
  -- the loop and in its body are taken as they come (a table entry read once into a local, or in every iteration)
  have hlN : Model.Ntt.log2 N ≤ self.s.toNat := hlog
  have close : ∀ (st : Heap), (∀ b, st.ext b = ((hp.alloc N).1.alloc N).1.ext b) → ∀ (p : Ptr) (j : Nat),
      ((p = ⟨hp.size, 0⟩ ∨ p = ⟨hp.size + 1, 0⟩) ∧ j < N) ∨ (p = self.powTwoInv ∧ j = Model.Ntt.log2 N) → st.InB p j := by
    intro st hst p j h
    unfold Heap.InB
    rw [hst]
    rcases h with ⟨rfl | rfl, hj⟩ | ⟨rfl, rfl⟩
    · show 0 + j < _; rw [x1]; omega
    · show 0 + j < _; rw [x2]; omega
    · rw [x3 _ hpl]; omega
  repeat' apply And.intro
  all_goals first
    | (refine close _ (fun b => by simp only [Heap.ext_set]) _ _ ?_
       first | exact Or.inl ⟨Or.inl rfl, by omega⟩ | exact Or.inl ⟨Or.inr rfl, by omega⟩ | exact Or.inr ⟨rfl, by first | rfl | exact hdp⟩)
    | (refine Loop.RangeAll.of_same (fun i s _ => by loop_same) (fun i st hi1 hi hst => ?_)
       unfold_loops
       zeta_goal
       repeat' apply And.intro
       all_goals (
         refine close _ (fun b => by simp only [Heap.ext_set, hst.2]) _ _ ?_
         first | exact Or.inl ⟨Or.inl rfl, by omega⟩ | exact Or.inl ⟨Or.inr rfl, by omega⟩ | exact Or.inr ⟨rfl, by first | rfl | exact hdp⟩))

end GoldilocksVerif.HeapSafe
