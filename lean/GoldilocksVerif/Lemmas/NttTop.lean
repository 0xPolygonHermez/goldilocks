/-
  L2, part 5: `NTT` (column blocks), `INTT`, `extendPol` of the model against the specification.
-/
import GoldilocksVerif.Lemmas.NttIters
import GoldilocksVerif.Lemmas.NttMkObj
import GoldilocksVerif.Lemmas.NttEasy
import GoldilocksVerif.Lemmas.NttObj

namespace GoldilocksVerif.Model.Ntt
open GoldilocksVerif.NttSpec

theorem scatterBlock_spec (dst d : Buf) (n ncols off w : Nat) (how : off + w ≤ ncols) (hsz : n * ncols ≤ dst.size) :
    (scatterBlock dst d n ncols off w).size = dst.size ∧
    ∀ r c, c < ncols →
      cell (scatterBlock dst d n ncols off w) ncols r c
        = if r < n ∧ off ≤ c ∧ c < off + w then cell d w r (c - off) else cell dst ncols r c := by
  unfold scatterBlock
  -- a parallel loop: iteration `ie` writes the window of row `ie` only
  obtain ⟨h1, h2, h3⟩ := Par.LocalB.iter_at (n := n) (f := fun ie dst => copyRow dst (ie * ncols + off) d (ie * w) w)
    (fun ie => (Par.copyRow_writer (ie * ncols + off) (ie * w) w).local d)
    (fun i j _ _ hne x h h' => hne (Par.row_unique ncols i j x (by omega) (by omega) (by omega) (by omega))) dst
  refine ⟨h1, fun r c hc => ?_⟩
  unfold cell
  by_cases hin : r < n ∧ off ≤ c ∧ c < off + w
  · have hfit := row_fits ncols n r dst.size hin.1 hsz
    rw [Nat.add_mul, Nat.one_mul] at hfit
    rw [if_pos hin, h2 r hin.1 _ ⟨by omega, by omega⟩, copyRow_getD, if_pos ⟨by omega, by omega, by omega⟩]
    have : r * w + (r * ncols + c - (r * ncols + off)) = r * w + (c - off) := by omega
    rw [this]
  · rw [if_neg hin, h3 _ (fun ie hie hx => hin ?_)]
    obtain rfl := Par.row_unique ncols r ie (r * ncols + c) (by omega) (by omega) (by omega) (by omega)
    exact ⟨hie, by omega, by omega⟩

theorem outSpec_congr (o : Obj) (d : Nat) (inverse extend : Bool) (x y : Nat → F) (k' : Nat)
    (h : ∀ j, j < 2 ^ d → x j = y j) : outSpec o d inverse extend x k' = outSpec o d inverse extend y k' := by
  unfold outSpec
  rw [h 0 (Nat.two_pow_pos d), dft_congr _ _ x y k' h, dft_congr _ _ x y k' h]

theorem xin_cell (o : Obj) (srcB : Buf) (size nca oc k j : Nat) :
    xin o srcB size nca oc k j = if o.extension ≤ 1 ∨ j < size / o.extension then cell srcB nca j (oc + k) else 0 := by
  unfold xin cell
  rw [Nat.add_assoc]

theorem xin_of_ext (o : Obj) (h : o.extension ≤ 1) (srcB : Buf) (size nca c j : Nat) :
    xin o srcB size nca 0 c j = cell srcB nca j c := by
  rw [xin_cell, if_pos (Or.inl h), Nat.zero_add]

theorem nttBlocks_spec (o : Obj) (dstIsSrc : Bool) (dstB srcB : Buf) (d ncols nphase nblock : Nat) (inverse extend : Bool)
    (hd : d ≤ 32) (hR : RootsOk o d) (hnb1 : 1 ≤ nblock) (hnb2 : nblock ≤ ncols)
    (hdst : 2 ^ d * ncols ≤ (if dstIsSrc then srcB else dstB).size) :
    ∃ out, nttBlocks o dstIsSrc dstB srcB (2 ^ d) ncols nphase nblock inverse extend
        = .ok (out, if dstIsSrc then out else srcB) ∧
      out.size = (if dstIsSrc then srcB else dstB).size ∧
      ∀ k' c, k' < 2 ^ d → c < ncols →
        cell out ncols k' c = outSpec o d inverse extend (xin o srcB (2 ^ d) ncols 0 c) k' := by
  unfold nttBlocks
  dsimp only
  by_cases hb : nblock ≤ 1
  · rw [if_pos hb]
    have h1 : nblock = 1 := by omega
    subst h1
    apply nttIters_spec' o dstB srcB _ dstIsSrc d 0 ncols ncols nphase inverse extend hd hR hdst
    · rw [Array.size_replicate, Nat.div_one]
      exact Nat.mul_le_mul_left _ (by omega)
    · omega
    · intro _; exact ⟨rfl, rfl⟩
  · rw [if_neg hb]
    generalize hq : ncols / nblock = q
    generalize hres : ncols % nblock = res
    generalize halloc : (q + if res > 0 then 1 else 0) = alloc
    generalize haux : Array.replicate (2 ^ d * alloc) (0#64 : W) = aux
    generalize hdst0 : (if dstIsSrc = true then srcB else dstB) = dst0 at hdst
    have hauxs : aux.size = 2 ^ d * alloc := by rw [← haux, Array.size_replicate]
    have hwle : ∀ ib, blkW q res ib ≤ alloc := by
      intro ib; unfold blkW; rw [← halloc]
      by_cases h : ib < res
      · rw [if_pos h, if_pos (by omega)]
      · rw [if_neg h]; omega
    have htot : blkOff q res nblock = ncols := by rw [← hq, ← hres]; exact blkOff_total ncols nblock (by omega)
    have e0 : blkOff q res 0 = 0 := by simp [blkOff]
    have hs0 : dstIsSrc = true → dst0 = srcB := fun h => by rw [h] at hdst0; exact hdst0.symm
    have shape := nttBlock_loop_ok o aux dstIsSrc (2 ^ d) ncols nphase q res alloc inverse extend dst0 srcB hs0
    -- after the column blocks `< m` (no abort): their columns hold the result, the other columns are untouched
    have key : ∀ m, m ≤ nblock → ∃ st,
        iter m (Except.ok (dst0, srcB, 0)) (nttBlock o aux dstIsSrc (2 ^ d) ncols nphase q res alloc inverse extend) = .ok st ∧
        (∀ k' c, k' < 2 ^ d → c < blkOff q res m →
          cell st.1 ncols k' c = outSpec o d inverse extend (xin o srcB (2 ^ d) ncols 0 c) k') ∧
        (∀ k' c, k' < 2 ^ d → blkOff q res m ≤ c → c < ncols → cell st.1 ncols k' c = cell dst0 ncols k' c) := by
      intro m
      induction m with
      | zero => exact fun _ => ⟨_, rfl, fun k' c _ hc => by rw [e0] at hc; omega, fun _ _ _ _ _ => rfl⟩
      | succ ib ih =>
        intro hib
        obtain ⟨st, e, i2, i3⟩ := ih (by omega)
        obtain ⟨hst, i1⟩ := shape ib st e
        obtain ⟨dst, src0, off0⟩ := st
        simp only at hst i1 i2 i3
        rw [iter_succ, e, hst]
        unfold nttBlock
        simp only
        have hoff : blkOff q res ib + blkW q res ib ≤ ncols := by
          rw [← blkOff_succ, ← htot]; exact blkOff_mono q res _ _ hib
        have hw : (q + if ib < res then 1 else 0) = blkW q res ib := rfl
        rw [hw]
        generalize hsrc : (if dstIsSrc = true then dst else srcB) = src
        obtain ⟨dd, e2, s2, c2⟩ := nttIters_spec' o (Array.replicate (2 ^ d * alloc) (0#64 : W)) src aux false d
          (blkOff q res ib) (blkW q res ib) ncols nphase inverse extend hd hR
          (by simp only [Bool.false_eq_true, if_false, Array.size_replicate]; exact Nat.mul_le_mul_left _ (hwle ib))
          (by rw [hauxs]; exact Nat.mul_le_mul_left _ (hwle ib)) hoff (by simp)
        rw [e2]
        dsimp only
        obtain ⟨t1, t2⟩ := scatterBlock_spec dst dd (2 ^ d) ncols (blkOff q res ib) (blkW q res ib) hoff (by rw [i1]; exact hdst)
        refine ⟨_, rfl, ?_, ?_⟩
        · intro k' c hk' hc
          rw [blkOff_succ] at hc
          have hcn : c < ncols := by omega
          rw [t2 k' c hcn]
          by_cases hin : k' < 2 ^ d ∧ blkOff q res ib ≤ c ∧ c < blkOff q res ib + blkW q res ib
          · rw [if_pos hin, c2 k' (c - blkOff q res ib) hk' (by omega)]
            apply outSpec_congr
            intro j hj
            rw [xin_cell, xin_cell]
            have ec : blkOff q res ib + (c - blkOff q res ib) = 0 + c := by omega
            rw [ec]
            have : cell src ncols j (0 + c) = cell srcB ncols j (0 + c) := by
              rw [← hsrc]
              cases dstIsSrc
              · rfl
              · simp only [if_true]
                rw [Nat.zero_add, i3 j c hj (by omega) hcn, hs0 rfl]
            rw [this]
          · rw [if_neg hin]
            exact i2 k' c hk' (by omega)
        · intro k' c hk' hc hcn
          rw [blkOff_succ] at hc
          rw [t2 k' c hcn, if_neg (by omega)]
          exact i3 k' c hk' (by omega) hcn
    obtain ⟨st, e, i2, _⟩ := key nblock (Nat.le_refl _)
    obtain ⟨hst, i1⟩ := shape nblock st e
    rw [e, hst]
    exact ⟨st.1, rfl, i1, fun k' c hk' hc => i2 k' c hk' (by rw [htot]; exact hc)⟩

/-- what the proofs need to know about a transform object usable up to size `2^D` -/
structure ObjOk (o : Obj) (D : Nat) : Prop where
  dle : D ≤ 32
  roots : RootsOk o D
  pti : ∀ k, k ≤ D → den (o.powTwoInv.getD k 0#64) * (2 : F) ^ k = 1
  ext : o.extension ≤ 1
  wf : o.wf

theorem ObjOk.mono {o : Obj} {D D' : Nat} (h : ObjOk o D) (hD : D' ≤ D) : ObjOk o D' :=
  ⟨by have := h.dle; omega, fun dp idx h1 h2 h3 => h.roots dp idx h1 (by omega) h3, fun k hk => h.pti k (by omega), h.ext, h.wf⟩

theorem mkObj_ok (m e : Nat) (o : Obj) (hm : m ≠ 0) (he : e ≤ 1) (h : mkObj m e = some o) : ObjOk o (log2 m) := by
  obtain ⟨h1, h2, h3, h4, h5⟩ := mkObj_spec m e o hm h
  exact ⟨h1, h4, h5, by rw [h2]; exact he, wf_of_fresh o h3⟩

theorem ObjOk.setCache {o : Obj} {D : Nat} (h : ObjOk o D) (c) (hc : (setCache o c).wf) : ObjOk (setCache o c) D :=
  ⟨h.dle, h.roots, h.pti, h.ext, hc⟩

theorem clampBlock_range (nblock ncols : Nat) (h : 1 ≤ ncols) : 1 ≤ clampBlock nblock ncols ∧ clampBlock nblock ncols ≤ ncols := by
  unfold clampBlock
  split
  · omega
  · split <;> omega

theorem outSpec_fwd (o : Obj) (d : Nat) (extend : Bool) (x : Nat → F) (k' : Nat) (hk : k' < 2 ^ d) :
    outSpec o d false extend x k' = dft (omega d) (2 ^ d) x k' := by
  unfold outSpec
  by_cases hd : d = 0
  · subst hd
    have : k' = 0 := by simpa using hk
    subst this
    rw [if_pos rfl]
    unfold dft
    simp
  · rw [if_neg hd]; simp

/-- the transform of the model, all shapes: never aborts, destination size unchanged, every output cell as specified -/
theorem ntt_spec (o : Obj) (mode : DstMode) (dstB srcB : Buf) (d ncols nphase nblock : Nat) (inverse extend : Bool)
    (hd : d ≤ 32) (hR : RootsOk o d) (hnc : 1 ≤ ncols)
    (hdst : 2 ^ d * ncols ≤ (if mode = .other then dstB else srcB).size) :
    ∃ out, ntt o mode dstB srcB (2 ^ d) ncols nphase nblock inverse extend
        = .ok (out, if mode = .other then srcB else out) ∧
      out.size = (if mode = .other then dstB else srcB).size ∧
      ∀ k' c, k' < 2 ^ d → c < ncols →
        cell out ncols k' c = outSpec o d inverse extend (xin o srcB (2 ^ d) ncols 0 c) k' := by
  unfold ntt
  have h0 : ¬ (ncols = 0 ∨ 2 ^ d = 0) := by
    have := Nat.two_pow_pos d; omega
  rw [if_neg h0]
  obtain ⟨b1, b2⟩ := clampBlock_range nblock ncols hnc
  have hmode : (if (decide (mode ≠ DstMode.other) : Bool) = true then srcB else dstB) = (if mode = .other then dstB else srcB) := by
    cases mode <;> rfl
  obtain ⟨out, e, s, c⟩ := nttBlocks_spec o (decide (mode ≠ DstMode.other)) dstB srcB d ncols nphase (clampBlock nblock ncols) inverse extend
    hd hR b1 b2 (by rw [hmode]; exact hdst)
  refine ⟨out, ?_, by rw [s, hmode], c⟩
  rw [e]
  cases mode <;> rfl

/-- C03 in the model: the forward transform computes the DFT of every column -/
theorem ntt_forward (o : Obj) (D : Nat) (hO : ObjOk o D) (mode : DstMode) (dstB srcB : Buf) (d ncols nphase nblock : Nat)
    (hd : d ≤ D) (hnc : 1 ≤ ncols)
    (hdst : 2 ^ d * ncols ≤ (if mode = .other then dstB else srcB).size) :
    ∃ out, ntt o mode dstB srcB (2 ^ d) ncols nphase nblock false false = .ok (out, if mode = .other then srcB else out) ∧
      out.size = (if mode = .other then dstB else srcB).size ∧
      ∀ k c, k < 2 ^ d → c < ncols →
        cell out ncols k c = dft (omega d) (2 ^ d) (fun j => cell srcB ncols j c) k := by
  have hO' := hO.mono hd
  obtain ⟨out, e, s, c⟩ := ntt_spec o mode dstB srcB d ncols nphase nblock false false hO'.dle hO'.roots hnc hdst
  refine ⟨out, e, s, ?_⟩
  intro k c' hk hc
  rw [c k c' hk hc, outSpec_fwd _ _ _ _ _ hk]
  exact dft_congr _ _ _ _ _ (fun j _ => xin_of_ext o hO.ext srcB _ _ c' j)

theorem intt_spec (o : Obj) (mode : DstMode) (dstB srcB : Buf) (d ncols nphase nblock : Nat) (extend : Bool)
    (hd : d ≤ 32) (hR : RootsOk o d) (hnc : 1 ≤ ncols)
    (hdst : 2 ^ d * ncols ≤ (if mode = .other then dstB else srcB).size) :
    ∃ out, intt o mode dstB srcB (2 ^ d) ncols nphase nblock extend
        = .ok (out, if mode = .other then srcB else out) ∧
      out.size = (if mode = .other then dstB else srcB).size ∧
      ∀ k' c, k' < 2 ^ d → c < ncols →
        cell out ncols k' c = outSpec o d true extend (xin o srcB (2 ^ d) ncols 0 c) k' := by
  rw [intt_eq_ntt]
  have hm : ∀ {α : Type} (x y : α), (if (if mode = DstMode.null then DstMode.same else mode) = DstMode.other then x else y)
      = (if mode = DstMode.other then x else y) := by
    intro α x y; cases mode <;> rfl
  obtain ⟨out, e, s, c⟩ := ntt_spec o (if mode = .null then .same else mode) dstB srcB d ncols nphase nblock true extend
    hd hR hnc (by rw [hm]; exact hdst)
  rw [hm] at e s
  exact ⟨out, e, s, c⟩

/-- an inverse transform whose scaling factor in row `k` is `g / 2^d` (size 1: `g = 1`) delivers `g · idft` -/
theorem outSpec_inv (o : Obj) (d : Nat) (extend : Bool) (x : Nat → F) (k : Nat) (hk : k < 2 ^ d) (g s : F)
    (hs : s * ((2 ^ d : Nat) : F) = 1) (hsf : den (scaleFactor o extend d k) = g * s) (hg : d = 0 → g = 1) :
    outSpec o d true extend x k = g * idft (omega d) (2 ^ d) x k := by
  unfold outSpec
  by_cases hd : d = 0
  · subst hd
    have : k = 0 := by simpa using hk
    subst this
    rw [if_pos rfl, hg rfl]
    unfold idft
    simp
  · rw [if_neg hd, if_pos rfl, hsf, ← idft_scaled (omega d) (2 ^ d) x k s hs]
    ring

/-- C04 in the model: the inverse transform computes the inverse DFT of every column -/
theorem intt_inverse (o : Obj) (D : Nat) (hO : ObjOk o D) (mode : DstMode) (dstB srcB : Buf) (d ncols nphase nblock : Nat)
    (hd : d ≤ D) (hnc : 1 ≤ ncols)
    (hdst : 2 ^ d * ncols ≤ (if mode = .other then dstB else srcB).size) :
    ∃ out, intt o mode dstB srcB (2 ^ d) ncols nphase nblock false = .ok (out, if mode = .other then srcB else out) ∧
      out.size = (if mode = .other then dstB else srcB).size ∧
      ∀ k c, k < 2 ^ d → c < ncols →
        cell out ncols k c = idft (omega d) (2 ^ d) (fun j => cell srcB ncols j c) k := by
  have hO' := hO.mono hd
  obtain ⟨out, e, s, c⟩ := intt_spec o mode dstB srcB d ncols nphase nblock false hO'.dle hO'.roots hnc hdst
  refine ⟨out, e, s, ?_⟩
  intro k c' hk hc
  rw [c k c' hk hc, outSpec_congr o d true false _ _ k (fun j _ => xin_of_ext o hO.ext srcB _ _ c' j),
    outSpec_inv o d false _ k hk 1 (den (o.powTwoInv.getD d 0#64)) (by push_cast; exact hO'.pti d (Nat.le_refl _))
      (one_mul _).symm (fun _ => rfl), one_mul]

/-- C05 in the model: `extendPol` evaluates the interpolant of every column on the coset `7·ω_ext^k` -/
theorem extendPol_spec (o : Obj) (D : Nat) (hO : ObjOk o D) (same : Bool) (outB inB : Buf) (dn de ncols nphase nblock : Nat)
    (hdn : dn ≤ D) (hde : dn ≤ de) (hde32 : de ≤ 32) (hnc : 1 ≤ ncols)
    (hout : 2 ^ de * ncols ≤ (if same then inB else outB).size) :
    ∃ o' out, extendPol o same outB inB (2 ^ de) (2 ^ dn) ncols nphase nblock = .ok (o', out) ∧
      out.size = (if same then inB else outB).size ∧ o'.wf ∧ o'.base = o.base ∧
      ∀ k c, k < 2 ^ de → c < ncols →
        cell out ncols k c = lde 7 (omega dn) (omega de) (2 ^ dn) (fun j => cell inB ncols j c) k := by
  have hOn := hO.mono hdn
  have hlog : log2 (2 ^ de) = de := Nat.log2_two_pow
  have hE : 2 ^ de / 2 ^ dn = 2 ^ (de - dn) := Nat.pow_div hde (by omega)
  have hne : 2 ^ de ≠ 0 := Nat.ne_of_gt (Nat.two_pow_pos de)
  obtain ⟨oext, hoext⟩ := mkObj_some (2 ^ de) (2 ^ de / 2 ^ dn) (by rw [hlog]; exact hde32)
  obtain ⟨_, x2, _, x4, _⟩ := mkObj_spec (2 ^ de) (2 ^ de / 2 ^ dn) oext hne hoext
  rw [hlog] at x4
  have hRext : RootsOk oext de := x4
  have hrc := refreshCache_of_wf o hO.wf (2 ^ dn)
  have hwf' := refreshCache_wf o hO.wf (2 ^ dn)
  have hbase' := refreshCache_base o hO.wf (2 ^ dn)
  generalize ho' : refreshCache o (2 ^ dn) = o' at hrc hwf' hbase'
  have hR' : RootsOk o' dn := by
    intro dp idx h1 h2 h3
    rw [hrc]
    exact hOn.roots dp idx h1 h2 h3
  have hext' : o'.extension ≤ 1 := by rw [hrc]; exact hO.ext
  have hle : 2 ^ dn * ncols ≤ 2 ^ de * ncols := Nat.mul_le_mul_right _ (Nat.pow_le_pow_right (by omega) hde)
  -- step 1: the scaled inverse transform
  have hm1 : ∀ {α : Type} (x y : α), (if (if same = true then DstMode.same else DstMode.other) = DstMode.other then x else y)
      = (if same = true then y else x) := by
    intro α x y; cases same <;> rfl
  obtain ⟨out1, e1, s1, c1⟩ := intt_spec o' (if same then .same else .other) outB inB dn ncols nphase nblock true
    hOn.dle hR' hnc (by rw [hm1]; exact Nat.le_trans hle hout)
  rw [hm1] at e1 s1
  -- step 2: the forward transform of the zero-extended result
  obtain ⟨out2, e2, s2, c2⟩ := ntt_spec oext .same #[] out1 de ncols nphase nblock false false hde32 hRext hnc
    (by simp only [reduceCtorEq, if_false]; rw [s1]; exact hout)
  simp only [reduceCtorEq, if_false] at e2 s2
  unfold extendPol
  rw [hoext]
  simp only
  rw [ho', e1]
  simp only
  rw [e2]
  simp only
  refine ⟨o', out2, rfl, by rw [s2, s1], hwf', hbase', ?_⟩
  intro k c hk hc
  rw [c2 k c hk hc, outSpec_fwd _ _ _ _ _ hk]
  unfold lde
  rw [← dft_zero_ext (omega de) 7 (2 ^ dn) (2 ^ de) (Nat.pow_le_pow_right (by omega) hde)]
  apply dft_congr
  intro j hj
  rw [xin_cell, x2, hE, Nat.zero_add]
  have hcond : (2 ^ (de - dn) ≤ 1 ∨ j < 2 ^ de / 2 ^ (de - dn)) ↔ j < 2 ^ dn := by
    have h2 : 2 ^ de / 2 ^ (de - dn) = 2 ^ dn := by
      rw [Nat.pow_div (by omega) (by omega)]; congr 1; omega
    rw [h2]
    constructor
    · rintro (h | h)
      · have : de - dn = 0 := by
          rcases Nat.eq_zero_or_pos (de - dn) with h0 | h0
          · exact h0
          · have := Nat.one_lt_two_pow (n := de - dn) (by omega); omega
        have : de = dn := by omega
        rw [this] at hj; exact hj
      · exact h
    · intro h; exact Or.inr h
  by_cases hjn : j < 2 ^ dn
  · rw [if_pos (hcond.mpr hjn), if_pos hjn, c1 j c hjn hc]
    have hsf : den (scaleFactor o' true dn j) = 7 ^ j * den (o.powTwoInv.getD dn 0#64) := by
      unfold scaleFactor
      simp only [if_true]
      rw [hrc]
      simp only [setCache]
      have := (computeR_spec o.base (2 ^ dn) (Nat.two_pow_pos dn)).2.2 j hjn
      rw [show log2 (2 ^ dn) = dn from Nat.log2_two_pow] at this
      exact this
    have hg : dn = 0 → (7 : F) ^ j = 1 := by
      intro h0
      subst h0
      have : j = 0 := by simpa using hjn
      rw [this, pow_zero]
    rw [outSpec_congr o' dn true true _ _ j (fun i _ => xin_of_ext o' hext' inB _ _ c i),
      outSpec_inv o' dn true _ j hjn (7 ^ j) (den (o.powTwoInv.getD dn 0#64)) (by push_cast; exact hOn.pti dn (Nat.le_refl _)) hsf hg]
  · rw [if_neg (fun h => hjn (hcond.mp h)), if_neg hjn]

end GoldilocksVerif.Model.Ntt
