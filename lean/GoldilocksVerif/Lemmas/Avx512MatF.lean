/-
  AVX512 12-wide kernels on two interleaved states (Gen/Avx512Mat.lean) in the field view.  Every statement is about one
  half `a.half h` of the 8-lane registers and is the AVX2 statement (`IsSpmv`, `dot12` of Avx2MatF.lean) on that half.
-/
import GoldilocksVerif.Gen.Avx512Mat
import GoldilocksVerif.Gen.PosAvx512
import GoldilocksVerif.Lemmas.Avx512Nat
import GoldilocksVerif.Lemmas.Avx2MatF
set_option linter.unusedTactic false
set_option linter.unreachableTactic false
namespace GoldilocksVerif
open Gen.Avx512 Gen.Avx512Mat Gen.VecConsts Lane

theorem add512_al_eq (c b : V8) : Gen.PosAvx512.add_avx512__wWW_al_c_a c b = add_avx512__wWW c b := by
  simp only [Gen.PosAvx512.add_avx512__wWW_al_c_a, add_avx512__wWW]

theorem den_add_avx512 (a b : V8) (i : Fin 8) : den ((add_avx512__wWW a b).get i) = den (a.get i) + den (b.get i) := by
  apply den_add_of; exact add512_spec a b i
theorem den_mult_avx512 (a b : V8) (i : Fin 8) : den ((mult_avx512 a b).get i) = den (a.get i) * den (b.get i) := by
  apply den_mul_of; exact mult512_spec a b i
theorem den_square_avx512 (a : V8) (i : Fin 8) : den ((square_avx512 a).get i) = den (a.get i) * den (a.get i) := by
  apply den_mul_of; exact square512_spec a i
theorem den_add512_b_c (a b : V8) (i : Fin 8) (hb : (b.get i).toNat < P) :
    den ((add_avx512_b_c a b).get i) = den (a.get i) + den (b.get i) := by
  apply den_add_of
  apply add512_b_c_spec
  have := (a.get i).isLt
  omega

/-- the two interleaved 4-lane halves of an 8-lane register -/
def V8.lo (a : V8) : V4 := ⟨a.l0, a.l1, a.l2, a.l3⟩
def V8.hi (a : V8) : V4 := ⟨a.l4, a.l5, a.l6, a.l7⟩

theorem lo_get (a : V8) : (a.lo.get 0 = a.get 0 ∧ a.lo.get 1 = a.get 1 ∧ a.lo.get 2 = a.get 2 ∧ a.lo.get 3 = a.get 3) ∧
    (a.hi.get 0 = a.get 4 ∧ a.hi.get 1 = a.get 5 ∧ a.hi.get 2 = a.get 6 ∧ a.hi.get 3 = a.get 7) :=
  ⟨⟨rfl, rfl, rfl, rfl⟩, ⟨rfl, rfl, rfl, rfl⟩⟩

/-- one of the two halves, chosen by `h` (`false`: lanes 0..3, state A; `true`: lanes 4..7, state B) -/
def V8.half : Bool → V8 → V4
  | false, a => a.lo
  | true, a => a.hi

/-- lane `i` of half `h` as a lane of the whole register -/
def half8 (h : Bool) (i : Fin 4) : Fin 8 := ⟨(if h then 4 else 0) + i.val, by split <;> omega⟩

theorem half_get (h : Bool) (a : V8) (i : Fin 4) : (a.half h).get i = a.get (half8 h i) := by
  cases h <;> match i with
  | 0 => rfl | 1 => rfl | 2 => rfl | 3 => rfl

theorem half8_mod (h : Bool) (i : Fin 4) : (half8 h i).val % 4 = i.val := by
  have := i.isLt
  show ((if h then 4 else 0) + i.val) % 4 = i.val
  split <;> omega

/-! #### coefficient registers

  The sparse kernels fill three registers with `b[4j .. 4j+3]` in both halves (one half per interleaved state).
  However they are filled (`_mm512_set4_epi64` of the four elements, `_mm512_broadcast_i64x4` of an unaligned
  256-bit load, …), unfolding the fill intrinsics gives the same register of reads, named `coef8 b (4j)` here;
  the proofs below only use what that register holds at a lane (`coef8_get`). -/

def coef8 (b : Region) (off : Nat) : V8 :=
  ⟨b off, b (off + 1), b (off + 2), b (off + 3), b off, b (off + 1), b (off + 2), b (off + 3)⟩

theorem coef8_get (b : Region) (off : Nat) (i : Fin 8) : (coef8 b off).get i = b (off + i.val % 4) := by
  match i with
  | 0 => rfl | 1 => rfl | 2 => rfl | 3 => rfl | 4 => rfl | 5 => rfl | 6 => rfl | 7 => rfl

theorem coef8_0 (b : Region) : (⟨b 0, b 1, b 2, b 3, b 0, b 1, b 2, b 3⟩ : V8) = coef8 b 0 := rfl
theorem coef8_4 (b : Region) : (⟨b 4, b 5, b 6, b 7, b 4, b 5, b 6, b 7⟩ : V8) = coef8 b 4 := rfl
theorem coef8_8 (b : Region) : (⟨b 8, b 9, b 10, b 11, b 8, b 9, b 10, b 11⟩ : V8) = coef8 b 8 := rfl

/-- brings the three coefficient registers of a sparse kernel (already unfolded in the goal) to `coef8 b (4j)` -/
macro "coef_norm" : tactic => `(tactic| (
  simp only [Avx512.set4_epi64, Avx512.set_epi64, Avx512.broadcast_i64x4, Avx512.load, Avx2.load, Avx2.set_epi64x,
    Region.shift_apply, Nat.reduceAdd]
  simp only [coef8_0, coef8_4, coef8_8]))

theorem spmv512_lane (a0 a1 a2 : V8) (b : Region) (i : Fin 8) :
    den ((spmv_avx512_4x12 a0 a1 a2 b).get i) =
      den (a0.get i) * den (b (i.val % 4)) + den (a1.get i) * den (b (4 + i.val % 4)) +
        den (a2.get i) * den (b (8 + i.val % 4)) := by
  simp only [spmv_avx512_4x12]
  coef_norm
  simp only [den_add_avx512, den_mult_avx512, coef8_get, Nat.zero_add]
  try ring

theorem spmv512_den (a0 a1 a2 : V8) (b : Region) (h : Bool) :
    IsSpmv (a0.half h) (a1.half h) (a2.half h) b ((spmv_avx512_4x12 a0 a1 a2 b).half h) := by
  intro i
  simp only [half_get]
  rw [spmv512_lane, half8_mod]

theorem set2_get (c : Region) (x y : BitVec 64) :
    (Region.set (Region.set c 0 x) 1 y) 0 = x ∧ (Region.set (Region.set c 0 x) 1 y) 1 = y ∧
    ∀ k, 2 ≤ k → (Region.set (Region.set c 0 x) 1 y) k = c k := by
  refine ⟨by simp [Region.set], by simp [Region.set], ?_⟩
  intro k hk
  have h0 : k ≠ 0 := by omega
  have h1 : k ≠ 1 := by omega
  simp [Region.set, h0, h1]

theorem store512_at (r : Region) (v : V8) :
    ((Avx512.store r v) 0 = v.l0 ∧ (Avx512.store r v) 1 = v.l1 ∧ (Avx512.store r v) 2 = v.l2 ∧ (Avx512.store r v) 3 = v.l3) ∧
    ((Avx512.store r v) 4 = v.l4 ∧ (Avx512.store r v) 5 = v.l5 ∧ (Avx512.store r v) 6 = v.l6 ∧ (Avx512.store r v) 7 = v.l7) :=
  ⟨⟨rfl, rfl, rfl, rfl⟩, ⟨rfl, rfl, rfl, rfl⟩⟩

/-- the scalar additions of the four stored lanes of a half may come in any association / order -/
theorem dot512_den (c : Region) (a0 a1 a2 : V8) (b : Region) :
    den ((dot_avx512 c a0 a1 a2 b) 0) = dot12 a0.lo a1.lo a2.lo b 0 ∧
    den ((dot_avx512 c a0 a1 a2 b) 1) = dot12 a0.hi a1.hi a2.hi b 0 ∧
    ∀ k, 2 ≤ k → (dot_avx512 c a0 a1 a2 b) k = c k := by
  have hl : den (spmv_avx512_4x12 a0 a1 a2 b).l0 + den (spmv_avx512_4x12 a0 a1 a2 b).l1 +
      (den (spmv_avx512_4x12 a0 a1 a2 b).l2 + den (spmv_avx512_4x12 a0 a1 a2 b).l3) = dot12 a0.lo a1.lo a2.lo b 0 :=
    row_sum_eq a0.lo a1.lo a2.lo b (spmv_avx512_4x12 a0 a1 a2 b).lo (spmv512_den a0 a1 a2 b false)
  have hh : den (spmv_avx512_4x12 a0 a1 a2 b).l4 + den (spmv_avx512_4x12 a0 a1 a2 b).l5 +
      (den (spmv_avx512_4x12 a0 a1 a2 b).l6 + den (spmv_avx512_4x12 a0 a1 a2 b).l7) = dot12 a0.hi a1.hi a2.hi b 0 :=
    row_sum_eq a0.hi a1.hi a2.hi b (spmv_avx512_4x12 a0 a1 a2 b).hi (spmv512_den a0 a1 a2 b true)
  have n01 : (0 : Nat) ≠ 1 := by decide
  refine ⟨?_, ?_, ?_⟩
  · simp only [dot_avx512, store_avx512, Region.set_apply, n01, if_true, if_false, den_add_r,
      (store512_at _ _).1.1, (store512_at _ _).1.2.1, (store512_at _ _).1.2.2.1, (store512_at _ _).1.2.2.2]
    first | exact hl | (rw [← hl]; ring)
  · simp only [dot_avx512, store_avx512, Region.set_apply, if_true, den_add_r,
      (store512_at _ _).2.1, (store512_at _ _).2.2.1, (store512_at _ _).2.2.2.1, (store512_at _ _).2.2.2.2]
    first | exact hh | (rw [← hh]; ring)
  · intro k hk
    have h0 : k ≠ 0 := by omega
    have h1 : k ≠ 1 := by omega
    simp only [dot_avx512, Region.set_apply, h0, h1, if_false]

/-- the permutex2var / unpack network is the 4x4 transpose in both halves -/
theorem transpose8 (r0 r1 r2 r3 : V8) :
    Avx512.unpacklo_pd (Avx512.permutex2var_epi64 r0 (Avx512.set_epi64 13#64 12#64 5#64 4#64 9#64 8#64 1#64 0#64) r2)
        (Avx512.permutex2var_epi64 r1 (Avx512.set_epi64 13#64 12#64 5#64 4#64 9#64 8#64 1#64 0#64) r3) =
      ⟨r0.l0, r1.l0, r2.l0, r3.l0, r0.l4, r1.l4, r2.l4, r3.l4⟩ ∧
    Avx512.unpackhi_pd (Avx512.permutex2var_epi64 r0 (Avx512.set_epi64 13#64 12#64 5#64 4#64 9#64 8#64 1#64 0#64) r2)
        (Avx512.permutex2var_epi64 r1 (Avx512.set_epi64 13#64 12#64 5#64 4#64 9#64 8#64 1#64 0#64) r3) =
      ⟨r0.l1, r1.l1, r2.l1, r3.l1, r0.l5, r1.l5, r2.l5, r3.l5⟩ ∧
    Avx512.unpacklo_pd (Avx512.permutex2var_epi64 r0 (Avx512.set_epi64 15#64 14#64 7#64 6#64 11#64 10#64 3#64 2#64) r2)
        (Avx512.permutex2var_epi64 r1 (Avx512.set_epi64 15#64 14#64 7#64 6#64 11#64 10#64 3#64 2#64) r3) =
      ⟨r0.l2, r1.l2, r2.l2, r3.l2, r0.l6, r1.l6, r2.l6, r3.l6⟩ ∧
    Avx512.unpackhi_pd (Avx512.permutex2var_epi64 r0 (Avx512.set_epi64 15#64 14#64 7#64 6#64 11#64 10#64 3#64 2#64) r2)
        (Avx512.permutex2var_epi64 r1 (Avx512.set_epi64 15#64 14#64 7#64 6#64 11#64 10#64 3#64 2#64) r3) =
      ⟨r0.l3, r1.l3, r2.l3, r3.l3, r0.l7, r1.l7, r2.l7, r3.l7⟩ := by
  refine ⟨rfl, rfl, rfl, rfl⟩

/-- `rows_sum4` on one half: four row registers, transposed and summed in the whole register `R` -/
theorem rows_sum (h : Bool) (a0 a1 a2 : V8) (M : Region) (r0 r1 r2 r3 : V8)
    (h0 : IsSpmv (a0.half h) (a1.half h) (a2.half h) M (r0.half h))
    (h1 : IsSpmv (a0.half h) (a1.half h) (a2.half h) (Region.shift M 12) (r1.half h))
    (h2 : IsSpmv (a0.half h) (a1.half h) (a2.half h) (Region.shift M 24) (r2.half h))
    (h3 : IsSpmv (a0.half h) (a1.half h) (a2.half h) (Region.shift M 36) (r3.half h)) (R : V8)
    (hR : ∀ j : Fin 8, den (R.get j) =
      den ((⟨r0.l0, r1.l0, r2.l0, r3.l0, r0.l4, r1.l4, r2.l4, r3.l4⟩ : V8).get j) +
      den ((⟨r0.l1, r1.l1, r2.l1, r3.l1, r0.l5, r1.l5, r2.l5, r3.l5⟩ : V8).get j) +
      (den ((⟨r0.l2, r1.l2, r2.l2, r3.l2, r0.l6, r1.l6, r2.l6, r3.l6⟩ : V8).get j) +
       den ((⟨r0.l3, r1.l3, r2.l3, r3.l3, r0.l7, r1.l7, r2.l7, r3.l7⟩ : V8).get j)))
    (i : Fin 4) :
    den ((R.half h).get i) = dot12 (a0.half h) (a1.half h) (a2.half h) M (12 * i.val) := by
  refine rows_sum4 _ _ _ M _ _ _ _ h0 h1 h2 h3 _ (fun j => ?_) i
  rw [half_get, hR]
  cases h <;> match j with
  | 0 => rfl | 1 => rfl | 2 => rfl | 3 => rfl

theorem mmult512_4x12_den (a0 a1 a2 : V8) (M : Region) (h : Bool) (i : Fin 4) :
    den (((mmult_avx512_4x12 a0 a1 a2 M).half h).get i) = dot12 (a0.half h) (a1.half h) (a2.half h) M (12 * i.val) := by
  refine rows_sum h a0 a1 a2 M _ _ _ _ (spmv512_den a0 a1 a2 M h) (spmv512_den a0 a1 a2 _ h) (spmv512_den a0 a1 a2 _ h)
    (spmv512_den a0 a1 a2 _ h) _ (fun j => ?_) i
  simp only [mmult_avx512_4x12, (transpose8 _ _ _ _).1, (transpose8 _ _ _ _).2.1, (transpose8 _ _ _ _).2.2.1,
    (transpose8 _ _ _ _).2.2.2, den_add_avx512]
  try ring

theorem mmult512_den (a0 a1 a2 : V8) (M : Region) (h : Bool) (i : Fin 4) :
    den (((mmult_avx512 a0 a1 a2 M).1.half h).get i) = dot12 (a0.half h) (a1.half h) (a2.half h) M (12 * i.val) ∧
    den (((mmult_avx512 a0 a1 a2 M).2.1.half h).get i) = dot12 (a0.half h) (a1.half h) (a2.half h) M (48 + 12 * i.val) ∧
    den (((mmult_avx512 a0 a1 a2 M).2.2.half h).get i) = dot12 (a0.half h) (a1.half h) (a2.half h) M (96 + 12 * i.val) := by
  have h1 := mmult512_4x12_den a0 a1 a2 M h i
  have h2 := mmult512_4x12_den a0 a1 a2 (Region.shift M 48) h i
  have h3 := mmult512_4x12_den a0 a1 a2 (Region.shift M 96) h i
  rw [dot12_shift] at h2 h3
  simp only [mmult_avx512]
  exact ⟨h1, h2, h3⟩

theorem den_mult512_72 (a b : V8) (i : Fin 8) (hb : (b.get i).toNat < 256) :
    den ((mult_avx512_72 a b).2.get i) + ((((mult_avx512_72 a b).1.get i).toNat : Nat) : F) * (18446744073709551616 : F) =
      den (a.get i) * den (b.get i) ∧ ((mult_avx512_72 a b).1.get i).toNat < 256 := by
  exact den_mul72_of _ _ _ _ (mult512_72_spec a b i).1 hb

theorem den_reduce512_96_sum (h l : V8) (i : Fin 8) (t : Nat) (ht : (h.get i).toNat = t) (hlt : t < 4294967296) :
    den ((reduce_avx512_96_64 h l).get i) = (t : F) * (18446744073709551616 : F) + den (l.get i) :=
  den_reduce96_of _ _ _ t (reduce512_96_spec h l i) ht hlt

theorem spmv512_8_lane (a0 a1 a2 : V8) (b : Region) (i : Fin 8) (hb : ∀ k, k < 12 → (b k).toNat < 256) :
    den ((spmv_avx512_4x12_8 a0 a1 a2 b).get i) =
      den (a0.get i) * den (b (i.val % 4)) + den (a1.get i) * den (b (4 + i.val % 4)) +
        den (a2.get i) * den (b (8 + i.val % 4)) := by
  have hi : i.val % 4 < 4 := Nat.mod_lt _ (by decide)
  have g0 : ((coef8 b 0).get i).toNat < 256 := by rw [coef8_get]; exact hb _ (by omega)
  have g1 : ((coef8 b 4).get i).toNat < 256 := by rw [coef8_get]; exact hb _ (by omega)
  have g2 : ((coef8 b 8).get i).toNat < 256 := by rw [coef8_get]; exact hb _ (by omega)
  obtain ⟨m0, n0⟩ := den_mult512_72 a0 (coef8 b 0) i g0
  obtain ⟨m1, n1⟩ := den_mult512_72 a1 (coef8 b 4) i g1
  obtain ⟨m2, n2⟩ := den_mult512_72 a2 (coef8 b 8) i g2
  simp only [coef8_get, Nat.zero_add] at m0 m1 m2
  clear g0 g1 g2 hb hi
  -- the three 72-bit products: low parts added mod p (in any association), high parts (< 2^8 each) added as
  -- 64-bit integers (in any association and order), then one 96-bit reduction
  simp only [spmv_avx512_4x12_8]
  coef_norm
  rw [den_reduce512_96_sum _ _ i
    (((mult_avx512_72 a0 (coef8 b 0)).1.get i).toNat + ((mult_avx512_72 a1 (coef8 b 4)).1.get i).toNat +
      ((mult_avx512_72 a2 (coef8 b 8)).1.get i).toNat)
    (by simp only [lane_get, toNat_add64]; omega) (by omega)]
  simp only [den_add_avx512]
  push_cast
  rw [← m0, ← m1, ← m2]
  ring

theorem spmv512_8_den (a0 a1 a2 : V8) (b : Region) (hb : ∀ k, k < 12 → (b k).toNat < 256) (h : Bool) :
    IsSpmv (a0.half h) (a1.half h) (a2.half h) b ((spmv_avx512_4x12_8 a0 a1 a2 b).half h) := by
  intro i
  simp only [half_get]
  rw [spmv512_8_lane _ _ _ _ _ hb, half8_mod]

theorem mmult512_4x12_8_den (a0 a1 a2 : V8) (M : Region) (h : Bool) (i : Fin 4) (hb : ∀ k, k < 48 → (M k).toNat < 256) :
    den (((mmult_avx512_4x12_8 a0 a1 a2 M).half h).get i) = dot12 (a0.half h) (a1.half h) (a2.half h) M (12 * i.val) := by
  refine rows_sum h a0 a1 a2 M _ _ _ _ (spmv512_8_den a0 a1 a2 M (fun k hk => hb k (by omega)) h)
    (spmv512_8_den a0 a1 a2 _ (fun k hk => hb (12 + k) (by omega)) h)
    (spmv512_8_den a0 a1 a2 _ (fun k hk => hb (24 + k) (by omega)) h)
    (spmv512_8_den a0 a1 a2 _ (fun k hk => hb (36 + k) (by omega)) h) _ (fun j => ?_) i
  simp only [mmult_avx512_4x12_8, (transpose8 _ _ _ _).1, (transpose8 _ _ _ _).2.1, (transpose8 _ _ _ _).2.2.1,
    (transpose8 _ _ _ _).2.2.2, den_add_avx512]
  try ring

theorem mmult512_8_den (a0 a1 a2 : V8) (M : Region) (h : Bool) (i : Fin 4) (hb : ∀ k, k < 144 → (M k).toNat < 256) :
    den (((mmult_avx512_8 a0 a1 a2 M).1.half h).get i) = dot12 (a0.half h) (a1.half h) (a2.half h) M (12 * i.val) ∧
    den (((mmult_avx512_8 a0 a1 a2 M).2.1.half h).get i) = dot12 (a0.half h) (a1.half h) (a2.half h) M (48 + 12 * i.val) ∧
    den (((mmult_avx512_8 a0 a1 a2 M).2.2.half h).get i) = dot12 (a0.half h) (a1.half h) (a2.half h) M (96 + 12 * i.val) := by
  have h1 := mmult512_4x12_8_den a0 a1 a2 M h i (fun k hk => hb _ (by omega))
  have h2 := mmult512_4x12_8_den a0 a1 a2 (Region.shift M 48) h i (fun k hk => hb (48 + k) (by omega))
  have h3 := mmult512_4x12_8_den a0 a1 a2 (Region.shift M 96) h i (fun k hk => hb (96 + k) (by omega))
  rw [dot12_shift] at h2 h3
  simp only [mmult_avx512_8]
  exact ⟨h1, h2, h3⟩

end GoldilocksVerif
