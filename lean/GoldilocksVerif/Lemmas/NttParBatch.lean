/-
  Footprints of the body of the butterfly-batch loop of the model (`passBatch`, ntt_goldilocks.cpp:81), derived from
  the model's definitions loop by loop: bflyStep ⊂ bfly ⊂ stageStep ⊂ stage ⊂ batchStages, transposeCopy / inverseCopy.
  No hypothesis on the buffers (accesses of the model are bounds-tolerant).
-/
import GoldilocksVerif.Lemmas.NttPar
import GoldilocksVerif.Lemmas.NttStage
import GoldilocksVerif.Lemmas.NttDit

namespace GoldilocksVerif.Model.Ntt
open GoldilocksVerif.Par

def batchRows (B b : Nat) : Nat → Prop := fun r => b * B ≤ r ∧ r < (b + 1) * B

/-- the rows the copy of batch `b` writes -/
def copyRows (σ : Nat → Nat) (B nB b : Nat) : Nat → Prop := fun r => ∃ x, x < B ∧ r = σ (x * nB + b)

theorem batchRows_add (B b x : Nat) (hx : x < B) : batchRows B b (b * B + x) := by
  unfold batchRows
  rw [Nat.add_mul, Nat.one_mul]
  omega

/-- the pair of rows of butterfly `i` of a stage with half-distance `U` on batch `b` -/
def pairRows (B b U i : Nat) : Nat → Prop := fun r => r = b * B + loR U i + U ∨ r = b * B + loR U i

/-- butterfly `i` of stage `si` of batch `b` touches its pair of rows (column by column) -/
theorem stageStep_pair (o : Obj) (s si b B nc rs re rb i : Nat) :
    LocalB (stageStep o s si b B nc rs re rb i) (rowsW nc (pairRows B b (2 ^ si) i)) := by
  have e : stageStep o s si b B nc rs re rb i
      = fun a => bfly a (root o (s + si) (twIdx s si b B rs re rb i)) ((b * B + loR (2 ^ si) i + 2 ^ si) * nc)
          ((b * B + loR (2 ^ si) i) * nc) nc := by
    funext a; exact stageStep_eq o s si b B nc rs re rb i a
  rw [e]
  unfold bfly
  apply LocalB.iter
  intro k hk
  apply (bflyStep_local _ _ _ k).mono
  rintro j (h | h)
  · exact ⟨_, Or.inl rfl, by omega, by omega⟩
  · exact ⟨_, Or.inr rfl, by omega, by omega⟩

theorem pairRows_batch {B b U i : Nat} (hin : loR U i + U < B) (r : Nat) (h : pairRows B b U i r) : batchRows B b r := by
  rcases h with rfl | rfl
  · rw [Nat.add_assoc]; exact batchRows_add B b _ hin
  · exact batchRows_add B b _ (by omega)

/-- … and these stay inside the rows of the batch -/
theorem stageStep_local (o : Obj) (s si b B nc rs re rb i : Nat) (hin : loR (2 ^ si) i + 2 ^ si < B) :
    LocalB (stageStep o s si b B nc rs re rb i) (rowsW nc (batchRows B b)) :=
  (stageStep_pair o s si b B nc rs re rb i).mono (fun _ ⟨r, hr, h1, h2⟩ => ⟨r, pairRows_batch hin r hr, h1, h2⟩)

theorem stage_local (o : Obj) (s si b B nc rs re rb rm M : Nat) (hB : B = M * (2 ^ si * 2)) :
    LocalB (fun a => stage o a s si b B nc rs re rb rm) (rowsW nc (batchRows B b)) := by
  have hU0 : 0 < 2 ^ si := Nat.two_pow_pos si
  have hhalf : B / 2 = M * 2 ^ si := by rw [hB, ← Nat.mul_assoc]; exact Nat.mul_div_cancel _ (by omega)
  unfold stage
  simp only
  apply LocalB.iter
  intro i hi
  apply stageStep_local
  rw [hB]
  exact hiR_lt (2 ^ si) M i hU0 (by omega)

/-- the common shape of the two copies: row `ρ x` of the other buffer is written from row `b·B + x`, `x < B`, by the row
    primitive `f x` -/
theorem rowLoop_writer (f : Nat → Buf → Buf → Buf) (ρ : Nat → Nat) (b B nc : Nat)
    (hf : ∀ x, Writer (f x) (fun j => (b * B + x) * nc ≤ j ∧ j < (b * B + x) * nc + nc)
      (fun j => ρ x * nc ≤ j ∧ j < ρ x * nc + nc)) :
    Writer (fun a a2 => iter B a2 (fun x a2 => f x a a2)) (rowsW nc (batchRows B b))
      (rowsW nc (fun r => ∃ x, x < B ∧ r = ρ x)) := by
  have h := Writer.iter (Rd := rowsW nc (batchRows B b)) B f (fun x j => ρ x * nc ≤ j ∧ j < ρ x * nc + nc)
    (fun x hx => (hf x).monoR (fun j hj => ⟨_, batchRows_add B b x hx, hj.1, hj.2⟩))
  refine h.congrW (fun j => ⟨?_, ?_⟩)
  · rintro ⟨r, ⟨x, hx, rfl⟩, h1, h2⟩; exact ⟨x, hx, h1, h2⟩
  · rintro ⟨x, hx, h1, h2⟩; exact ⟨_, ⟨x, hx, rfl⟩, h1, h2⟩

theorem transposeCopy_writer (b B nB nc : Nat) :
    Writer (fun a a2 => transposeCopy a2 a b B nB nc) (rowsW nc (batchRows B b)) (rowsW nc (copyRows (fun q => q) B nB b)) :=
  rowLoop_writer (fun x s d => copyRow d ((x * nB + b) * nc) s ((b * B + x) * nc) nc) (fun x => x * nB + b) b B nc
    (fun _ => copyRow_writer _ _ nc)

/-- the reflecting, scaling copy of the last inverse pass -/
theorem inverseCopy_writer (o : Obj) (b B nB nc size dp : Nat) (extend : Bool) :
    Writer (fun a a2 => inverseCopy o a2 a b B nB nc size dp extend) (rowsW nc (batchRows B b))
      (rowsW nc (copyRows (fun q => inttIdx q size) B nB b)) :=
  rowLoop_writer (fun x s d => scaleRow d s (inttIdx (x * nB + b) size * nc) ((b * B + x) * nc) nc
      (scaleFactor o extend dp (inttIdx (x * nB + b) size))) (fun x => inttIdx (x * nB + b) size) b B nc
    (fun _ => scaleRow_writer _ _ nc _)

/-- the row map of the copy of a pass: identity (transposing copy) or `inttIdx` (last pass of an inverse transform) -/
def passSigma (size : Nat) (lastInv : Bool) : Nat → Nat := fun q => if lastInv then inttIdx q size else q

/-- the in-place part of `passBatch`: the stages on batch `b` -/
def batchF (o : Obj) (domainPow ncols s sInc b : Nat) : Buf → Buf := fun a =>
  batchStages o a s sInc b (2 ^ sInc) ncols (s - 1) (domainPow - 1) (2 ^ (s - 1)) (2 ^ (domainPow - 1 - (s - 1)) - 1)

/-- the copy part of `passBatch`: from the first buffer into the second -/
def batchG (o : Obj) (size domainPow ncols sInc : Nat) (lastInv extend : Bool) (b : Nat) : Buf → Buf → Buf := fun a a2 =>
  if lastInv then inverseCopy o a2 a b (2 ^ sInc) (size / 2 ^ sInc) ncols size domainPow extend
  else transposeCopy a2 a b (2 ^ sInc) (size / 2 ^ sInc) ncols

theorem passBatch_split (o : Obj) (size domainPow ncols s sInc : Nat) (lastInv extend : Bool) (b : Nat) (st : Buf × Buf) :
    passBatch o size domainPow ncols s sInc lastInv extend b st
      = (batchF o domainPow ncols s sInc b st.1,
         batchG o size domainPow ncols sInc lastInv extend b (batchF o domainPow ncols s sInc b st.1) st.2) := by
  unfold passBatch batchF batchG
  cases lastInv <;> rfl

theorem batchStages_local (o : Obj) (s sInc b nc rs re rb rm : Nat) :
    LocalB (fun a => batchStages o a s sInc b (2 ^ sInc) nc rs re rb rm) (rowsW nc (batchRows (2 ^ sInc) b)) := by
  unfold batchStages
  apply LocalB.iter
  intro si hsi
  apply stage_local o s si b (2 ^ sInc) nc _ _ _ _ (2 ^ (sInc - 1 - si))
  rw [← Nat.pow_succ, ← Nat.pow_add]
  congr 1
  omega

theorem batchF_local (o : Obj) (domainPow ncols s sInc b : Nat) :
    Local (batchF o domainPow ncols s sInc b) (rowsW ncols (batchRows (2 ^ sInc) b)) :=
  (batchStages_local o s sInc b ncols _ _ _ _).toLocal

theorem batchG_writer (o : Obj) (size domainPow ncols sInc : Nat) (lastInv extend : Bool) (b : Nat) :
    Writer (batchG o size domainPow ncols sInc lastInv extend b) (rowsW ncols (batchRows (2 ^ sInc) b))
      (rowsW ncols (copyRows (passSigma size lastInv) (2 ^ sInc) (size / 2 ^ sInc) b)) := by
  unfold batchG
  cases lastInv with
  | true => exact inverseCopy_writer o b (2 ^ sInc) (size / 2 ^ sInc) ncols size domainPow extend
  | false => exact transposeCopy_writer b (2 ^ sInc) (size / 2 ^ sInc) ncols

/-- `passBatch … b` as an iteration with footprints on the state `(a, a2)` (buffer 0 = `a`, buffer 1 = `a2`):
    reads  the words of the rows `[b·B, (b+1)·B)` of `a`  (B = 2^sInc);
    writes them and the words of the rows `σ (x·nB + b)`, `x < B`, of `a2`  (nB = size / B). -/
def batchIter (o : Obj) (size domainPow ncols s sInc : Nat) (lastInv extend : Bool) (b : Nat) : PIter view2 :=
  PIter.ofLocalWriter (batchF o domainPow ncols s sInc b) (batchG o size domainPow ncols sInc lastInv extend b)
    (rowsW ncols (batchRows (2 ^ sInc) b))
    (rowsW ncols (copyRows (passSigma size lastInv) (2 ^ sInc) (size / 2 ^ sInc) b))
    (batchF_local o domainPow ncols s sInc b) (batchG_writer o size domainPow ncols sInc lastInv extend b)

theorem batchIter_run (o : Obj) (size domainPow ncols s sInc : Nat) (lastInv extend : Bool) (b : Nat) (st : Buf × Buf) :
    (batchIter o size domainPow ncols s sInc lastInv extend b).run st
      = passBatch o size domainPow ncols s sInc lastInv extend b st := by
  rw [passBatch_split]; rfl

theorem inttIdx_inj (N q q' : Nat) (hq : q < N) (hq' : q' < N) (h : inttIdx q N = inttIdx q' N) : q = q' := by
  rw [← NttSpec.inttIdx_inttIdx q N hq, ← NttSpec.inttIdx_inttIdx q' N hq', h]

/-- the row map of a copy is a permutation of the rows `< N` -/
theorem passSigma_lt (N : Nat) (li : Bool) (q : Nat) (hq : q < N) : passSigma N li q < N := by
  unfold passSigma
  cases li
  · exact hq
  · exact NttSpec.inttIdx_lt _ _ (by omega)

theorem passSigma_onto (N : Nat) (li : Bool) (r : Nat) (hr : r < N) : ∃ q, q < N ∧ passSigma N li q = r := by
  unfold passSigma
  cases li
  · exact ⟨r, hr, rfl⟩
  · exact ⟨inttIdx r N, NttSpec.inttIdx_lt _ _ (by omega), NttSpec.inttIdx_inttIdx _ _ hr⟩

theorem passSigma_inj (N : Nat) (li : Bool) (q q' : Nat) (hq : q < N) (hq' : q' < N)
    (h : passSigma N li q = passSigma N li q') : q = q' := by
  unfold passSigma at h
  cases li
  · exact h
  · exact inttIdx_inj N q q' hq hq' h

theorem batchRows_disjoint (B b b' : Nat) (hne : b ≠ b') (r : Nat) : ¬ (batchRows B b r ∧ batchRows B b' r) := by
  rintro ⟨⟨h1, h2⟩, ⟨h3, h4⟩⟩
  rw [Nat.add_mul, Nat.one_mul] at h2 h4
  exact hne (row_unique B b b' r h1 h2 h3 h4)

/-- the copies of two batches write different rows when the row map `σ` of the copy is injective on `[0, B·nB)`: the row
    `σ (x·nB + b)` determines `b = (x·nB + b) mod nB` -/
theorem copyRows_disjoint (σ : Nat → Nat) (B nB : Nat) (hσ : ∀ i j, i < B * nB → j < B * nB → σ i = σ j → i = j)
    (b b' : Nat) (hb : b < nB) (hb' : b' < nB) (hne : b ≠ b') (r : Nat) : ¬ (copyRows σ B nB b r ∧ copyRows σ B nB b' r) := by
  rintro ⟨⟨x, hx, e⟩, ⟨x', hx', e'⟩⟩
  have := hσ _ _ (mr_lt x b nB B hx hb) (mr_lt x' b' nB B hx' hb') (e.symm.trans e')
  have m1 := mr_mod x b nB hb
  rw [this, mr_mod x' b' nB hb'] at m1
  exact hne m1.symm

/-- two different batches of a pass are independent iterations: each reads only what it writes, and they write different rows -/
theorem batchIter_indep (o : Obj) (size domainPow ncols s sInc : Nat) (lastInv extend : Bool) (b b' : Nat)
    (hb : b < size / 2 ^ sInc) (hb' : b' < size / 2 ^ sInc) (hne : b ≠ b') :
    FootIndep (batchIter o size domainPow ncols s sInc lastInv extend b).R
      (batchIter o size domainPow ncols s sInc lastInv extend b).W
      (batchIter o size domainPow ncols s sInc lastInv extend b').R
      (batchIter o size domainPow ncols s sInc lastInv extend b').W := by
  have hle : 2 ^ sInc * (size / 2 ^ sInc) ≤ size := Nat.mul_div_le size (2 ^ sInc)
  refine FootIndep.of_writes (fun _ => False) ?_ (fun _ h => Or.inl (Or.inl h)) (fun _ h => Or.inl (Or.inl h)) (fun _ => False.elim)
  rintro w ⟨h1 | h1, h2 | h2⟩
  · exact rowsW_disj (fun r hr hr' => batchRows_disjoint (2 ^ sInc) b b' hne r ⟨hr, hr'⟩) w.2 h1.2 h2.2
  · exact absurd (h1.1.symm.trans h2.1) (by decide)
  · exact absurd (h2.1.symm.trans h1.1) (by decide)
  · exact rowsW_disj (fun r hr hr' => copyRows_disjoint (passSigma size lastInv) (2 ^ sInc) (size / 2 ^ sInc)
      (fun i j hi hj => passSigma_inj size lastInv i j (by omega) (by omega)) b b' hb hb' hne r ⟨hr, hr'⟩) w.2 h1.2 h2.2

end GoldilocksVerif.Model.Ntt
