/- Core-only lemmas about registers stored to and loaded from regions. -/
import GoldilocksVerif.Gen.Avx2Mat
namespace GoldilocksVerif
open Gen.Avx2Mat

theorem forall_lt_12 (p : Nat → Prop) (h0 : p 0) (h1 : p 1) (h2 : p 2) (h3 : p 3) (h4 : p 4) (h5 : p 5) (h6 : p 6)
    (h7 : p 7) (h8 : p 8) (h9 : p 9) (h10 : p 10) (h11 : p 11) : ∀ i, i < 12 → p i
  | 0, _ => h0 | 1, _ => h1 | 2, _ => h2 | 3, _ => h3 | 4, _ => h4 | 5, _ => h5 | 6, _ => h6 | 7, _ => h7
  | 8, _ => h8 | 9, _ => h9 | 10, _ => h10 | 11, _ => h11
  | _ + 12, h => absurd h (by omega)

theorem forall_lt_12' (p : ∀ i, i < 12 → Prop) (h0 : p 0 (by omega)) (h1 : p 1 (by omega)) (h2 : p 2 (by omega))
    (h3 : p 3 (by omega)) (h4 : p 4 (by omega)) (h5 : p 5 (by omega)) (h6 : p 6 (by omega)) (h7 : p 7 (by omega))
    (h8 : p 8 (by omega)) (h9 : p 9 (by omega)) (h10 : p 10 (by omega)) (h11 : p 11 (by omega)) : ∀ i hi, p i hi
  | 0, _ => h0 | 1, _ => h1 | 2, _ => h2 | 3, _ => h3 | 4, _ => h4 | 5, _ => h5 | 6, _ => h6 | 7, _ => h7
  | 8, _ => h8 | 9, _ => h9 | 10, _ => h10 | 11, _ => h11
  | _ + 12, h => absurd h (by omega)

theorem get_load (r : Region) (i : Fin 4) : (Avx2.load r).get i = r i.val := by
  match i with
  | 0 => rfl | 1 => rfl | 2 => rfl | 3 => rfl

theorem store_get (r : Region) (v : V4) :
    (Avx2.store r v) 0 = v.l0 ∧ (Avx2.store r v) 1 = v.l1 ∧ (Avx2.store r v) 2 = v.l2 ∧ (Avx2.store r v) 3 = v.l3 := by
  refine ⟨rfl, rfl, rfl, rfl⟩

theorem store_avx_get (S : Region) (b : V4) (i : Fin 4) : (store_avx S b) i.val = b.get i := by
  match i with
  | 0 => rfl | 1 => rfl | 2 => rfl | 3 => rfl

theorem store_frame (S : Region) (b : V4) (i : Nat) (hi : 4 ≤ i) : (store_avx S b) i = S i := by
  have d0 : i ≠ 0 := by omega
  have d1 : i ≠ 1 := by omega
  have d2 : i ≠ 2 := by omega
  have d3 : i ≠ 3 := by omega
  simp only [store_avx, Avx2.store, Region.mk_apply, d0, d1, d2, d3, ↓reduceIte]

theorem reload_eq (S : Region) (a0 : V4) (y : BitVec 64) :
    load_avx (Region.set (store_avx S a0) 0 y) = ⟨y, a0.l1, a0.l2, a0.l3⟩ := by
  simp only [load_avx, Avx2.load, store_avx, Avx2.store, Region.set_apply, ↓reduceIte, Nat.reduceEqDiff]

/-- The vector backends write the state back as `store(p, b0); store(p + w, b1); store(p + 2w, b2)`, which the
  translation renders with `Region.shift` / `Region.unshift`.  For any store `st` of `w` lanes that writes lane `i` of
  the register to word `i` and nothing else, the resulting region holds the three registers in words `0 .. 3w - 1`
  and is unchanged from word `3w` on. -/
theorem stores3_read {V : Type} (w w2 : Nat) (hw : w2 = w + w) (st : Region → V → Region) (get : V → Fin w → BitVec 64)
    (hin : ∀ (S : Region) (b : V) (i : Fin w), (st S b) i.val = get b i)
    (hout : ∀ (S : Region) (b : V) (i : Nat), w ≤ i → (st S b) i = S i) (S : Region) (b0 b1 b2 : V) :
    (∀ i : Fin w, (Region.unshift (Region.unshift (st S b0) w (st (Region.shift (st S b0) w) b1)) w2
      (st (Region.shift (Region.unshift (st S b0) w (st (Region.shift (st S b0) w) b1)) w2) b2)) i.val = get b0 i) ∧
    (∀ i : Fin w, (Region.unshift (Region.unshift (st S b0) w (st (Region.shift (st S b0) w) b1)) w2
      (st (Region.shift (Region.unshift (st S b0) w (st (Region.shift (st S b0) w) b1)) w2) b2)) (w + i.val) = get b1 i) ∧
    (∀ i : Fin w, (Region.unshift (Region.unshift (st S b0) w (st (Region.shift (st S b0) w) b1)) w2
      (st (Region.shift (Region.unshift (st S b0) w (st (Region.shift (st S b0) w) b1)) w2) b2)) (w2 + i.val) = get b2 i) ∧
    ∀ i, w2 + w ≤ i → (Region.unshift (Region.unshift (st S b0) w (st (Region.shift (st S b0) w) b1)) w2
      (st (Region.shift (Region.unshift (st S b0) w (st (Region.shift (st S b0) w) b1)) w2) b2)) i = S i := by
  subst hw
  refine ⟨fun i => ?_, fun i => ?_, fun i => ?_, fun i hi => ?_⟩
  · have hi := i.isLt
    rw [Region.unshift_apply, if_neg (by omega), Region.unshift_apply, if_neg (by omega), hin]
  · have hi := i.isLt
    rw [Region.unshift_apply, if_neg (by omega), Region.unshift_apply, if_pos (by omega), Nat.add_sub_cancel_left, hin]
  · rw [Region.unshift_apply, if_pos (by omega), Nat.add_sub_cancel_left, hin]
  · rw [Region.unshift_apply, if_pos (by omega), hout _ _ _ (by omega), Region.shift_apply,
      show w + w + (i - (w + w)) = i by omega, Region.unshift_apply, if_pos (by omega), hout _ _ _ (by omega),
      Region.shift_apply, show w + (i - w) = i by omega, hout _ _ _ (by omega)]

end GoldilocksVerif
