/-
  The C function `BR` (five mask/shift swap lines on a 64-bit word, then a right shift) is the bit reversal `bitrev`
  of the low `d` bits, for `d ≤ 32`; `bitrev d` is an involution (hence injective) on `[0, 2^d)`.
  Route: bit characterisations (`Nat.testBit`) of both sides.
-/
import GoldilocksVerif.Lemmas.NttBitrev
import Mathlib.Tactic.IntervalCases

namespace GoldilocksVerif.Model.Ntt

theorem testBit_bitrev (d : Nat) : ∀ i k, Nat.testBit (bitrev d i) k = (decide (k < d) && Nat.testBit i (d - 1 - k)) := by
  induction d with
  | zero => intro i k; simp [bitrev]
  | succ d ih =>
    intro i k
    rw [bitrev_succ, Nat.mul_comm, Nat.testBit_two_pow_mul_add _ (bitrev_lt d (i / 2))]
    by_cases h1 : k < d
    · rw [if_pos h1, ih, Nat.testBit_div_two]
      have e : d - 1 - k + 1 = d + 1 - 1 - k := by omega
      rw [e]
      simp [h1, Nat.lt_succ_of_lt h1]
    · rw [if_neg h1]
      by_cases h2 : k = d
      · subst h2
        have e : k + 1 - 1 - k = 0 := by omega
        rw [e, Nat.sub_self]
        simp [Nat.testBit_zero]
      · have h3 : ¬ k < d + 1 := by omega
        have h4 : k - d = (k - d - 1) + 1 := by omega
        rw [h4, Nat.testBit_succ]
        have h5 : i % 2 / 2 = 0 := by omega
        rw [h5]
        simp [h3]

theorem bitrev_bitrev (d i : Nat) (hi : i < 2 ^ d) : bitrev d (bitrev d i) = i := by
  apply Nat.eq_of_testBit_eq
  intro k
  rw [testBit_bitrev, testBit_bitrev]
  by_cases h : k < d
  · have h1 : d - 1 - k < d := by omega
    have h2 : d - 1 - (d - 1 - k) = k := by omega
    simp [h, h1, h2]
  · have : i < 2 ^ k := Nat.lt_of_lt_of_le hi (Nat.pow_le_pow_right (by omega) (by omega))
    rw [Nat.testBit_lt_two_pow this]
    simp [h]

theorem bitrev_inj (d i j : Nat) (hi : i < 2 ^ d) (hj : j < 2 ^ d) (h : bitrev d i = bitrev d j) : i = j := by
  rw [← bitrev_bitrev d i hi, ← bitrev_bitrev d j hj, h]

/-- one swap line of `BR`: at every position `k < 32` the two masks let through exactly one of the two shifted copies of `x`,
    the one that brings bit `k ^^^ s` to position `k` (`hm`, checked on the concrete masks by evaluation) -/
theorem br_line (x mh ml : W) (s : Nat)
    (hm : ∀ k, k < 32 →
      (mh.getLsbD (s + k) = true ∧ (!decide (k < s) && ml.getLsbD (k - s)) = false ∧ k ^^^ s = s + k) ∨
      (mh.getLsbD (s + k) = false ∧ (!decide (k < s) && ml.getLsbD (k - s)) = true ∧ k ^^^ s = k - s))
    (k : Nat) (hk : k < 32) :
    (((x &&& mh) >>> s) ||| ((x &&& ml) <<< s)).getLsbD k = x.getLsbD (k ^^^ s) := by
  have h64 : decide (k < 64) = true := decide_eq_true (by omega)
  rw [BitVec.getLsbD_or, BitVec.getLsbD_ushiftRight, BitVec.getLsbD_shiftLeft, BitVec.getLsbD_and, BitVec.getLsbD_and, h64,
    Bool.true_and]
  rcases hm k hk with ⟨h1, h2, h3⟩ | ⟨h1, h2, h3⟩
  · rw [h1, h3, Bool.and_true, Bool.and_left_comm, h2, Bool.and_false, Bool.or_false]
  · rw [h1, h3, Bool.and_false, Bool.false_or, Bool.and_left_comm, h2, Bool.and_true]

theorem br_line16 (x : W) (hx : ∀ j, 32 ≤ j → x.getLsbD j = false) (k : Nat) (hk : k < 32) :
    ((x >>> 16) ||| (x <<< 16)).getLsbD k = x.getLsbD (k ^^^ 16) := by
  have e : ∀ k, k < 32 → k ^^^ 16 = if k < 16 then 16 + k else k - 16 := by decide
  rw [BitVec.getLsbD_or, BitVec.getLsbD_ushiftRight, BitVec.getLsbD_shiftLeft, e k hk]
  by_cases h : k < 16
  · simp [h]
  · rw [hx (16 + k) (by omega)]
    have : k < 64 := by omega
    simp [h, this]

theorem mask_hi (m n j : Nat) (hm : m < 2 ^ n) (hj : n ≤ j) : (BitVec.ofNat 64 m).getLsbD j = false := by
  rw [BitVec.getLsbD_ofNat, Nat.testBit_lt_two_pow (Nat.lt_of_lt_of_le hm (Nat.pow_le_pow_right (by omega) hj)), Bool.and_false]

theorem xor_lt32 (k s : Nat) (hk : k < 32) (hs : s < 32) : k ^^^ s < 32 :=
  Nat.xor_lt_two_pow (n := 5) hk hs

theorem xor_all : ∀ k, k < 32 → k ^^^ 1 ^^^ 2 ^^^ 4 ^^^ 8 ^^^ 16 = 31 - k := by
  decide

/-- the five swap lines reverse the low 32 bits -/
theorem br_lines (x : W) (hx : ∀ j, 32 ≤ j → x.getLsbD j = false) (k : Nat) :
    (let x := (x >>> 16) ||| (x <<< 16)
     let x := ((x &&& 0xFF00FF00#64) >>> 8) ||| ((x &&& 0x00FF00FF#64) <<< 8)
     let x := ((x &&& 0xF0F0F0F0#64) >>> 4) ||| ((x &&& 0x0F0F0F0F#64) <<< 4)
     let x := ((x &&& 0xCCCCCCCC#64) >>> 2) ||| ((x &&& 0x33333333#64) <<< 2)
     ((x &&& 0xAAAAAAAA#64) >>> 1) ||| ((x &&& 0x55555555#64) <<< 1)).getLsbD k
      = (decide (k < 32) && x.getLsbD (31 - k)) := by
  extract_lets x1 x2 x3 x4
  by_cases hk : k < 32
  · have c1 := xor_lt32 k 1 hk (by omega)
    have c2 := xor_lt32 _ 2 c1 (by omega)
    have c3 := xor_lt32 _ 4 c2 (by omega)
    have c4 := xor_lt32 _ 8 c3 (by omega)
    rw [br_line x4 _ _ 1 (by decide) k hk, br_line x3 _ _ 2 (by decide) _ c1, br_line x2 _ _ 4 (by decide) _ c2,
      br_line x1 _ _ 8 (by decide) _ c3, br_line16 x hx _ c4, xor_all k hk]
    simp [hk]
  · -- both masks of the last line lie below `2^32` resp. `2^31`
    rw [BitVec.getLsbD_or, BitVec.getLsbD_ushiftRight, BitVec.getLsbD_shiftLeft, BitVec.getLsbD_and, BitVec.getLsbD_and,
      mask_hi 0xAAAAAAAA 32 (1 + k) (by decide) (by omega), mask_hi 0x55555555 31 (k - 1) (by decide) (by omega)]
    simp [hk]

theorem testBit_br (d i : Nat) (hd : d ≤ 32) (hi : i < 2 ^ d) (k : Nat) :
    Nat.testBit (br i d) k = (decide (k < d) && Nat.testBit i (d - 1 - k)) := by
  have hx : ∀ j, 32 ≤ j → (BitVec.ofNat 64 i).getLsbD j = false := fun j hj => mask_hi i d j hi (by omega)
  unfold br
  rw [BitVec.testBit_toNat, BitVec.getLsbD_ushiftRight]
  have := br_lines (BitVec.ofNat 64 i) hx (32 - d + k)
  simp only [] at this ⊢
  rw [this, BitVec.getLsbD_ofNat]
  by_cases h : k < d
  · have h1 : 32 - d + k < 32 := by omega
    have h2 : 31 - (32 - d + k) = d - 1 - k := by omega
    have h3 : d - 1 - k < 64 := by omega
    simp [h, h1, h2, h3]
  · have h1 : ¬ 32 - d + k < 32 := by omega
    simp [h, h1]

theorem br_eq_bitrev (d i : Nat) (hd : d ≤ 32) (hi : i < 2 ^ d) : br i d = bitrev d i := by
  apply Nat.eq_of_testBit_eq
  intro k
  rw [testBit_br d i hd hi, testBit_bitrev]

end GoldilocksVerif.Model.Ntt
