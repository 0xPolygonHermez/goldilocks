/-
  IN-BOUNDS ACCESSES of the generated `NTT` and `INTT`: the clamp of `nblock`, the column blocks (widths
  `ncols / nblock + (ib < ncols % nblock)`, running offset), the scratch `aux` and the block destination `dst_` — allocated
  with `size * ceil(ncols / nblock)` words or taken from the caller (`buffer`: size * ncols words) —, `NTT_iters` on
  every block, the scatter of a block into its columns of the destination, and the two `free`s (start of a live block).
  For EVERY `nblock`, with or without caller buffer, in place or not, every size 1 ≤ 2^K ≤ 2^30 (size 1: the `parcpy` path
  of `NTT_iters`, Lemmas/HeapSafeSize1.lean).
-/
import GoldilocksVerif.Lemmas.HeapSafeSize1
import GoldilocksVerif.Lemmas.BridgeNttTop
open GoldilocksVerif Gen.NttGen GoldilocksVerif.BridgeNtt
namespace GoldilocksVerif.HeapSafe

/-- number of columns of block `ib` -/
def colW (NC nb ib : Nat) : Nat := NC / nb + (if ib < NC % nb then 1 else 0)
/-- first column of block `ib` -/
def colO (NC nb ib : Nat) : Nat := ib * (NC / nb) + min ib (NC % nb)
/-- columns of the scratch blocks: ceil(NC / nb) -/
def colA (NC nb : Nat) : Nat := NC / nb + (if NC % nb > 0 then 1 else 0)

theorem colO_zero (NC nb : Nat) : colO NC nb 0 = 0 := by simp [colO]

theorem colO_succ (NC nb ib : Nat) : colO NC nb (ib + 1) = colO NC nb ib + colW NC nb ib := by
  unfold colO colW
  rw [Nat.add_mul, Nat.one_mul]
  by_cases h : ib < NC % nb
  · rw [if_pos h, Nat.min_eq_left (by omega), Nat.min_eq_left (by omega)]; omega
  · rw [if_neg h, Nat.min_eq_right (by omega), Nat.min_eq_right (by omega)]; omega

theorem colO_le (NC nb ib : Nat) (hib : ib ≤ nb) : colO NC nb ib ≤ NC := by
  unfold colO
  have h1 : ib * (NC / nb) ≤ nb * (NC / nb) := Nat.mul_le_mul_right _ hib
  have h2 := Nat.div_add_mod NC nb
  have h3 : min ib (NC % nb) ≤ NC % nb := Nat.min_le_right _ _
  omega

theorem colOW_le (NC nb ib : Nat) (hib : ib < nb) : colO NC nb ib + colW NC nb ib ≤ NC := by
  rw [← colO_succ]; exact colO_le NC nb (ib + 1) hib

theorem colW_le (NC nb ib : Nat) : colW NC nb ib ≤ colA NC nb := by
  unfold colW colA
  by_cases h : ib < NC % nb
  · rw [if_pos h, if_pos (by omega)]
  · rw [if_neg h]; omega

theorem colW_pos (NC nb ib : Nat) (h1 : 1 ≤ nb) (h2 : nb ≤ NC) : 0 < colW NC nb ib := by
  unfold colW
  have : 0 < NC / nb := Nat.div_pos h2 h1
  omega

theorem colA_le (NC nb : Nat) (h1 : 1 ≤ nb) (h2 : nb ≤ NC) : colA NC nb ≤ NC := by
  unfold colA
  have hdm := Nat.div_add_mod NC nb
  by_cases h : NC % nb > 0
  · rw [if_pos h]
    -- remainder > 0 forces nb ≥ 2
    have hnb2 : 2 ≤ nb := by
      rcases Nat.lt_or_ge 1 nb with x | x
      · exact x
      · have : nb = 1 := by omega
        rw [this, Nat.mod_one] at h; omega
    have : 2 * (NC / nb) ≤ nb * (NC / nb) := Nat.mul_le_mul_right _ hnb2
    have : 0 < NC / nb := Nat.div_pos h2 h1
    omega
  · rw [if_neg h]; have := Nat.div_le_self NC nb; omega

theorem colA_one (NC : Nat) : colA NC 1 = NC := by simp [colA, Nat.mod_one]

theorem colW_bv (NC nb ib : Nat) (hNC : NC < 2 ^ 63) (hib : ib < 2 ^ 63) :
    (if decide (BitVec.ofNat 64 ib < bv (NC % nb)) = true then bv (NC / nb) + 1#64 else bv (NC / nb)) = bv (colW NC nb ib) := by
  have hm : NC % nb ≤ NC := Nat.mod_le _ _
  rw [show decide (BitVec.ofNat 64 ib < bv (NC % nb)) = decide (ib < NC % nb) from decide_lt_bv ib _ (by omega) (by omega)]
  exact bv_succ_if _ _

/-- the running column offset after block `ib` -/
theorem NTT_loop2_oc (fuel : Nat) (dst src : Ptr) (size ncols nphase nblock : BitVec 64) (inverse extend : Bool)
    (self : NTT_Goldilocks) (ncb ncr : BitVec 64) (dst_ aux : Ptr) (ib : Nat) (st s' : Heap × BitVec 64)
    (h : NTT_NTT_loop2 fuel dst src size ncols nphase nblock inverse extend self ncb ncr dst_ aux ib st = some s') :
    s'.2 = st.2 + (if decide (BitVec.ofNat 64 ib < ncr) = true then ncb + 1#64 else ncb) := by
  unfold NTT_NTT_loop2 at h
  dsimp only at h
  rw [Option.bind_eq_some_iff] at h
  obtain ⟨y1, _, h⟩ := h
  rw [Option.bind_eq_some_iff] at h
  obtain ⟨y2, _, h⟩ := h
  injection h with h
  rw [← h]

/-- one row of the scatter of a column block: row `ie` of the block destination to columns [o, o+w) of row `ie` of `dst` -/
theorem scatter_safe (st : Heap) (D dstp : Ptr) (N NC o w ie : Nat) (hie : ie < N) (how : o + w ≤ NC) (hNNC : N * NC * 8 < 2 ^ 64)
    (hD : D.off + N * NC ≤ st.ext D.blk) (hd : dstp.off + N * w ≤ st.ext dstp.blk) (hne : D.blk ≠ dstp.blk) :
    NTT_NTT_loop1.Safe D (bv NC) (bv o) dstp (bv w) ie st := by
  have h1 := mul_le_of_lt _ _ NC hie
  have h2 := mul_le_of_lt _ _ w hie
  have hN0 : 0 < N := by omega
  have hwN : w ≤ N * NC := Nat.le_trans (by omega) (Nat.le_mul_of_pos_left NC hN0)
  have hww : N * w ≤ N * NC := Nat.mul_le_mul_left _ (by omega)
  have e1 : (BitVec.ofNat 64 ie * bv NC + bv o).toNat = ie * NC + o := by
    show (bv ie * bv NC + bv o).toNat = _
    rw [bv_mul, bv_add, bv_toNat _ (by omega)]
  have e2 : (BitVec.ofNat 64 ie * bv w).toNat = ie * w := by
    show (bv ie * bv w).toNat = _
    rw [bv_mul, bv_toNat _ (by omega)]
  unfold NTT_NTT_loop1.Safe
  zeta_goal
  rw [e1, e2, words_bv w (by omega)]
  exact ⟨RangeOK_add (by omega), RangeOK_add (by omega), Or.inr (Or.inl hne)⟩

/-- what the block loop of `NTT()` works with: the caller's destination `D` (N rows of NC words), the source, the block
    destination `dstp` and the scratch `auxp` (N rows of ceil(NC / nb) words each, distinct blocks, distinct from the source),
    the object's tables -/
structure NShape (H : Heap) (obj : NTT_Goldilocks) (D src dstp auxp : Ptr) (N NC K nb : Nat) (extend : Bool) : Prop where
  hK : K ≤ 30
  hN : N = 2 ^ K
  hnb1 : 1 ≤ nb
  hnbNC : nb ≤ NC
  hbytes : N * NC * 8 < 2 ^ 64
  hpos : 0 < H.size
  hD : D.off + N * NC ≤ H.ext D.blk
  hdstp : dstp.off + N * colA NC nb ≤ H.ext dstp.blk
  hauxp : auxp.off + N * colA NC nb ≤ H.ext auxp.blk
  hda : dstp.blk ≠ auxp.blk
  hsrc : src.off + srcRows obj (bv N) * NC ≤ H.ext src.blk
  hds : dstp ≠ src → dstp.blk ≠ src.blk
  has : auxp.blk ≠ src.blk
  hDd : 1 < nb → D.blk ≠ dstp.blk
  hsel : (if (dstp != Ptr.null) = true then dstp else src) = dstp
  hsK : K ≤ obj.s.toNat
  hs32 : obj.s.toNat ≤ 32
  hroots : obj.roots.off + 2 ^ obj.s.toNat ≤ H.ext obj.roots.blk
  hpti : obj.powTwoInv.off + obj.s.toNat + 1 ≤ H.ext obj.powTwoInv.blk
  hr_ : extend = true → obj.r_.off + N ≤ H.ext obj.r_.blk

/-- the loop over the column blocks: each block is transformed by `NTT_iters` into the block destination and (with more
    than one block) scattered into its columns of the destination -/
theorem NTT_blocks_safe (fuel : Nat) (hf : 64 ≤ fuel) (H : Heap) (self : NTT_Goldilocks) (D src dstp auxp : Ptr)
    (N NC K nb : Nat) (nphase : BitVec 64) (inverse extend : Bool) (sh : NShape H self D src dstp auxp N NC K nb extend) :
    Loop.RangeAll 0 nb (H, 0#64)
      (NTT_NTT_loop2 fuel D src (bv N) (bv NC) nphase (bv nb) inverse extend self (bv (NC / nb)) (bv (NC % nb)) dstp auxp)
      (fun ib st => NTT_NTT_loop2.Safe fuel D src (bv N) (bv NC) nphase (bv nb) inverse extend self (bv (NC / nb))
        (bv (NC % nb)) dstp auxp ib st) := by
  obtain ⟨hK, hN, hnb1, hnbNC, hbytes, hpos, hD, hdstp, hauxp, hda, hsrc, hds, has, hDd, hsel, hsK, hs32, hroots, hpti,
    hr_⟩ := sh
  have hN0 : 0 < N := pow2_pos hN
  have hN30 : N ≤ 2 ^ 30 := pow2_le hN hK
  have hNC63 : NC < 2 ^ 63 := by
    have : NC ≤ N * NC := Nat.le_mul_of_pos_left _ hN0
    omega
  refine Loop.RangeAll.of_inv (fun ib st => Heap.Same H st.1 ∧ st.2 = bv (colO NC nb ib)) ?_ ?_ ?_
  · exact ⟨Heap.Same.refl _, by rw [colO_zero]⟩
  · intro ib s s' _ hib hinv hstep
    refine ⟨?_, ?_⟩
    · exact NTT_loop2_same s hpos hinv.1 s' hstep
    · rw [NTT_loop2_oc _ _ _ _ _ _ _ _ _ _ _ _ _ _ ib s s' hstep, hinv.2, colW_bv NC nb ib hNC63 (by omega), bv_add, colO_succ]
  · intro ib st _ hib hinv
    obtain ⟨X, ocv⟩ := st
    obtain ⟨hsame, hoc⟩ := hinv
    simp only at hsame hoc
    subst hoc
    have how := colOW_le NC nb ib hib
    have hwA := colW_le NC nb ib
    have hwpos := colW_pos NC nb ib hnb1 hnbNC
    have hAN := colA_le NC nb hnb1 hnbNC
    have hNw : N * colW NC nb ib ≤ N * colA NC nb := Nat.mul_le_mul_left _ hwA
    have hNA : N * colA NC nb ≤ N * NC := Nat.mul_le_mul_left _ hAN
    unfold NTT_NTT_loop2.Safe
    zeta_goal
    rw [colW_bv NC nb ib hNC63 (by omega)]
    have hsh : IShape X self (if (dstp != Ptr.null) = true then dstp else src) auxp N (colW NC nb ib) K extend := by
      rw [hsel]
      exact ⟨hK, hN, by omega, by rw [hsame.2]; omega, by rw [hsame.2]; omega, hda, hsK, hs32, by rw [hsame.2]; exact hroots,
        by rw [hsame.2]; exact hpti, fun e => by rw [hsame.2]; exact hr_ e⟩
    have hoT : (bv (colO NC nb ib)).toNat = colO NC nb ib := bv_toNat _ (by omega)
    have hNCT : (bv NC).toNat = NC := bv_toNat _ (by omega)
    refine ⟨?_, fun y hy => ?_⟩
    · exact NTT_iters_safe_all fuel hf X self dstp src auxp N (colW NC nb ib) K _ _ nphase inverse extend
        (hsame.size_pos hpos) hsh hwpos (by rw [hoT, hNCT]; exact how) (by rw [hNCT]; exact hbytes)
        (by rw [hNCT, hsame.2]; exact hsrc) (by rw [hsel]; exact hds) has
    · intro hgt
      have hnb2 : 1 < nb := by
        have := of_decide_eq_true hgt
        have h2 : bv 1 < bv nb := this
        rwa [lt_bv _ _ (by omega) (by omega)] at h2
      have hsy : Heap.Same X y :=
        NTT_iters_same fuel X self dstp src (bv N) _ _ (bv NC) nphase auxp inverse extend (hsame.size_pos hpos) y hy
      rw [bv_toNat N (by omega)]
      refine Loop.RangeAll.of_same (fun ie s _ => by loop_same) (fun ie st' _ hie hst' => ?_)
      have hs' := (hsame.trans hsy).trans hst'
      exact scatter_safe st' D dstp N NC _ _ ie hie how hbytes (by rw [hs'.2]; exact hD) (by rw [hs'.2]; omega) (hDd hnb2)

theorem sel_fresh (p src : Ptr) (h : p.blk ≠ 0) : (if (p != Ptr.null) = true then p else src) = p := by
  have : (p != Ptr.null) = true := by
    rw [bne_iff_ne]; intro e; rw [e] at h; exact h rfl
  rw [if_pos this]

theorem sel_dst (dst src : Ptr) :
    (if ((if (dst == Ptr.null) = true then src else dst) != Ptr.null) = true then (if (dst == Ptr.null) = true then src else dst)
      else src) = (if (dst == Ptr.null) = true then src else dst) := by
  by_cases h : (dst == Ptr.null) = true
  · rw [if_pos h]
    by_cases h2 : (src != Ptr.null) = true
    · rw [if_pos h2]
    · rw [if_neg h2]
  · rw [if_neg h]
    have : (dst != Ptr.null) = true := by simpa using h
    rw [if_pos this]

/-- `NTTShape0` (below) for sizes of at least 2: `size = 2^K` rows with 1 ≤ K ≤ 30 -/
structure NTTShape (hp : Heap) (obj : NTT_Goldilocks) (dst src buffer : Ptr) (N NC K : Nat) (extend : Bool) : Prop where
  hK1 : 1 ≤ K
  hK : K ≤ 30
  hN : N = 2 ^ K
  hNC : 0 < NC
  hbytes : N * NC * 8 < 2 ^ 64
  hpos : 0 < hp.size
  hD : (if (dst == Ptr.null) = true then src else dst).off + N * NC ≤ hp.ext (if (dst == Ptr.null) = true then src else dst).blk
  hsrc : src.off + srcRows obj (bv N) * NC ≤ hp.ext src.blk
  hsrcl : src.blk < hp.size
  hds : (if (dst == Ptr.null) = true then src else dst) ≠ src → (if (dst == Ptr.null) = true then src else dst).blk ≠ src.blk
  hbuf : buffer ≠ Ptr.null → buffer.off + N * NC ≤ hp.ext buffer.blk ∧
    buffer.blk ≠ (if (dst == Ptr.null) = true then src else dst).blk ∧ buffer.blk ≠ src.blk
  hsK : K ≤ obj.s.toNat
  hs32 : obj.s.toNat ≤ 32
  hroots : obj.roots.off + 2 ^ obj.s.toNat ≤ hp.ext obj.roots.blk
  hpti : obj.powTwoInv.off + obj.s.toNat + 1 ≤ hp.ext obj.powTwoInv.blk
  hr_ : extend = true → obj.r_.off + N ≤ hp.ext obj.r_.blk

/-- the documented shape of an `NTT(dst, src, size, ncols, buffer, nphase, nblock, …)` call:
    `size = 2^K` rows (0 ≤ K ≤ 30: size 1 included) of `ncols ≥ 1` words; the destination (`src` when `dst == NULL`) has size·ncols words, the
    source `srcRows`·ncols words; a destination that is not the source is another block; a caller buffer has size·ncols
    words and is another block than destination and source; the object's tables have the extents the constructor gave them -/
structure NTTShape0 (hp : Heap) (obj : NTT_Goldilocks) (dst src buffer : Ptr) (N NC K : Nat) (extend : Bool) : Prop where
  hK : K ≤ 30
  hN : N = 2 ^ K
  hNC : 0 < NC
  hbytes : N * NC * 8 < 2 ^ 64
  hpos : 0 < hp.size
  hD : (if (dst == Ptr.null) = true then src else dst).off + N * NC ≤ hp.ext (if (dst == Ptr.null) = true then src else dst).blk
  hsrc : src.off + srcRows obj (bv N) * NC ≤ hp.ext src.blk
  hsrcl : src.blk < hp.size
  hds : (if (dst == Ptr.null) = true then src else dst) ≠ src → (if (dst == Ptr.null) = true then src else dst).blk ≠ src.blk
  hbuf : buffer ≠ Ptr.null → buffer.off + N * NC ≤ hp.ext buffer.blk ∧
    buffer.blk ≠ (if (dst == Ptr.null) = true then src else dst).blk ∧ buffer.blk ≠ src.blk
  hsK : K ≤ obj.s.toNat
  hs32 : obj.s.toNat ≤ 32
  hroots : obj.roots.off + 2 ^ obj.s.toNat ≤ hp.ext obj.roots.blk
  hpti : obj.powTwoInv.off + obj.s.toNat + 1 ≤ hp.ext obj.powTwoInv.blk
  hr_ : extend = true → obj.r_.off + N ≤ hp.ext obj.r_.blk

/-- the shape of the block loop on a heap `H1` in which the blocks of `hp` have kept their extents -/
theorem NTTShape0.nshape {hp H1 : Heap} {self : NTT_Goldilocks} {dst src buffer D dstp auxp : Ptr} {N NC K nb : Nat}
    {extend : Bool} (sh : NTTShape0 hp self dst src buffer N NC K extend)
    (hD : (if (dst == Ptr.null) = true then src else dst) = D) (hnb1 : 1 ≤ nb) (hnbNC : nb ≤ NC) (h1 : 0 < H1.size)
    (hE : ∀ b, b < hp.size → H1.ext b = hp.ext b) (h2 : dstp.off + N * colA NC nb ≤ H1.ext dstp.blk)
    (h3 : auxp.off + N * colA NC nb ≤ H1.ext auxp.blk) (h4 : dstp.blk ≠ auxp.blk) (h5 : dstp ≠ src → dstp.blk ≠ src.blk)
    (h6 : auxp.blk ≠ src.blk) (h7 : 1 < nb → D.blk ≠ dstp.blk) (h8 : (if (dstp != Ptr.null) = true then dstp else src) = dstp) :
    NShape H1 self D src dstp auxp N NC K nb extend := by
  subst hD
  have hN0 : 0 < N := pow2_pos sh.hN
  have hlive : ∀ {b x : Nat}, 0 < x → x ≤ hp.ext b → H1.ext b = hp.ext b := fun h0 hx =>
    hE _ (Heap.lt_size_of_live hp _ (Nat.lt_of_lt_of_le h0 hx))
  refine ⟨sh.hK, sh.hN, hnb1, hnbNC, sh.hbytes, h1, ?_, h2, h3, h4, by rw [hE _ sh.hsrcl]; exact sh.hsrc, h5, h6, h7, h8,
    sh.hsK, sh.hs32, ?_, ?_, fun e => ?_⟩
  · rw [hlive (Nat.mul_pos hN0 sh.hNC) (Nat.le_of_add_left_le sh.hD)]; exact sh.hD
  · rw [hlive (Nat.pow_pos (by decide)) (Nat.le_of_add_left_le sh.hroots)]; exact sh.hroots
  · rw [hlive (Nat.succ_pos _) (Nat.le_of_add_left_le sh.hpti)]; exact sh.hpti
  · rw [hlive hN0 (Nat.le_of_add_left_le (sh.hr_ e))]; exact sh.hr_ e

/-- the block loop and the two releases, on the heap `H1` the allocations have left: `dstp` is released under `c1`
    (more than one block), `auxp` under `c2` (no caller buffer), each the start of a live block -/
theorem NTT_run_safe (fuel : Nat) (hf : 64 ≤ fuel) (H1 : Heap) (self : NTT_Goldilocks) (D src dstp auxp : Ptr)
    (N NC K nb : Nat) (nphase : BitVec 64) (inverse extend : Bool) (sh : NShape H1 self D src dstp auxp N NC K nb extend)
    (c1 c2 : Prop) [Decidable c1] (hd : c1 → dstp.off = 0) (ha : c2 → auxp.off = 0) :
    Loop.RangeAll 0 nb (H1, 0#64)
      (NTT_NTT_loop2 fuel D src (bv N) (bv NC) nphase (bv nb) inverse extend self (bv (NC / nb)) (bv (NC % nb)) dstp auxp)
      (fun ib st => NTT_NTT_loop2.Safe fuel D src (bv N) (bv NC) nphase (bv nb) inverse extend self (bv (NC / nb))
        (bv (NC % nb)) dstp auxp ib st) ∧
    ∀ y : Heap × BitVec 64,
      Loop.rangeM 0 nb 1 (H1, 0#64)
        (NTT_NTT_loop2 fuel D src (bv N) (bv NC) nphase (bv nb) inverse extend self (bv (NC / nb)) (bv (NC % nb)) dstp auxp) =
          some y →
        (c1 → y.1.FreeOK dstp) ∧ (c2 → (if c1 then y.1.free dstp else y.1).FreeOK auxp) := by
  refine ⟨NTT_blocks_safe fuel hf H1 self D src dstp auxp N NC K nb nphase inverse extend sh, fun y hy => ?_⟩
  have hsy : Heap.Same H1 y.1 :=
    OInv.rangeM (P := fun r => Heap.Same H1 r.1) _ _ _ _ _ (Heap.Same.refl _)
      (fun i s hs' => NTT_loop2_same s sh.hpos hs')
      y hy
  have hN0 : 0 < N := pow2_pos sh.hN
  have hA : 0 < N * colA NC nb :=
    Nat.mul_pos hN0 (Nat.lt_of_lt_of_le (colW_pos NC nb 0 sh.hnb1 sh.hnbNC) (colW_le NC nb 0))
  have hld : 0 < y.1.ext dstp.blk := by rw [hsy.2]; exact Nat.lt_of_lt_of_le hA (Nat.le_of_add_left_le sh.hdstp)
  have hla : 0 < y.1.ext auxp.blk := by rw [hsy.2]; exact Nat.lt_of_lt_of_le hA (Nat.le_of_add_left_le sh.hauxp)
  refine ⟨fun h => Or.inr ⟨hd h, hld⟩, fun h => Or.inr ⟨ha h, ?_⟩⟩
  by_cases h1 : c1
  · rw [if_pos h1, ext_free_ne _ _ _ (fun e => sh.hda e.symm)]; exact hla
  · rw [if_neg h1]; exact hla

theorem NTT_safe_all (fuel : Nat) (hf : 64 ≤ fuel) (hp : Heap) (self : NTT_Goldilocks) (dst src buffer : Ptr) (N NC K : Nat)
    (nphase nblock : BitVec 64) (inverse extend : Bool) (sh : NTTShape0 hp self dst src buffer N NC K extend) :
    NTT_NTT.Safe fuel hp self dst src (bv N) (bv NC) buffer nphase nblock inverse extend := by
  have hN0 : 0 < N := pow2_pos sh.hN
  have hbytes := sh.hbytes
  unfold NTT_NTT.Safe
  zeta_goal
  intro _
  generalize hnb : Model.Ntt.clampBlock nblock.toNat NC = nb
  obtain ⟨⟨hnb1, hnbNC, hAN⟩, hclamp, hgt, hnbt, hdiv, hmod, hres0, hallocg, hcnt⟩ :=
    block_sched nblock K NC nb _ _ (colA NC nb) sh.hNC (by rw [← sh.hN]; exact hbytes) hnb.symm rfl rfl rfl
  rw [← sh.hN] at hcnt
  have hNA : N * colA NC nb ≤ N * NC := Nat.mul_le_mul_left _ hAN
  have hgt' : decide (bv nb > 1#64) = decide (1 < nb) := hgt
  simp only [hclamp, hdiv, hmod, hres0, hallocg, hcnt, hnbt, hgt']
  generalize hDdef : (if (dst == Ptr.null) = true then src else dst) = D
  have hNC := sh.hNC
  have hsrcl := sh.hsrcl
  have hD := sh.hD
  have hds := sh.hds
  have hbuf := sh.hbuf
  rw [hDdef] at hD hds hbuf
  have hNNC0 : 0 < N * NC := Nat.mul_pos hN0 hNC
  have hDlive : D.blk < hp.size := Heap.lt_size_of_live hp D.blk (by omega)
  -- the scratch `aux`: a new last block, or the caller's buffer
  generalize hta : (if (buffer == Ptr.null) = true then ((hp.alloc (N * colA NC nb)).2, (hp.alloc (N * colA NC nb)).1)
    else (buffer, hp)) = ta
  obtain ⟨a1, a2, a3⟩ := alloc_or_keep hta
  have hA : hp.size ≤ ta.2.size ∧ ta.1.off + N * colA NC nb ≤ ta.2.ext ta.1.blk ∧ ta.1.blk < ta.2.size ∧
      ta.1.blk ≠ src.blk ∧ ta.1.blk ≠ D.blk ∧ ((buffer == Ptr.null) = true → ta.1.off = 0) := by
    by_cases hb : (buffer == Ptr.null) = true
    · obtain ⟨e1, e2, e3⟩ := a2 hb
      rw [e1, e3]
      exact ⟨Nat.le_succ _, by rw [e2]; exact Nat.le_of_eq (Nat.zero_add _), Nat.lt_succ_self _, Nat.ne_of_gt hsrcl,
        Nat.ne_of_gt hDlive, fun _ => rfl⟩
    · obtain ⟨e1, e2⟩ := a3 hb
      obtain ⟨hbe, hbD, hbs⟩ := hbuf (by simpa using hb)
      rw [e1, e2]
      exact ⟨Nat.le_refl _, by omega, Heap.lt_size_of_live hp _ (by omega), hbs, hbD, fun h => absurd h hb⟩
  obtain ⟨A0, A2, A3, A4, A5, A6⟩ := hA
  -- the block destination `dst_`: a new last block when there is more than one column block, else the destination
  generalize htd : (if decide (1 < nb) = true then ((ta.2.alloc (N * colA NC nb)).2, (ta.2.alloc (N * colA NC nb)).1)
    else (D, ta.2)) = td
  obtain ⟨d1, d2, d3⟩ := alloc_or_keep htd
  have hE : ∀ b, b < hp.size → td.2.ext b = hp.ext b := fun b hb => by rw [d1 b (by omega), a1 b hb]
  have hB : 0 < td.2.size ∧ td.1.off + N * colA NC nb ≤ td.2.ext td.1.blk ∧ td.1.blk ≠ ta.1.blk ∧
      (td.1 ≠ src → td.1.blk ≠ src.blk) ∧ (1 < nb → D.blk ≠ td.1.blk) ∧
      (if (td.1 != Ptr.null) = true then td.1 else src) = td.1 ∧ (decide (1 < nb) = true → td.1.off = 0) := by
    by_cases hn : decide (1 < nb) = true
    · obtain ⟨e1, e2, e3⟩ := d2 hn
      rw [e1, e3]
      exact ⟨Nat.succ_pos _, by rw [e2]; exact Nat.le_of_eq (Nat.zero_add _), Nat.ne_of_gt A3, fun _ => by show ta.2.size ≠ _; omega,
        fun _ => by show _ ≠ ta.2.size; omega, sel_fresh _ src (by show ta.2.size ≠ 0; omega), fun _ => rfl⟩
    · obtain ⟨e1, e2⟩ := d3 hn
      have hnb : nb = 1 := by have : ¬ 1 < nb := fun h => hn (decide_eq_true h); omega
      rw [e1, e2, hnb, colA_one]
      exact ⟨by omega, by rw [a1 _ hDlive]; exact hD, fun e => A5 e.symm, hds, fun h => absurd h (by omega),
        by rw [← hDdef]; exact sel_dst dst src, fun h => absurd h (by decide)⟩
  obtain ⟨B1, B2, B3, B4, B5, B6, B7⟩ := hB
  exact NTT_run_safe fuel hf td.2 self D src td.1 ta.1 N NC K nb nphase inverse extend
    (sh.nshape hDdef hnb1 hnbNC B1 hE B2 (by rw [d1 _ A3]; exact A2) B3 B4 A4 B5 B6) _ _ B7 A6

theorem NTTShape.to0 {hp : Heap} {obj : NTT_Goldilocks} {dst src buffer : Ptr} {N NC K : Nat} {extend : Bool}
    (sh : NTTShape hp obj dst src buffer N NC K extend) : NTTShape0 hp obj dst src buffer N NC K extend := by
  obtain ⟨_, h2, h3, h4, h5, h6, h7, h8, h9, h10, h11, h12, h13, h14, h15, h16⟩ := sh
  exact ⟨h2, h3, h4, h5, h6, h7, h8, h9, h10, h11, h12, h13, h14, h15, h16⟩

theorem NTT_safe (fuel : Nat) (hf : 64 ≤ fuel) (hp : Heap) (self : NTT_Goldilocks) (dst src buffer : Ptr) (N NC K : Nat)
    (nphase nblock : BitVec 64) (inverse extend : Bool) (sh : NTTShape hp self dst src buffer N NC K extend) :
    NTT_NTT.Safe fuel hp self dst src (bv N) (bv NC) buffer nphase nblock inverse extend :=
  NTT_safe_all fuel hf hp self dst src buffer N NC K nphase nblock inverse extend sh.to0

theorem sel_dst' (dst src : Ptr) :
    (if ((if (dst == Ptr.null) = true then src else dst) == Ptr.null) = true then src
      else (if (dst == Ptr.null) = true then src else dst)) = (if (dst == Ptr.null) = true then src else dst) := by
  by_cases h : (dst == Ptr.null) = true
  · rw [if_pos h]
    by_cases h2 : (src == Ptr.null) = true
    · rw [if_pos h2]
    · rw [if_neg h2]
  · rw [if_neg h, if_neg h]

/-- the same with the pointer tests as propositions (`ptr_norm`) -/
theorem sel_dst_p (dst src : Ptr) :
    (if (if dst = Ptr.null then src else dst) = Ptr.null then src else (if dst = Ptr.null then src else dst)) =
      (if dst = Ptr.null then src else dst) := by
  by_cases h : dst = Ptr.null
  · rw [if_pos h]
    by_cases h2 : src = Ptr.null
    · rw [if_pos h2]
    · rw [if_neg h2]
  · rw [if_neg h, if_neg h]

/-- `INTT` = `NTT` with `inverse = true` on the same buffers -/
theorem INTT_safe_all (fuel : Nat) (hf : 64 ≤ fuel) (hp : Heap) (self : NTT_Goldilocks) (dst src buffer : Ptr) (N NC K : Nat)
    (nphase nblock : BitVec 64) (extend : Bool) (sh : NTTShape0 hp self dst src buffer N NC K extend) :
    NTT_INTT.Safe fuel hp self dst src (bv N) (bv NC) buffer nphase nblock extend := by
  unfold NTT_INTT.Safe
  zeta_goal
  intro _
  refine NTT_safe_all fuel hf hp self _ src buffer N NC K nphase nblock true extend ?_
  obtain ⟨h2, h3, h4, h5, h6, h7, h8, h9, h10, h11, h12, h13, h14, h15, h16⟩ := sh
  refine ⟨h2, h3, h4, h5, h6, ?_, h8, h9, ?_, ?_, h12, h13, h14, h15, h16⟩
  · ptr_norm at h7 ⊢; rw [sel_dst_p]; exact h7
  · ptr_norm at h10 ⊢; rw [sel_dst_p]; exact h10
  · ptr_norm at h11 ⊢; rw [sel_dst_p]; exact h11

theorem INTT_safe (fuel : Nat) (hf : 64 ≤ fuel) (hp : Heap) (self : NTT_Goldilocks) (dst src buffer : Ptr) (N NC K : Nat)
    (nphase nblock : BitVec 64) (extend : Bool) (sh : NTTShape hp self dst src buffer N NC K extend) :
    NTT_INTT.Safe fuel hp self dst src (bv N) (bv NC) buffer nphase nblock extend :=
  INTT_safe_all fuel hf hp self dst src buffer N NC K nphase nblock extend sh.to0

end GoldilocksVerif.HeapSafe
