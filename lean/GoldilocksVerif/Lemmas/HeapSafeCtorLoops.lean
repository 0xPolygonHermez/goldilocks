/-
  IN-BOUNDS ACCESSES of the generated CONSTRUCTOR itself (`NTT_ctor.Safe`, derived from the generated definition):
  `roots = malloc(nRoots·8)`, `powTwoInv = malloc((s+1)·8)`, `roots[0]`, `powTwoInv[0]`, `roots[1]`, `powTwoInv[1]`,
  the loop `roots[i] = roots[i-1]·roots[1]` (2 ≤ i < nRoots), the read `roots[nRoots-1]` of the assert and the loop
  `powTwoInv[i] = powTwoInv[i-1]·powTwoInv[1]` (2 ≤ i ≤ s, every state the `while` reaches).
  No hypothesis: any heap, any `maxDomainSize`, any fuel.  What is needed about `s` (1 ≤ s ≤ 32, so that `1 << s` does not
  wrap and the `powTwoInv` block has at least two words) is an invariant of the translated loop that counts `s`
  (partial correctness: `Loop.whileM_pres`), not a hypothesis.
-/
import GoldilocksVerif.Lemmas.HeapSafeComputeR
import GoldilocksVerif.Lemmas.BridgeNttCtor
open GoldilocksVerif Gen.NttGen GoldilocksVerif.BridgeNtt
namespace GoldilocksVerif.HeapSafe

/-- invariant of the `while ((!mpz_tstbit(m_aux, 0)) && (s < domainPow))` loop: 1 ≤ s ≤ 32, m_aux = (p−1)/2 >> (s−1) -/
def SInv (st : Nat × NTT_Goldilocks) : Prop :=
  1 ≤ st.2.s.toNat ∧ st.2.s.toNat ≤ 32 ∧ st.1 = Gmp.fdiv_q_2exp Q2 (st.2.s.toNat - 1)

theorem ctor_loop2_sinv (dp : BitVec 32) (st : Nat × NTT_Goldilocks) (b : Bool) (st' : Nat × NTT_Goldilocks)
    (h : SInv st) (hstep : NTT_ctor_loop2 dp st = some (b, st')) : SInv st' := by
  obtain ⟨h1, h2, h3⟩ := h
  unfold NTT_ctor_loop2 at hstep
  dsimp only at hstep
  by_cases hc : ((!(Gmp.tstbit st.1 0 != (0 : Int))) && decide (st.2.s < dp)) = true
  · rw [if_pos hc] at hstep
    injection hstep with hstep
    injection hstep with _ hstep
    rw [← hstep]
    rw [Bool.and_eq_true] at hc
    have hbit : Gmp.tstbit st.1 0 = 0 := by
      have := hc.1
      simpa using this
    have hs31 : st.2.s.toNat ≤ 31 := by
      rcases Nat.lt_or_ge st.2.s.toNat 32 with x | x
      · omega
      · have e : st.2.s.toNat - 1 = 31 := by omega
        rw [h3, e, q2_bit31] at hbit
        exact absurd hbit (by decide)
    have hs1 : (st.2.s + 1#32).toNat = st.2.s.toNat + 1 := by
      rw [BitVec.toNat_add]
      have : (1#32 : BitVec 32).toNat = 1 := rfl
      rw [this]; exact Nat.mod_eq_of_lt (by omega)
    refine ⟨?_, ?_, ?_⟩
    · show 1 ≤ (st.2.s + 1#32).toNat; omega
    · show (st.2.s + 1#32).toNat ≤ 32; omega
    · show Gmp.fdiv_q_2exp st.1 1 = Gmp.fdiv_q_2exp Q2 ((st.2.s + 1#32).toNat - 1)
      rw [h3, q2_shift, hs1]
      congr 1; omega
  · rw [if_neg hc] at hstep
    injection hstep with hstep
    injection hstep with _ hstep
    rw [← hstep]
    exact ⟨h1, h2, h3⟩

/-- one step of `roots[i] = roots[i-1] * roots[1]`, 2 ≤ i < n, on a block of n words -/
theorem ctor_loop3_safe (self : NTT_Goldilocks) (n i : Nat) (st : Heap) (h : self.roots.off + n ≤ st.ext self.roots.blk)
    (h2 : 2 ≤ i) (hi : i < n) : NTT_ctor_loop3.Safe self i st :=
  ⟨⟨InB_base (by omega), InB_base (by omega)⟩, InB_base (by omega)⟩

/-- the loop `powTwoInv[i] = powTwoInv[i-1] * powTwoInv[1]`, 2 ≤ i ≤ s, on a block of s + 1 words: every state the `while`
    reaches (the heap keeps its shape, 2 ≤ i ≤ s + 1) -/
theorem ctor_loop4_all (self : NTT_Goldilocks) (y : Heap) (S : Nat) (hS1 : 1 ≤ S) (hS32 : S ≤ 32)
    (hw : (BitVec.setWidth 64 self.s).toNat = S) (hq : self.powTwoInv.off + S + 1 ≤ y.ext self.powTwoInv.blk) :
    Loop.WhileAll (NTT_ctor_loop4 self) (y, 2#64) (fun st => NTT_ctor_loop4.Safe self st) := by
  have h1 : (1#64 : BitVec 64).toNat = 1 := rfl
  refine Loop.WhileAll.of_inv (fun st => Heap.Same y st.1 ∧ 2 ≤ st.2.toNat ∧ st.2.toNat ≤ S + 1)
    ⟨Heap.Same.refl _, by show 2 ≤ (2#64 : BitVec 64).toNat; decide, by show 2 ≤ S + 1; omega⟩ ?_ ?_
  · intro s s' hinv hstep
    unfold NTT_ctor_loop4 at hstep
    dsimp only at hstep
    obtain ⟨hc, rfl⟩ := Loop.guard_true hstep
    have hle := of_decide_eq_true hc
    rw [BitVec.le_def, hw] at hle
    have e : (s.2 + 1#64).toNat = s.2.toNat + 1 := by
      rw [BitVec.toNat_add, h1]; exact Nat.mod_eq_of_lt (by omega)
    exact ⟨hinv.1.trans (Heap.Same.set _ _ _ _), by show 2 ≤ (s.2 + 1#64).toNat; omega,
      by show (s.2 + 1#64).toNat ≤ S + 1; omega⟩
  · intro s hinv hc
    obtain ⟨hsame', i2, _⟩ := hinv
    have hle := of_decide_eq_true hc
    rw [BitVec.le_def, hw] at hle
    have e : (s.2 - 1#64).toNat = s.2.toNat - 1 := by
      rw [BitVec.toNat_sub, h1]
      have := s.2.isLt
      omega
    have hq' : self.powTwoInv.off + S + 1 ≤ s.1.ext self.powTwoInv.blk := by rw [hsame'.2]; exact hq
    exact ⟨⟨InB_base (by rw [e]; omega), InB_base (by omega)⟩, InB_base (by omega)⟩

/-- **in-bounds accesses of the constructor** — for every heap, every `maxDomainSize`, thread count, extension and fuel -/
theorem ctor_safe (fuel : Nat) (hp : Heap) (self : NTT_Goldilocks) (m : BitVec 64) (thr : BitVec 32) (e : Int) :
    NTT_ctor.Safe fuel hp self m thr e := by
  unfold NTT_ctor.Safe
  zeta_goal
  intro hm y1 hy1 y2 hy2 y3 hy3 hlt
  simp only [gmp_negone, gmp_q2] at hy3
  have hinv : SInv y3 := by
    refine Loop.whileM_pres (NTT_ctor_loop2 y1) SInv (fun s b s' hi hs => ctor_loop2_sinv y1 s b s' hi hs) fuel _ y3 ?_ hy3
    exact ⟨by show 1 ≤ (1#32 : BitVec 32).toNat; decide, by show (1#32 : BitVec 32).toNat ≤ 32; decide,
      by show Q2 = Gmp.fdiv_q_2exp Q2 0; simp [Gmp.fdiv_q_2exp]⟩
  obtain ⟨hS1, hS32, _⟩ := hinv
  generalize hsv : y3.2.s = sv at *
  generalize hS : sv.toNat = S at *
  have h2S : 2 ^ S < 2 ^ 33 := Nat.pow_lt_pow_right (by decide) (by omega)
  have h2S2 : 2 ≤ 2 ^ S := by
    calc 2 = 2 ^ 1 := rfl
      _ ≤ 2 ^ S := Nat.pow_le_pow_right (by decide) hS1
  have e1 : (1#64 : BitVec 64) <<< S = bv (2 ^ S) := one_shl S (by omega)
  have e2 : (bv (2 ^ S) * 8#64).toNat / 8 = 2 ^ S := words_bv _ (by omega)
  have e3 : BitVec.setWidth 64 (sv + 1#32) = bv (S + 1) := by
    apply BitVec.eq_of_toNat_eq
    rw [BitVec.toNat_setWidth, BitVec.toNat_add, hS, bv_toNat _ (by omega)]
    have : (1#32 : BitVec 32).toNat = 1 := rfl
    rw [this, Nat.mod_eq_of_lt (a := S + 1) (by omega), Nat.mod_eq_of_lt (by omega)]
  have e4 : (bv (S + 1) * 8#64).toNat / 8 = S + 1 := words_bv _ (by omega)
  have e5 : decide (bv (2 ^ S) > 1#64) = true := by
    rw [decide_eq_true_eq]; show bv 1 < bv (2 ^ S); rw [lt_bv _ _ (by omega) (by omega)]; omega
  have e6 : (bv (2 ^ S)).toNat = 2 ^ S := bv_toNat _ (by omega)
  have e7 : (bv (2 ^ S) - 1#64).toNat = 2 ^ S - 1 := by
    rw [bv_one, bv_sub _ _ (by omega) (by omega), bv_toNat _ (by omega)]
  simp only [e1, e2, e3, e4, e5, e6, e7, if_true, Heap.alloc_snd, Heap.size_alloc]
  obtain ⟨x1, x2, _, _⟩ := ext_alloc_two hp (2 ^ S) (S + 1)
  generalize ((hp.alloc (2 ^ S)).1.alloc (S + 1)).1 = H at x1 x2 ⊢
  have r0 : H.InB ⟨hp.size, 0⟩ 0 := InB_base (by show 0 + 0 < H.ext hp.size; omega)
  have r1 : H.InB ⟨hp.size, 0⟩ 1 := InB_base (by show 0 + 1 < H.ext hp.size; omega)
  have rl : H.InB ⟨hp.size, 0⟩ (2 ^ S - 1) := InB_base (by show 0 + (2 ^ S - 1) < H.ext hp.size; omega)
  have q0 : H.InB ⟨hp.size + 1, 0⟩ 0 := InB_base (by show 0 + 0 < H.ext (hp.size + 1); omega)
  have q1 : H.InB ⟨hp.size + 1, 0⟩ 1 := InB_base (by show 0 + 1 < H.ext (hp.size + 1); omega)
  refine ⟨r0, q0.same (by heap_steps), fun _ => ⟨r1.same (by heap_steps), q1.same (by heap_steps)⟩, ?_, fun y hy => ?_⟩
  · refine Loop.RangeAll.of_same (fun i s _ => by loop_same) (fun i st h1 h2 hst => ?_)
    refine ctor_loop3_safe _ (2 ^ S) i st ?_ h1 h2
    rw [hst.2, Heap.ext_set, Heap.ext_set, Heap.ext_set, Heap.ext_set, x1]
    exact Nat.le_of_eq (Nat.zero_add _)
  · have hsame : Heap.Same H y := by
      have h0 : Heap.Same H ((((H.set ⟨hp.size, 0⟩ 0 Gen.Scalar.one__r).set ⟨hp.size + 1, 0⟩ 0 Gen.Scalar.one__r).set
          ⟨hp.size, 0⟩ 1 (Gen.Scalar.w__rE (BitVec.setWidth 64 y1))).set ⟨hp.size + 1, 0⟩ 1
          (Gen.Scalar.fromU64__rE (Gmp.get_ui (Gmp.invert 2 (18446744069414584320 + 1))))) := by heap_steps
      exact h0.trans (OInv.rangeM (P := Heap.Same _) _ _ _ _ _ (Heap.Same.refl _)
        (fun i s hs => OInv.of_same hs (by loop_same)) y hy)
    refine ⟨⟨rl.same hsame, r1.same hsame⟩, fun _ => ?_⟩
    refine ctor_loop4_all _ y S hS1 hS32 ?_ ?_
    · show (BitVec.setWidth 64 sv).toNat = S
      rw [BitVec.toNat_setWidth, hS]; exact Nat.mod_eq_of_lt (by omega)
    · show 0 + S + 1 ≤ y.ext (hp.size + 1)
      rw [hsame.2, x2]; omega

end GoldilocksVerif.HeapSafe
