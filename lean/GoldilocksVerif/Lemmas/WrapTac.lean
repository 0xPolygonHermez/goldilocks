/-
  The simp set `wrap_code` and the one proof step (`wrap_proof`) of the generated equalities of Props/C17Gen.lean.
-/
import GoldilocksVerif.Lemmas.ExtWrapAttr
import GoldilocksVerif.Lemmas.WrapL
import GoldilocksVerif.Gen.Avx2Mat
import GoldilocksVerif.Gen.Avx512Mat
import GoldilocksVerif.Gen.PosAvx512

namespace GoldilocksVerif

theorem store_avx_getN (r : Region) (v : V4) {k : Nat} (hk : k < 4) : (Gen.Avx2Mat.store_avx r v) k = v.getN k :=
  Avx2.store_getN r v hk
theorem store_avx_a_getN (r : Region) (v : V4) {k : Nat} (hk : k < 4) : (Gen.Avx2Mat.store_avx_a r v) k = v.getN k :=
  Avx2.store_getN r v hk
theorem store_avx512_getN (r : Region) (v : V8) {k : Nat} (hk : k < 8) : (Gen.Avx512Mat.store_avx512 r v) k = v.getN k :=
  Avx512.store_getN r v hk

/- `↓`: tried before the arguments are normalised and before the definitions under them are unfolded, so that a whole phase
   is one rewrite; a body of another shape falls through to the generic lemmas of the set. -/
attribute [wrap_code ↓] Avx2.load_sets Avx512.load_sets store_avx_getN store_avx_a_getN store_avx512_getN

attribute [wrap_code] Gen.Avx2Mat.load_avx Gen.Avx2Mat.store_avx Gen.Avx2Mat.load_avx_a Gen.Avx2Mat.store_avx_a
  Gen.Avx512Mat.store_avx512 Gen.PosAvx512.load_avx512
  Avx2.load Avx2.store_eq Avx512.load Avx512.store_eq writeSeq V4.ofFn V8.ofFn
  Avx2.set_epi64x Avx2.set1_epi64x Avx512.set_epi64 Avx512.set1_epi64
  Region.set_apply Region.zero Region.mk_apply Region.ofList_apply List.getD_cons_zero List.getD_cons_succ
  BitVec.toNat_ofNat Nat.zero_mod

attribute [wrap_code] BitVec.zero_add BitVec.add_zero BitVec.zero_mul BitVec.one_mul BitVec.mul_zero BitVec.mul_one
  BitVec.run_two BitVec.run_succ BitVec.run_succ'

/-- unfold the generated wrapper; normalise its gathers / scatters and the `writeSeq` of the statement to the same term -/
macro "wrap_proof " f:ident : tactic => `(tactic|
  (unfold $f
   simp only [wrap_code, ↓reduceIte, Nat.reduceEqDiff, Nat.reduceLT, Nat.reduceAdd]))

end GoldilocksVerif
