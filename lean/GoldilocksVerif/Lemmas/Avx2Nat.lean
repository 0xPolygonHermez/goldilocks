/-
  AVX2 lane kernels (Gen/Avx2.lean, regenerated from goldilocks_base_field_avx.hpp) on `Nat`: the add / sub / canonicalise
  family, the 128-bit / 72-bit products, the squares and the reductions.

  Proof scheme (chosen so that behaviour-preserving rewrites of the C++ do not disturb it): every kernel `K` has one
  statement, about the lane `(K a b).get i` in terms of the lanes `a.get i`, `b.get i`.  `simp only [K, lane_get]` reads the
  kernel at lane `i` (one closed simp set: local names, the order of independent statements and the choice among modelled
  intrinsics do not matter, and no lane expression is ever written down), `lane_nat` moves it to `Nat` (both operand orders of
  the commutative operations, the equivalent idioms) and `omega` closes the arithmetic fact per case of the comparison mask.
  A kernel that calls others uses their statements at its intermediate registers; where the callee's body may as well be
  repeated in place, both sides are first unfolded to the same lane expression (`have e : (K a b).get i = (callees ..).get i`).
-/
import GoldilocksVerif.Gen.Avx2
import GoldilocksVerif.Lemmas.LaneNat
import GoldilocksVerif.Lemmas.ScalarNat
set_option linter.unusedSimpArgs false
namespace GoldilocksVerif
open Gen.Avx2 Gen.VecConsts Lane

@[simp, lane_get] theorem V4.get_set_same (c : BitVec 64) (i : Fin 4) : (Avx2.set_epi64x c c c c).get i = c := by
  match i with
  | 0 => rfl | 1 => rfl | 2 => rfl | 3 => rfl
@[lane_get] theorem V4.get_set1 (c : BitVec 64) (i : Fin 4) : (Avx2.set1_epi64x c).get i = c := by
  match i with
  | 0 => rfl | 1 => rfl | 2 => rfl | 3 => rfl
@[lane_get] theorem V4.get_blend_aa (a b : V4) (i : Fin 4) :
    (Avx2.blend_epi32 a b 170).get i = Lane.blend32 2 (a.get i) (b.get i) := by
  match i with
  | 0 => rfl | 1 => rfl | 2 => rfl | 3 => rfl
/-- the complementary immediate with exchanged operands is the same blend -/
@[lane_get] theorem V4.get_blend_55 (a b : V4) (i : Fin 4) :
    (Avx2.blend_epi32 a b 85).get i = Lane.blend32 2 (b.get i) (a.get i) := by
  match i with
  | 0 => rfl | 1 => rfl | 2 => rfl | 3 => rfl

attribute [lane_get] Avx2.add_epi64 Avx2.sub_epi64 Avx2.and_si256 Avx2.andnot_si256 Avx2.xor_si256 Avx2.or_si256
  Avx2.cmpeq_epi64 Avx2.cmpeq_epi32 Avx2.cmpgt_epi64 Avx2.cmpgt_epi32 Avx2.srli_epi64 Avx2.slli_epi64 Avx2.mul_epu32
  Avx2.movehdup_ps Avx2.moveldup_ps V4.get_map V4.get_map2 V4.get_splat and_self g_MSB g_P g_P_n g_P_s g_sqmask

theorem hi_unsh (v : Nat) : (v / 4294967296 + 2147483648) % 4294967296 = unsh v / 4294967296 := by
  unfold unsh; omega
theorem unsh_add (x y : Nat) : unsh ((x + y) % 18446744073709551616) = (unsh x + y) % 18446744073709551616 := by
  unfold unsh; omega
theorem unsh_add' (x y : Nat) : unsh ((y + x) % 18446744073709551616) = (unsh x + y) % 18446744073709551616 := by
  unfold unsh; omega
theorem unsh_sub (x y : Nat) :
    unsh ((18446744073709551616 - y + x) % 18446744073709551616) = (18446744073709551616 - y + unsh x) % 18446744073709551616 := by
  unfold unsh; omega
theorem unsh_lt (x : Nat) : unsh x < 18446744073709551616 := by unfold unsh; omega
theorem unsh_unsh (x : Nat) (h : x < 18446744073709551616) : unsh (unsh x) = x := by unfold unsh; omega
/-- the 32-bit-compare shortcut of `add_avx_s_b_small` (unsigned form) -/
theorem cmp32_add (a y : Nat) (ha : a < 18446744073709551616) (hy : y ≤ 18446744069414584320) :
    ((a + y) % 18446744073709551616 / 4294967296 < a / 4294967296) ↔ 18446744073709551616 ≤ a + y := by
  omega
/-- the 32-bit-compare shortcut of `sub_avx_s_b_small` (unsigned form) -/
theorem cmp32_sub (a y : Nat) (ha : a < 18446744073709551616) (hy : y ≤ 18446744069414584320) :
    (a / 4294967296 < (18446744073709551616 - y + a) % 18446744073709551616 / 4294967296) ↔ a < y := by
  omega

theorem shift_spec (a : V4) (i : Fin 4) : ((shift_avx a).get i).toNat = unsh (a.get i).toNat := by
  simp only [shift_avx, lane_get, lane_nat]

/-- the shifted prime, whichever way the constant folds -/
theorem PsConst : (18446744069414584321#64 ^^^ 9223372036854775808#64 : BitVec 64).toNat = 9223372032559808513 := by
  rw [xor_msb_toNat]; rfl

/-- toCanonical_avx_s : on a shifted representation, returns the shifted canonical representative -/
theorem canon_s_spec (a : V4) (i : Fin 4) :
    unsh ((toCanonical_avx_s a).get i).toNat = unsh (a.get i).toNat % P ∧ unsh ((toCanonical_avx_s a).get i).toNat < P := by
  simp only [toCanonical_avx_s, lane_get, lane_nat, unsh, P]
  simp only [ltN_def]
  have hx := (a.get i).isLt
  split <;> omega

/-- `canon_s_spec` on the shifted form of an unshifted register -/
theorem canon_s_shift (a : V4) (i : Fin 4) :
    unsh ((toCanonical_avx_s (shift_avx a)).get i).toNat = (a.get i).toNat % P ∧
    unsh ((toCanonical_avx_s (shift_avx a)).get i).toNat < P := by
  have hc := canon_s_spec (shift_avx a) i
  rw [shift_spec, unsh_unsh _ (a.get i).isLt] at hc
  exact hc

theorem canon_spec (a : V4) (i : Fin 4) : ((toCanonical_avx a).get i).toNat = (a.get i).toNat % P := by
  have e : (toCanonical_avx a).get i = (shift_avx (toCanonical_avx_s (shift_avx a))).get i := by
    simp only [toCanonical_avx, toCanonical_avx_s, shift_avx, lane_get]
  rw [e, shift_spec, (canon_s_shift a i).1]

/-- add_avx_a_sc : first operand shifted canonical -/
theorem add_a_sc_spec (a b : V4) (i : Fin 4) (hx : unsh (a.get i).toNat < P) :
    ((add_avx_a_sc a b).get i).toNat % P = (unsh (a.get i).toNat + (b.get i).toNat) % P := by
  simp only [add_avx_a_sc, shift_avx, lane_get, lane_nat, unsh, P] at *
  simp only [ltN_def]
  have h1 := (a.get i).isLt
  have h2 := (b.get i).isLt
  split <;> omega

theorem add_spec (a b : V4) (i : Fin 4) :
    ((add_avx__vVV a b).get i).toNat % P = ((a.get i).toNat + (b.get i).toNat) % P := by
  have e : (add_avx__vVV a b).get i = (add_avx_a_sc (toCanonical_avx_s (shift_avx a)) b).get i := by
    simp only [add_avx__vVV, add_avx_a_sc, toCanonical_avx_s, shift_avx, lane_get]
  rw [e, add_a_sc_spec _ _ i (canon_s_shift a i).2, (canon_s_shift a i).1, Nat.mod_add_mod]

/-- add_avx_s_b_small : shifted first operand, second operand ≤ 0xFFFFFFFF00000000, shifted result -/
theorem add_s_b_small_spec (a b : V4) (i : Fin 4) (hy : (b.get i).toNat ≤ 18446744069414584320) :
    unsh ((add_avx_s_b_small a b).get i).toNat % P = (unsh (a.get i).toNat + (b.get i).toNat) % P := by
  simp only [add_avx_s_b_small, lane_get, lane_nat]
  simp only [hi_unsh, unsh_add, unsh_add', cmp32_add _ _ (unsh_lt _) hy]
  have h1 := unsh_lt (a.get i).toNat
  generalize unsh (a.get i).toNat = x at *
  unfold P
  split <;> omega

theorem add_b_small_spec (a b : V4) (i : Fin 4) (hy : (b.get i).toNat ≤ 18446744069414584320) :
    ((add_avx_b_small a b).get i).toNat % P = ((a.get i).toNat + (b.get i).toNat) % P := by
  have e : (add_avx_b_small a b).get i = (shift_avx (add_avx_s_b_small (shift_avx a) b)).get i := by
    simp only [add_avx_b_small, add_avx_s_b_small, shift_avx, lane_get]
  have := add_s_b_small_spec (shift_avx a) b i hy
  rw [shift_spec, unsh_unsh _ (a.get i).isLt] at this
  rw [e, shift_spec]
  exact this

theorem sub_spec (a b : V4) (i : Fin 4) :
    (((sub_avx__vVV a b).get i).toNat + (b.get i).toNat) % P = (a.get i).toNat % P := by
  obtain ⟨hc1, hc2⟩ := canon_s_shift b i
  simp only [sub_avx__vVV]
  generalize toCanonical_avx_s (shift_avx b) = bc at *
  simp only [shift_avx, lane_get, lane_nat]
  have h1 := (a.get i).isLt
  have h2 := (b.get i).isLt
  have h3 := (bc.get i).isLt
  simp only [unsh, P] at *
  simp only [ltN_def]
  split <;> omega

/-- sub_avx_s_b_small : shifted minuend, subtrahend ≤ 0xFFFFFFFF00000000, shifted result -/
theorem sub_s_b_small_spec (a b : V4) (i : Fin 4) (hy : (b.get i).toNat ≤ 18446744069414584320) :
    (unsh ((sub_avx_s_b_small a b).get i).toNat + (b.get i).toNat) % P = unsh (a.get i).toNat % P := by
  simp only [sub_avx_s_b_small, lane_get, lane_nat]
  simp only [hi_unsh, unsh_sub, cmp32_sub _ _ (unsh_lt _) hy]
  have h1 := unsh_lt (a.get i).toNat
  generalize unsh (a.get i).toNat = x at *
  unfold P
  split <;> omega

/-- schoolbook recombination of `mult_avx_128` on the four 32x32 partial products -/
theorem mul128_core (hh hl lh ll : Nat) (h1 : hh ≤ 18446744065119617025) (h2 : hl ≤ 18446744065119617025)
    (h3 : lh ≤ 18446744065119617025) (h4 : ll ≤ 18446744065119617025) :
    ((hh + (hl + ll / 4294967296) % 18446744073709551616 / 4294967296) % 18446744073709551616 +
        (lh + (hl + ll / 4294967296) % 18446744073709551616 % 4294967296) % 18446744073709551616 / 4294967296) %
          18446744073709551616 * 18446744073709551616 +
      ((lh + (hl + ll / 4294967296) % 18446744073709551616 % 4294967296) % 18446744073709551616 % 4294967296 * 4294967296 +
        ll % 4294967296) =
    hh * 18446744073709551616 + (hl + lh) * 4294967296 + ll := by
  omega

theorem mul72_core (hl ll : Nat) (h2 : hl ≤ 18446744065119617025) (h4 : ll ≤ 18446744065119617025) :
    (hl + ll / 4294967296) % 18446744073709551616 / 4294967296 * 18446744073709551616 +
      ((hl + ll / 4294967296) % 18446744073709551616 % 4294967296 * 4294967296 + ll % 4294967296) =
    hl * 4294967296 + ll := by
  omega

/-! The 128-bit / 72-bit product proofs move the kernel to `Nat` (`lane_nat`), bring every 32x32 partial product into
  one operand order and hand `omega` the bounds of exactly the partial products the kernel forms together with the
  schoolbook identity: the products are atoms for `omega`, which recombines them whatever the order of the kernel's
  statements.  (Facts about products the kernel does not form make `omega` markedly slower, hence one lemma per
  kernel shape.) -/

theorem mul128_facts (x y : Nat) (hx : x < 18446744073709551616) (hy : y < 18446744073709551616) :
    x / 4294967296 * (y / 4294967296) ≤ 18446744065119617025 ∧
    x / 4294967296 * (y % 4294967296) ≤ 18446744065119617025 ∧
    x % 4294967296 * (y / 4294967296) ≤ 18446744065119617025 ∧
    x % 4294967296 * (y % 4294967296) ≤ 18446744065119617025 ∧
    x * y = x / 4294967296 * (y / 4294967296) * 18446744073709551616 +
      (x / 4294967296 * (y % 4294967296) + x % 4294967296 * (y / 4294967296)) * 4294967296 +
      x % 4294967296 * (y % 4294967296) := by
  have h := split_mul (x % 4294967296) (x / 4294967296) (y % 4294967296) (y / 4294967296)
  rw [Nat.mod_add_div', Nat.mod_add_div'] at h
  exact ⟨mul32_le _ _ (by omega) (by omega), mul32_le _ _ (by omega) (by omega), mul32_le _ _ (by omega) (by omega),
    mul32_le _ _ (by omega) (by omega), by omega⟩

theorem mul72_facts (x y : Nat) (hx : x < 18446744073709551616) :
    x / 4294967296 * (y % 4294967296) ≤ 18446744065119617025 ∧
    x % 4294967296 * (y % 4294967296) ≤ 18446744065119617025 ∧
    x * (y % 4294967296) = x / 4294967296 * (y % 4294967296) * 4294967296 + x % 4294967296 * (y % 4294967296) := by
  have e1 : x = x / 4294967296 * 4294967296 + x % 4294967296 := by omega
  refine ⟨mul32_le _ _ (by omega) (by omega), mul32_le _ _ (by omega) (by omega), ?_⟩
  conv => lhs; rw [e1]
  rw [Nat.add_mul, Nat.mul_right_comm]

/-- the square forms `a_l · a_h` once and doubles it by the shifts -/
theorem sq128_facts (x : Nat) (hx : x < 18446744073709551616) :
    x / 4294967296 * (x / 4294967296) ≤ 18446744065119617025 ∧
    x % 4294967296 * (x / 4294967296) ≤ 18446744065119617025 ∧
    x % 4294967296 * (x % 4294967296) ≤ 18446744065119617025 ∧
    x * x = x / 4294967296 * (x / 4294967296) * 18446744073709551616 +
      x % 4294967296 * (x / 4294967296) * 8589934592 + x % 4294967296 * (x % 4294967296) := by
  obtain ⟨h1, _, h3, h4, key⟩ := mul128_facts x x hx hx
  rw [Nat.mul_comm (x / 4294967296) (x % 4294967296)] at key
  refine ⟨h1, h3, h4, ?_⟩
  rw [key]
  omega

/-- after `lane_nat`, with the facts about the partial products in the context: bring every partial product of the
  operand words `x`, `y` into the order "half of `x` times half of `y`" (the kernels may pass the operands of
  `mul_epu32` either way round) and let `omega` recombine them -/
macro "products_omega" x:term "," y:term : tactic => `(tactic| (
  try rw [Nat.mul_comm (($y).toNat / 4294967296) (($x).toNat / 4294967296)]
  try rw [Nat.mul_comm (($y).toNat % 4294967296) (($x).toNat / 4294967296)]
  try rw [Nat.mul_comm (($y).toNat / 4294967296) (($x).toNat % 4294967296)]
  try rw [Nat.mul_comm (($y).toNat % 4294967296) (($x).toNat % 4294967296)]
  omega))

theorem mult128_spec (a b : V4) (i : Fin 4) :
    ((mult_avx_128 a b).1.get i).toNat * 18446744073709551616 + ((mult_avx_128 a b).2.get i).toNat =
      (a.get i).toNat * (b.get i).toNat := by
  simp only [mult_avx_128, lane_get, lane_nat]
  obtain ⟨h1, h2, h3, h4, key⟩ := mul128_facts (a.get i).toNat (b.get i).toNat (a.get i).isLt (b.get i).isLt
  products_omega (a.get i), (b.get i)

/-- 2^64 = 2^32 - 1 and 2^96 = -1 (mod p): the reduction identity behind reduce_*_128_64 -/
theorem reduce128_core (u h cl r : Nat) (h1 : (u + h / 4294967296) % P = cl % P)
    (h2 : r % P = (u + h % 4294967296 * 4294967295) % P) :
    r % P = (h * 18446744073709551616 + cl) % P := by
  have c1 := mod_eq_cert _ _ h1
  have c2 := mod_eq_cert _ _ h2
  generalize (u + h / 4294967296) / P = q1 at *
  generalize cl / P = q2 at *
  generalize r / P = q4 at *
  generalize (u + h % 4294967296 * 4294967295) / P = q3 at *
  apply mod_cert r _ (q2 + q3 + h / 4294967296 * 4294967297 + h % 4294967296) (q1 + q4)
  unfold P at *
  omega

theorem mul32_Pn_toNat (h : BitVec 64) : (mul32 h 4294967295#64).toNat = h.toNat % 4294967296 * 4294967295 := by
  rw [mul32_toNat]; rfl
theorem Pn_mul32_toNat (h : BitVec 64) : (mul32 4294967295#64 h).toNat = h.toNat % 4294967296 * 4294967295 := by
  rw [mul32_toNat, Nat.mul_comm]; rfl
/-- the reductions multiply by the constant `P_n = 2^32 - 1`; whichever way round the kernel passes the factors, the
  constant is brought to the second position -/
theorem Pn_mul32 (h : BitVec 64) : mul32 4294967295#64 h = mul32 h 4294967295#64 := by
  unfold mul32; rw [BitVec.mul_comm]

theorem reduce128_spec (h l : V4) (i : Fin 4) :
    ((reduce_avx_128_64 h l).get i).toNat % P = ((h.get i).toNat * 18446744073709551616 + (l.get i).toNat) % P := by
  -- the call structure: shift, subtract the top 32 bits, add (low 32 bits of c_h)·(2^32-1), shift back
  have e : (reduce_avx_128_64 h l).get i = (shift_avx (add_avx_s_b_small
      (sub_avx_s_b_small (shift_avx l) (Avx2.srli_epi64 h 32)) (Avx2.mul_epu32 h g_P_n))).get i := by
    simp only [reduce_avx_128_64, shift_avx, sub_avx_s_b_small, add_avx_s_b_small, lane_get, Pn_mul32]
  have e1 : ((Avx2.srli_epi64 h 32).get i).toNat = (h.get i).toNat / 4294967296 := by
    simp only [lane_get]; exact ushr32_toNat _
  have e2 : ((Avx2.mul_epu32 h g_P_n).get i).toNat = (h.get i).toNat % 4294967296 * 4294967295 := by
    simp only [lane_get]; exact mul32_Pn_toNat _
  have hh := (h.get i).isLt
  have b2 := mul32_le ((h.get i).toNat % 4294967296) 4294967295 (by omega) (by decide)
  have s1 := sub_s_b_small_spec (shift_avx l) (Avx2.srli_epi64 h 32) i (by rw [e1]; omega)
  have s2 := add_s_b_small_spec (sub_avx_s_b_small (shift_avx l) (Avx2.srli_epi64 h 32)) (Avx2.mul_epu32 h g_P_n) i
    (by rw [e2]; omega)
  rw [shift_spec, unsh_unsh _ (l.get i).isLt, e1] at s1
  rw [e2] at s2
  rw [e, shift_spec]
  exact reduce128_core _ (h.get i).toNat (l.get i).toNat _ s1 s2

theorem mult_spec (a b : V4) (i : Fin 4) :
    ((mult_avx a b).get i).toNat % P = ((a.get i).toNat * (b.get i).toNat) % P := by
  simp only [mult_avx]
  rw [reduce128_spec, mult128_spec]

/-- the two words of the exact product are determined by the product: exchanging the operands changes no bit -/
theorem mult128_comm (a b : V4) : mult_avx_128 a b = mult_avx_128 b a := by
  have key : ∀ i, (mult_avx_128 a b).1.get i = (mult_avx_128 b a).1.get i ∧
      (mult_avx_128 a b).2.get i = (mult_avx_128 b a).2.get i := by
    intro i
    have s1 := mult128_spec a b i
    have s2 := mult128_spec b a i
    rw [Nat.mul_comm (b.get i).toNat] at s2
    have a1 := ((mult_avx_128 a b).2.get i).isLt
    have a2 := ((mult_avx_128 b a).2.get i).isLt
    generalize (a.get i).toNat * (b.get i).toNat = p at *
    constructor <;> apply BitVec.eq_of_toNat_eq <;> omega
  exact Prod.ext (V4.ext_get _ _ fun i => (key i).1) (V4.ext_get _ _ fun i => (key i).2)

/-- `mult_avx(c, a, b)` and `mult_avx(c, b, a)` return the same register (bit for bit, not only mod p) -/
theorem mult_avx_comm (a b : V4) : mult_avx a b = mult_avx b a := by
  simp only [mult_avx, mult128_comm a b]

theorem mult72_spec (a b : V4) (i : Fin 4) :
    ((mult_avx_72 a b).1.get i).toNat * 18446744073709551616 + ((mult_avx_72 a b).2.get i).toNat =
      (a.get i).toNat * ((b.get i).toNat % 4294967296) ∧ ((mult_avx_72 a b).1.get i).toNat < 4294967296 := by
  simp only [mult_avx_72, lane_get, lane_nat]
  obtain ⟨h2, h4, key⟩ := mul72_facts (a.get i).toNat (b.get i).toNat (a.get i).isLt
  products_omega (a.get i), (b.get i)

/-- reduce_avx_96_64 : uses the low 32 bits of c_h only -/
theorem reduce96_spec (h l : V4) (i : Fin 4) :
    ((reduce_avx_96_64 h l).get i).toNat % P =
      ((h.get i).toNat % 4294967296 * 18446744073709551616 + (l.get i).toNat) % P := by
  have e : (reduce_avx_96_64 h l).get i = (add_avx_b_small l (Avx2.mul_epu32 h g_P_n)).get i := by
    simp only [reduce_avx_96_64, add_avx_b_small, add_avx_s_b_small, shift_avx, lane_get, Pn_mul32]
  have e2 : ((Avx2.mul_epu32 h g_P_n).get i).toNat = (h.get i).toNat % 4294967296 * 4294967295 := by
    simp only [lane_get]; exact mul32_Pn_toNat _
  have b2 := mul32_le ((h.get i).toNat % 4294967296) 4294967295 (by omega) (by decide)
  rw [e, add_b_small_spec _ _ i (by rw [e2]; omega), e2]
  apply mod_cert _ _ ((h.get i).toNat % 4294967296) 0
  unfold P
  omega

/-- mult_avx_8 : exact whenever the multiplier lane is below 2^32 (documented requirement: below 2^8) -/
theorem mult8_spec (a b : V4) (i : Fin 4) (hb : (b.get i).toNat < 4294967296) :
    ((mult_avx_8 a b).get i).toNat % P = ((a.get i).toNat * (b.get i).toNat) % P := by
  obtain ⟨s1, s2⟩ := mult72_spec a b i
  simp only [mult_avx_8]
  rw [reduce96_spec, Nat.mod_eq_of_lt s2, s1, Nat.mod_eq_of_lt hb]

/-- square_avx_128 : the 128-bit square is exact for all operands (33/31-bit split) -/
theorem square128_spec (a : V4) (i : Fin 4) :
    ((square_avx_128 a).1.get i).toNat * 18446744073709551616 + ((square_avx_128 a).2.get i).toNat =
      (a.get i).toNat * (a.get i).toNat := by
  simp only [square_avx_128, lane_get, lane_nat]
  obtain ⟨h1, h3, h4, key⟩ := sq128_facts (a.get i).toNat (a.get i).isLt
  products_omega (a.get i), (a.get i)

theorem square_spec (a : V4) (i : Fin 4) :
    ((square_avx a).get i).toNat % P = ((a.get i).toNat * (a.get i).toNat) % P := by
  simp only [square_avx]
  rw [reduce128_spec, square128_spec]

end GoldilocksVerif
