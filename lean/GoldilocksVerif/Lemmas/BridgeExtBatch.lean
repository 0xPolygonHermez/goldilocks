/-
  The TRANSLATED `Goldilocks3::batchInverse` (Gen/ExtInvGen.lean, regenerated from goldilocks_cubic_extension.hpp on every
  run: two run-time sized stack arrays of rows, a counted loop of prefix products, one inversion, a descending loop
  `for (i = size - 1; i > 0; i--)` as a fuel-bounded fold, memcpy of size rows) satisfies the property statement DIRECTLY
  (no hand model in between): for 1 ≤ size < 2^59 (the byte count `size * sizeof(Goldilocks3::Element)` of the memcpy
  must not wrap) and fuel ≥ max(invFuel, size + 1)
    * it ends the process (`none`) exactly when some src[i] is the zero element (any representation),
    * otherwise res[i] · src[i] = 1 for every i < size, and nothing beyond row size-1 of `res` is written.
  Rows are 3-word slices: row i of a region t is `Region.shift t (3 * i)`.
-/
import GoldilocksVerif.Gen.ExtInvGen
import GoldilocksVerif.Lemmas.BridgeExt

namespace GoldilocksVerif
open Gen.Scalar Gen.Ext Gen.InvGen Gen.ExtInvGen Model

theorem mul_frame (r a b : Region) (k : Nat) (hk : 3 ≤ k) : (G3_mul__a3a3a3 r a b) k = r k := by
  unfold G3_mul__a3a3a3
  exact (set3 r _ _ _).2.2.2 k hk

theorem copy_frame (d s : Region) (k : Nat) (hk : 3 ≤ k) : (G3_copy__a3A3 d s) k = d k := by
  unfold G3_copy__a3A3
  exact (set3 d _ _ _).2.2.2 k hk

theorem den3_congr (a b : Region) (h0 : a 0 = b 0) (h1 : a 1 = b 1) (h2 : a 2 = b 2) : den3 a = den3 b := by
  unfold den3; rw [h0, h1, h2]

theorem den3_shift_congr (a b : Region) (k : Nat) (h : ∀ m, m < 3 → a (k + m) = b (k + m)) :
    den3 (Region.shift a k) = den3 (Region.shift b k) :=
  den3_congr _ _ (h 0 (by decide)) (h 1 (by decide)) (h 2 (by decide))

theorem den3_row_same (t r : Region) (k : Nat) : den3 (Region.shift (Region.unshift t k r) k) = den3 r := by
  apply den3_congr <;>
    simp only [Region.shift_apply, Region.unshift_apply, Nat.le_add_right, if_true, Nat.add_sub_cancel_left]

theorem row_frame (t r : Region) (i : Nat) (hr : ∀ k, 3 ≤ k → r k = (Region.shift t (3 * i)) k) (m : Nat)
    (hm : m < 3 * i ∨ 3 * i + 3 ≤ m) : (Region.unshift t (3 * i) r) m = t m := by
  rw [Region.unshift_apply]
  by_cases h : 3 * i ≤ m
  · rw [if_pos h, hr _ (by omega), Region.shift_apply]; congr 1; omega
  · rw [if_neg h]

theorem den3_row_other (t r : Region) (i j : Nat) (hr : ∀ k, 3 ≤ k → r k = (Region.shift t (3 * i)) k) (hne : j ≠ i) :
    den3 (Region.shift (Region.unshift t (3 * i) r) (3 * j)) = den3 (Region.shift t (3 * j)) :=
  den3_shift_congr _ _ _ fun m hm => row_frame t r i hr _ (by omega)

def srcAt (src : Region) (i : Nat) : K3 := den3 (Region.shift src (3 * i))

def prefixK (src : Region) : Nat → K3
  | 0 => srcAt src 0
  | i + 1 => K3.mul (prefixK src i) (srcAt src (i + 1))

theorem prefixK_eq_zero (src : Region) : ∀ k, prefixK src k = K3.zero ↔ ∃ i, i ≤ k ∧ srcAt src i = K3.zero := by
  intro k
  induction k with
  | zero =>
    constructor
    · intro h; exact ⟨0, Nat.le_refl _, h⟩
    · rintro ⟨i, hi, h⟩
      have : i = 0 := by omega
      subst this; exact h
  | succ k ih =>
    show K3.mul (prefixK src k) (srcAt src (k + 1)) = K3.zero ↔ _
    rw [K3.mul_eq_zero, ih]
    constructor
    · rintro (⟨i, hi, h⟩ | h)
      · exact ⟨i, by omega, h⟩
      · exact ⟨k + 1, Nat.le_refl _, h⟩
    · rintro ⟨i, hi, h⟩
      by_cases hk : i ≤ k
      · exact Or.inl ⟨i, hk, h⟩
      · have : i = k + 1 := by omega
        subst this; exact Or.inr h

theorem toNat_sub_one (i : BitVec 64) (h : 0 < i.toNat) : (i - 1#64).toNat = i.toNat - 1 := by
  rw [BitVec.toNat_sub]
  show (2 ^ 64 - 1 + i.toNat) % 2 ^ 64 = _
  have := i.isLt
  omega

/-- first loop: tmp[i] = tmp[i-1] · src[i] -/
theorem batch_loop1 (src : Region) (n : Nat) (hn : 1 ≤ n) (tmp0 : Region)
    (h0 : den3 (Region.shift tmp0 (3 * 0)) = prefixK src 0) :
    ∃ tmp, Loop.rangeM 1 n 1 tmp0 (G3_batchInverse_loop1 src) = some tmp ∧
      ∀ j, j < n → den3 (Region.shift tmp (3 * j)) = prefixK src j := by
  obtain ⟨tmp, hr, hinv⟩ := Loop.rangeM_inv (G3_batchInverse_loop1 src)
    (fun i t => ∀ j, j < i → den3 (Region.shift t (3 * j)) = prefixK src j) 1 n hn
    (by
      intro i t hi1 _ hinv
      refine ⟨_, rfl, ?_⟩
      intro j hj
      have hfr : ∀ k, 3 ≤ k → (G3_mul__a3a3a3 (Region.shift t (3 * i)) (Region.shift t (3 * i - 3))
          (Region.shift src (3 * i))) k = (Region.shift t (3 * i)) k := fun k hk => mul_frame _ _ _ k hk
      by_cases hji : j = i
      · subst hji
        rw [den3_row_same, mul_den]
        obtain ⟨i', rfl⟩ : ∃ i', j = i' + 1 := ⟨j - 1, by omega⟩
        have e : 3 * (i' + 1) - 3 = 3 * i' := by omega
        rw [e, hinv i' (by omega)]
        rfl
      · rw [den3_row_other _ _ _ _ hfr hji]
        exact hinv j (by omega))
    tmp0 (by
      intro j hj
      have : j = 0 := by omega
      subst this; exact h0)
  exact ⟨tmp, hr, hinv⟩

/-- Invariant of the descending loop on its state `(aux, z, i)`: `z · (src[0]·…·src[i]) = 1`, and `aux[j] · src[j] = 1` for the
    rows `j > i` already written. -/
def SweepInv (src : Region) (n : Nat) (st : Region × Region × BitVec 64) : Prop :=
  st.2.2.toNat < n ∧
  K3.mul (den3 st.2.1) (prefixK src st.2.2.toNat) = K3.one ∧
  ∀ j, st.2.2.toNat < j → j < n → K3.mul (den3 (Region.shift st.1 (3 * j))) (srcAt src j) = K3.one

theorem batch_loop2 (src tmp : Region) (n : Nat) (htmp : ∀ j, j < n → den3 (Region.shift tmp (3 * j)) = prefixK src j)
    (fuel : Nat) (st : Region × Region × BitVec 64) (hinv : SweepInv src n st) (hf : st.2.2.toNat < fuel) :
    ∃ st', Loop.whileM (G3_batchInverse_loop2 src tmp) fuel st = some st' ∧ st'.2.2 = 0#64 ∧ SweepInv src n st' := by
  refine Loop.whileM_inv (G3_batchInverse_loop2 src tmp) (SweepInv src n)
    (fun s => s.2.2 = 0#64 ∧ SweepInv src n s) (fun s => s.2.2.toNat) ?_ fuel st hinv hf
  rintro ⟨aux, z, i⟩ ⟨hlt, hz, haux⟩
  simp only at hlt hz haux
  by_cases h0 : i = 0#64
  · left
    subst h0
    exact ⟨(aux, z, 0#64), rfl, rfl, hlt, hz, haux⟩
  · right
    have hpos : 0 < i.toNat := toNat_pos_of_ne_zero h0
    have hgt : (decide (i > 0#64)) = true := by
      rw [decide_eq_true_iff, gt_iff_lt, BitVec.lt_def]; exact hpos
    obtain ⟨k, hk⟩ : ∃ k, i.toNat = k + 1 := ⟨i.toNat - 1, by omega⟩
    have hi1 : (i - 1#64).toNat = k := by rw [toNat_sub_one i hpos, hk, Nat.add_sub_cancel]
    rw [hk] at hz
    refine ⟨(Region.unshift aux (3 * i.toNat) (G3_mul__a3a3a3 (Region.shift aux (3 * i.toNat)) z
              (Region.shift tmp (3 * (i - 1#64).toNat))),
             G3_mul__a3a3a3_al_result_a z (Region.shift src (3 * i.toNat)), i - 1#64), ?_, ?_, ?_⟩
    · unfold G3_batchInverse_loop2
      simp only [hgt, if_true]
    · refine ⟨by simp only; omega, ?_, ?_⟩
      · -- z' · T_{k} = z · src[k+1] · T_k = z · T_{k+1} = 1
        simp only
        rw [show den3 (G3_mul__a3a3a3_al_result_a z (Region.shift src (3 * i.toNat))) = _ from mul_den z z _, hi1, hk]
        show K3.mul (K3.mul (den3 z) (srcAt src (k + 1))) (prefixK src k) = K3.one
        rw [K3.mul_assoc, K3.mul_comm (srcAt src (k + 1))]
        exact hz
      · intro j hj1 hj2
        simp only at hj1 ⊢
        have hfr : ∀ m, 3 ≤ m → (G3_mul__a3a3a3 (Region.shift aux (3 * i.toNat)) z
            (Region.shift tmp (3 * (i - 1#64).toNat))) m = (Region.shift aux (3 * i.toNat)) m :=
          fun m hm => mul_frame _ _ _ m hm
        by_cases hji : j = i.toNat
        · -- aux[i] = z · tmp[i-1];  aux[i] · src[i] = z · T_{i-1} · src[i] = z · T_i = 1
          subst hji
          rw [den3_row_same, mul_den, hi1, htmp _ (by omega), hk, K3.mul_assoc]
          exact hz
        · rw [den3_row_other _ _ _ _ hfr hji]
          exact haux j (by omega) hj2
    · simp only; omega

theorem G3_batchInverse_gen_spec (fuel : Nat) (res src : Region) (size : BitVec 64)
    (h1 : 1 ≤ size.toNat) (hsz : size.toNat < 2 ^ 59) (hf : invFuel ≤ fuel) (hf2 : size.toNat < fuel) :
    (G3_batchInverse fuel res src size = none ↔ ∃ i, i < size.toNat ∧ srcAt src i = K3.zero) ∧
    (∀ r, G3_batchInverse fuel res src size = some r →
      (∀ i, i < size.toNat → K3.mul (den3 (Region.shift r (3 * i))) (srcAt src i) = K3.one) ∧
      ∀ k, 3 * size.toNat ≤ k → r k = res k) := by
  have hs1 : (size - 1#64).toNat = size.toNat - 1 := toNat_sub_one size h1
  have hcnt : (size * 24#64).toNat / 8 = 3 * size.toNat := by
    rw [BitVec.toNat_mul]
    show size.toNat * 24 % 2 ^ 64 / 8 = _
    rw [Nat.mod_eq_of_lt (by omega)]
    omega
  obtain ⟨tmp, hl1, htmp⟩ := batch_loop1 src size.toNat h1 (G3_copy__a3A3 Region.zero src)
    (by
      show den3 (Region.shift (G3_copy__a3A3 Region.zero src) (3 * 0)) = srcAt src 0
      unfold srcAt
      simp only [Nat.mul_zero, Region.shift_zero]
      exact (copy_den _ _).1)
  have hlast : den3 (Region.shift tmp (3 * (size - 1#64).toNat)) = prefixK src (size.toNat - 1) := by
    rw [hs1]; exact htmp _ (by omega)
  obtain ⟨hnone, hsome⟩ := G3_inv_gen_spec fuel hf Region.zero (Region.shift tmp (3 * (size - 1#64).toNat))
  unfold G3_batchInverse
  dsimp only
  rw [hcnt, hl1, Option.bind_some]
  cases hz : G3_inv___a3a3 fuel Region.zero (Region.shift tmp (3 * (size - 1#64).toNat)) with
  | none =>
    rw [Option.bind_none]
    refine ⟨⟨fun _ => ?_, fun _ => rfl⟩, fun r h => by cases h⟩
    have := hnone.mp hz
    rw [hlast, prefixK_eq_zero] at this
    obtain ⟨i, hi, h⟩ := this
    exact ⟨i, by omega, h⟩
  | some z =>
    have hzinv := (hsome z hz).1
    rw [hlast] at hzinv
    have hnz : ¬ ∃ i, i < size.toNat ∧ srcAt src i = K3.zero := by
      rintro ⟨i, hi, h⟩
      have hp : prefixK src (size.toNat - 1) = K3.zero := (prefixK_eq_zero src _).mpr ⟨i, by omega, h⟩
      rw [hp, K3.mul_zero] at hzinv
      exact K3.one_ne_zero hzinv.symm
    obtain ⟨st', hw, hi0, hlt', hz', haux'⟩ := batch_loop2 src tmp size.toNat htmp fuel (Region.zero, z, size - 1#64)
      ⟨by simp only; omega, by simp only; rw [hs1]; exact hzinv, by
        intro j hj1 hj2; simp only at hj1; omega⟩ (by simp only; omega)
    rw [Option.bind_some, hw, Option.bind_some]
    refine ⟨⟨fun h => (by cases h), fun h => absurd h hnz⟩, ?_⟩
    intro r hr
    simp only [Option.some.injEq] at hr
    subst hr
    have hi0' : st'.2.2.toNat = 0 := by rw [hi0]; rfl
    constructor
    · intro i hi
      have hrow : den3 (Region.shift (Region.copyN res (G3_copy__a3A3 st'.1 st'.2.1) (3 * size.toNat)) (3 * i)) =
          den3 (Region.shift (G3_copy__a3A3 st'.1 st'.2.1) (3 * i)) :=
        den3_shift_congr _ _ _ fun m hm => by rw [Region.copyN_apply, if_pos (by omega)]
      rw [hrow]
      by_cases hi0'' : i = 0
      · subst hi0''
        simp only [Nat.mul_zero, Region.shift_zero]
        rw [(copy_den _ _).1]
        rw [hi0'] at hz'
        exact hz'
      · have hother : den3 (Region.shift (G3_copy__a3A3 st'.1 st'.2.1) (3 * i)) = den3 (Region.shift st'.1 (3 * i)) :=
          den3_shift_congr _ _ _ fun m hm => copy_frame _ _ _ (by omega)
        rw [hother]
        exact haux' i (by omega) hi
    · intro k hk
      rw [Region.copyN_apply, if_neg (by omega)]

end GoldilocksVerif
