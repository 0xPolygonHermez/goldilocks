/-
  Bridge theorem: the whole TRANSLATED `NTT_Goldilocks::NTT_iters` (Gen/NttGen.lean) — destination
  selection, `log2`, the power-of-two assert, the clamp of `nphase`, the parity choice of the first buffer,
  `reversePermutation`, the pass loop with its pointer swaps, the final "should never need this copy" test — against the
  hand model's `nttIters` (Model/Ntt.lean), for sizes 2 ≤ 2^K ≤ 2^30.
-/
import GoldilocksVerif.Lemmas.BridgeNttItersG
import GoldilocksVerif.Lemmas.BridgeNttComm
import GoldilocksVerif.Lemmas.NttSizes

namespace GoldilocksVerif.BridgeNtt
open GoldilocksVerif Gen.NttGen

theorem clamp_gen (nphase : BitVec 64) (K : Nat) (hK : K < 2 ^ 63) :
    (if (decide (nphase < 1#64) || bv K == 0#64) = true then 1#64
      else if decide (nphase > bv K) = true then bv K else nphase) = bv (Model.Ntt.clampPhase nphase.toNat K) := by
  have h0 : (bv K == 0#64) = decide (K = 0) := by
    show (bv K == bv 0) = _
    rw [beq_bv _ _ (by omega) (by omega)]
  have h1 : decide (nphase < 1#64) = decide (nphase.toNat < 1) := by
    rw [decide_eq_decide, BitVec.lt_def]; rfl
  have h2 : decide (nphase > bv K) = decide (nphase.toNat > K) := by
    rw [decide_eq_decide]; show bv K < nphase ↔ _; rw [BitVec.lt_def, bv_toNat _ (by omega)]
  rw [h0, h1, h2]
  unfold Model.Ntt.clampPhase
  by_cases c1 : nphase.toNat < 1 ∨ K = 0
  · rw [if_pos c1]
    have : (decide (nphase.toNat < 1) || decide (K = 0)) = true := by
      rcases c1 with c | c <;> simp [c]
    rw [if_pos this]
  · rw [if_neg c1]
    have : (decide (nphase.toNat < 1) || decide (K = 0)) = false := by
      rw [Bool.or_eq_false_iff]; constructor <;> simp <;> omega
    rw [this]
    simp only [Bool.false_eq_true, if_false]
    by_cases c2 : nphase.toNat > K
    · simp only [c2, decide_true, if_true]
    · simp only [c2, decide_false, if_false, Bool.false_eq_true]
      exact bv_self nphase

/-- the head of `NTT_iters` on numbers (2 ≤ size = 2^K ≤ 2^30): `log2`, the power-of-two assert, the clamp of `nphase` to
    `np`, the first batch width, its remainder, the parity of `np`, `size > 1` -/
theorem iters_head (fuel : Nat) (hf : 64 ≤ fuel) (N K : Nat) (nphase : BitVec 64) (hK1 : 1 ≤ K) (hK : K ≤ 30) (hN : N = 2 ^ K) :
    ∃ np, Model.Ntt.clampPhase nphase.toNat K = np ∧ 1 ≤ np ∧ np ≤ K ∧
      NTT_log2 fuel (bv N) = some (BitVec.ofNat 32 K) ∧ ((1#64 : BitVec 64) <<< (bv K).toNat == bv N) = true ∧
      bv K / bv np = bv (K / np) ∧ bv K % bv np = bv (K % np) ∧
      decide (bv (K % np) > 0#64) = decide (K % np > 0) ∧ (bv np % 2#64 == 1#64) = decide (np % 2 = 1) ∧
      decide (bv N > 1#64) = true ∧
      1 ≤ K / np + (if K % np > 0 then 1 else 0) ∧ K / np + (if K % np > 0 then 1 else 0) ≤ 64 := by
  have hN30 : N ≤ 2 ^ 30 := pow2_le hN hK
  have hN2 : 2 ≤ N := by
    rw [hN]; calc 2 = 2 ^ 1 := rfl
      _ ≤ 2 ^ K := Nat.pow_le_pow_right (by omega) hK1
  have hlog := log2_gen_eq fuel (by unfold log2Fuel; omega) (bv N) (bv_ne_zero N (by omega) (by omega))
  rw [bv_toNat N (by omega), show Model.Ntt.log2 N = K by rw [hN]; exact Nat.log2_two_pow] at hlog
  have hnpr := Model.Ntt.clampPhase_range nphase.toNat K
  generalize Model.Ntt.clampPhase nphase.toNat K = np at hnpr
  have hnp1 := hnpr.1
  have hnpK := hnpr.2.1 hK1
  have hmodlt : K % np < np := Nat.mod_lt _ (by omega)
  have : 1 ≤ K / np := Nat.div_pos hnpK (by omega)
  have hdivle : K / np ≤ K := Nat.div_le_self _ _
  refine ⟨np, rfl, hnp1, hnpK, hlog, by rw [bv_toNat K (by omega), one_shl K (by omega), hN]; simp,
    bv_div _ _ (by omega) (by omega), bv_mod _ _ (by omega) (by omega), decide_lt_bv 0 _ (by omega) (by omega), ?_, ?_, ?_⟩
  · rw [bv_two, bv_mod _ _ (by omega) (by omega), bv_one, beq_bv _ _ (by omega) (by omega)]
  · rw [decide_eq_true_eq]; show bv 1 < bv N; rw [lt_bv _ _ (by omega) (by omega)]; omega
  · by_cases h : K % np > 0
    · rw [if_pos h]; omega
    · rw [if_neg h]; omega

theorem ptr_ne' (d s : Nat) : ((⟨d, 0⟩ : Ptr) != ⟨s, 0⟩) = !decide (d = s) := ptr_ne d s

/-- **NTT_iters** (2 ≤ size = 2^K ≤ 2^30): the generated function returns iff the hand model's `nttIters` does; then the
    destination block holds the model's result (the block of `aux` holds the other ping-pong buffer) and no other block
    changes -/
theorem nttIters_gen (fuel : Nat) (hf : 64 ≤ fuel) (hp : Heap) (self : NTT_Goldilocks) (o : Model.Ntt.Obj)
    (hrep : ObjRep hp self o) (D Sx Ax : Nat) (hD : D < hp.size) (hAx : Ax < hp.size) (hDA : D ≠ Ax) (hSA : Sx ≠ Ax)
    (hfrD : ObjFrame self D) (hfrA : ObjFrame self Ax)
    (dst : Ptr) (hdst : (if (dst != Ptr.null) = true then dst else (⟨Sx, 0⟩ : Ptr)) = ⟨D, 0⟩)
    (K N oc NC NCA : Nat) (nphase : BitVec 64) (inverse extend : Bool)
    (hK1 : 1 ≤ K) (hK : K ≤ 30) (hN : N = 2 ^ K) (hKs : K ≤ o.s) (hos : o.s ≤ 32)
    (hb1 : N * NCA + oc < 2 ^ 64) (hNNC : N * NC < 2 ^ 64) (hNC8 : NC * 8 < 2 ^ 64) (hext31 : o.extension < 2 ^ 31)
    (hcache : extend = true → o.rcache ≠ none) :
    match Model.Ntt.nttIters o (hp.block D) (hp.block Sx) (hp.block Ax) (decide (D = Sx)) N oc NC NCA nphase.toNat
        inverse extend with
    | .ok (d, _) => ∃ X', NTT_NTT_iters fuel hp self dst ⟨Sx, 0⟩ (bv N) (bv oc) (bv NC) (bv NCA) nphase ⟨Ax, 0⟩ inverse extend =
        some ((hp.setBlock D d).setBlock Ax X') ∧ X'.size = (hp.block Ax).size
    | .error _ => NTT_NTT_iters fuel hp self dst ⟨Sx, 0⟩ (bv N) (bv oc) (bv NC) (bv NCA) nphase ⟨Ax, 0⟩ inverse extend = none := by
  have hN30 : N ≤ 2 ^ 30 := pow2_le hN hK
  have hN2 : 2 ≤ N := by
    rw [hN]; calc 2 = 2 ^ 1 := rfl
      _ ≤ 2 ^ K := Nat.pow_le_pow_right (by omega) hK1
  have hNt : (bv N).toNat = N := bv_toNat N (by omega)
  have hlogK : Model.Ntt.log2 N = K := by rw [hN]; exact Nat.log2_two_pow
  obtain ⟨np, hnp, hnp1, hnpK, hlog, hpow, hdiv, hmod, hres0, hodd, hsize1, hmb1⟩ := iters_head fuel hf N K nphase hK1 hK hN
  have hnpr : 1 ≤ np ∧ np ≤ K := ⟨hnp1, hnpK⟩
  have hmodlt : K % np < np := Nat.mod_lt _ (by omega)
  have hmbp0 := bv_succ_if (K / np) (K % np > 0)
  have hsched : Model.Ntt.schedule K np =
      Model.Ntt.schedule.go K (K % np) (K + 1) 1 1 (K / np + (if K % np > 0 then 1 else 0)) [] := rfl
  unfold NTT_NTT_iters Model.Ntt.nttIters
  dsimp only
  rw [hdst, hlog]
  simp only [Option.bind_some, setWidth_ofNat32 K (by omega), hpow, if_true, clamp_gen nphase K (by omega), hlogK, hnp, hdiv,
    hmod, hres0, hmbp0, hodd]
  have hpk : 2 ^ K = N := hN.symm
  -- the step function of the pass loop, whatever its parameter list: one step of the model's schedule + `pass`
  name_while step with hstepdef
  have hstep : ∀ (A A2 : Nat), A ≠ A2 → A < hp.size → A2 < hp.size → ObjFrame self A → ObjFrame self A2 →
      ∀ (mbp s count : Nat), 1 ≤ s → s ≤ K → 1 ≤ mbp → mbp ≤ 64 → count ≤ 128 → ∀ (tmp : Ptr) (st : Block × Block),
      step (bv mbp, Heap.R2 hp A A2 st, tmp, ⟨A2, 0⟩, ⟨A, 0⟩, bv s, bv count) =
        some (true, (bv (stepMbp (K % np) count mbp),
          Heap.R2 hp A A2 (Model.Ntt.iter (N / 2 ^ stepInc K s (stepMbp (K % np) count mbp)) st
            (Model.Ntt.passBatch o N K NC s (stepInc K s (stepMbp (K % np) count mbp))
              (!(decide (s + stepMbp (K % np) count mbp ≤ K) || !inverse)) extend)),
          ⟨A2, 0⟩, ⟨A, 0⟩, ⟨A2, 0⟩, bv (s + stepMbp (K % np) count mbp), bv (count + 1))) := by
    intro A A2 hne hA hA2 hfr hfr2 mbp s count hs1 hsK hm1 hm hcount tmp st
    subst hstepdef
    clear hN2 hNt hlogK hlog hpow hnp hdiv hmod hres0 hmbp0 hodd hsize1 hsched hmb1 hdst hpk hD hAx hDA hSA hfrD
      hfrA hb1 hext31
    obtain ⟨e1, e2, e3, e4, e5, e6, e7, e8, e9, hle, hmb, hsS, hsiK⟩ :=
      sched_arith N K (K % np) mbp s count hK hN hs1 hsK hm1 hm (by omega) hcount
    generalize stepMbp (K % np) count mbp = mbp' at *
    generalize stepInc K s mbp' = sInc at *
    unfold_loops
    dsimp only
    rw [if_pos hle, e1, e2, e3, e4, e5, e6, e7, e8, e9]
    rw [Loop.rangeM_rep (R := Heap.R2 hp A A2)
      (f := Model.Ntt.passBatch o N K NC s sInc (!(decide (s + mbp' ≤ K) || !inverse)) extend) (s := st) _ 0 (N / 2 ^ sInc)]
    · simp only [Option.bind_some, bv_add, bv_one]
      rfl
    · -- the body of the batch loop = the hand model's `passBatch`
      intro b st' _ hb
      clear e1 e2 e3 e4 e5 e6 e7 e9 hle hm1 hm hcount hnpr hmodlt
      obtain ⟨hN30, hBN, hbB, hB64⟩ := batch_arith N K sInc b hK hN hsiK hb
      have hX := ObjRep.R2 hrep hfr hfr2 st'
      have hKS : K - 1 - (s - 1) = K - s := by omega
      have hA' : A < (Heap.R2 hp A A2 st').size := by simpa using hA
      unfold_loops
      dsimp only
      rw [bv_toNat sInc (by omega), bv_toNat _ hB64]
      rw [block_loop_g (Heap.R2 hp A A2 st') self o A hA' hX hfr sInc
        (fun si a => Model.Ntt.stage o a s si b (2 ^ sInc) NC (s - 1) (K - 1) (2 ^ (s - 1)) (2 ^ (K - s) - 1))]
      · simp only [Option.bind_some, bind_some_id]
        rw [Heap.R2_block_fst _ _ _ _ hne hA, Heap.R2_setBlock_fst _ _ _ _ _ hne]
        rw [show Model.Ntt.iter sInc st'.1 (fun si a => Model.Ntt.stage o a s si b (2 ^ sInc) NC (s - 1) (K - 1) (2 ^ (s - 1))
            (2 ^ (K - s) - 1)) = Model.Ntt.batchStages o st'.1 s sInc b (2 ^ sInc) NC (s - 1) (K - 1) (2 ^ (s - 1)) (2 ^ (K - s) - 1)
          from rfl]
        have hc : decide (bv s + bv mbp' ≤ bv K) = decide (s + mbp' ≤ K) := by
          rw [bv_add, decide_eq_decide, le_bv _ _ (by omega) (by omega)]
        rw [hc]
        clear hc hX hA' hmb hsS hs1 hsK hK
        unfold Model.Ntt.passBatch
        by_cases hcond : (decide (s + mbp' ≤ K) || !inverse) = true
        · rw [if_pos hcond]
          simp only [hcond, Bool.not_true, Bool.false_eq_true, if_false, hKS]
          generalize Model.Ntt.batchStages o st'.1 s sInc b (2 ^ sInc) NC (s - 1) (K - 1) (2 ^ (s - 1)) (2 ^ (K - s) - 1) = Y
          rw [snd_loop_g hp A A2 (2 ^ sInc) (fun x a2 => Model.Ntt.copyRow a2 ((x * (N / 2 ^ sInc) + b) * NC) Y
            ((b * 2 ^ sInc + x) * NC) NC)]
          · rfl
          · intro x P2 hx
            obtain ⟨h1, h2, h3, h4, _, _⟩ := copy_arith N NC (2 ^ sInc) (N / 2 ^ sInc) b x hBN hx hb
            unfold_loops
            dsimp only
            simp only [Heap.copy_eq, Ptr.add_blk, Ptr.add_off, Nat.zero_add, bv_add, bv_mul, e8]
            simp (disch := bv_side) only [bv_toNat, Nat.mul_div_cancel, Nat.mul_div_cancel_left]
            rw [Heap.R2_block_snd _ _ _ _ hA2, Heap.R2_block_fst _ _ _ _ hne hA, Heap.R2_setBlock_snd, copyRow_eq]
            close_shape
        · rw [if_neg hcond]
          have hcf : (decide (s + mbp' ≤ K) || !inverse) = false := by simpa using hcond
          simp only [hcf, Bool.not_false, if_true, hKS]
          generalize Model.Ntt.batchStages o st'.1 s sInc b (2 ^ sInc) NC (s - 1) (K - 1) (2 ^ (s - 1)) (2 ^ (K - s) - 1) = Y
          -- the reflecting, scaling copy: the factor of a row is read from the object's tables, which are neither buffer
          have hfac : ∀ j, (if extend = true then (hp.block self.r_.blk).getD (self.r_.off + j) 0#64
              else (hp.block self.powTwoInv.blk).getD (self.powTwoInv.off + K) 0#64) = Model.Ntt.scaleFactor o extend K j := by
            intro j
            cases extend with
            | false =>
              simp only [Bool.false_eq_true, if_false, Model.Ntt.scaleFactor]
              rw [hrep.pti, hrep.pti_off, Nat.zero_add]
            | true =>
              have hc := hrep.cache
              cases hrc : o.rcache with
              | none => exact absurd hrc (hcache rfl)
              | some v =>
                obtain ⟨n, r, r_⟩ := v
                rw [hrc] at hc
                obtain ⟨_, _, _, _, c5, c6⟩ := hc
                simp only [if_true, Model.Ntt.scaleFactor, hrc]
                rw [c5, c6, Nat.zero_add]
          have hrA : self.r_.blk ≠ A := fun e => hfr.2.2.2 e.symm
          have hrA2 : self.r_.blk ≠ A2 := fun e => hfr2.2.2.2 e.symm
          have hpA : self.powTwoInv.blk ≠ A := fun e => hfr.2.1 e.symm
          have hpA2 : self.powTwoInv.blk ≠ A2 := fun e => hfr2.2.1 e.symm
          clear hrep hfr hfr2 hcache
          cases extend with
          | true =>
            simp only [if_true] at hfac ⊢
            rw [snd_loop_g hp A A2 (2 ^ sInc) (fun x a2 =>
              Model.Ntt.scaleRow a2 Y (Model.Ntt.inttIdx (x * (N / 2 ^ sInc) + b) N * NC) ((b * 2 ^ sInc + x) * NC) NC
                (Model.Ntt.scaleFactor o true K (Model.Ntt.inttIdx (x * (N / 2 ^ sInc) + b) N)))]
            · rfl
            · intro x P2 hx
              obtain ⟨h1, h2, _, h4, hd, h3⟩ := copy_arith N NC (2 ^ sInc) (N / 2 ^ sInc) b x hBN hx hb
              unfold_loops
              dsimp only
              simp only [bv_add, bv_mul, e8]
              simp (disch := bv_side) only [ofU64_bv, intt_idx_gen, toU64_nat, bv_toNat, bv_mul, bind_some_id]
              refine scaleRow_g hp A A2 _ _ _ NC (_, P2) _ ?_
              intro k P2' hk
              unfold_loops
              try simp (disch := assumption) only [Heap.get_R2_other]
              simp only [Heap.set_eq, Heap.get_def, Nat.zero_add, bv_add]
              simp (disch := bv_side) only [bv_toNat]
              rw [Heap.R2_block_snd _ _ _ _ hA2, Heap.R2_block_fst _ _ _ _ hne hA, Heap.R2_setBlock_snd, hfac]
              close_shape
          | false =>
            simp only [Bool.false_eq_true, if_false] at hfac ⊢
            try simp (disch := assumption) only [Heap.get_R2_other]
            rw [snd_loop_g hp A A2 (2 ^ sInc) (fun x a2 =>
              Model.Ntt.scaleRow a2 Y (Model.Ntt.inttIdx (x * (N / 2 ^ sInc) + b) N * NC) ((b * 2 ^ sInc + x) * NC) NC
                (Model.Ntt.scaleFactor o false K (Model.Ntt.inttIdx (x * (N / 2 ^ sInc) + b) N)))]
            · rfl
            · intro x P2 hx
              obtain ⟨h1, h2, _, h4, hd, h3⟩ := copy_arith N NC (2 ^ sInc) (N / 2 ^ sInc) b x hBN hx hb
              unfold_loops
              dsimp only
              simp only [bv_add, bv_mul, e8]
              simp (disch := bv_side) only [ofU64_bv, intt_idx_gen, toU64_nat, bv_toNat, bv_mul, bind_some_id]
              refine scaleRow_g hp A A2 _ _ _ NC (_, P2) _ ?_
              intro k P2' hk
              unfold_loops
              try simp (disch := assumption) only [Heap.get_R2_other]
              simp only [Heap.set_eq, Heap.get_def, Nat.zero_add, bv_add]
              simp (disch := bv_side) only [bv_toNat]
              rw [Heap.R2_block_snd _ _ _ _ hA2, Heap.R2_block_fst _ _ _ _ hne hA, Heap.R2_setBlock_snd, hfac 0]
              close_shape
      · -- one stage of one batch = the hand model's `stage`
        intro si Y hsi hAY hrepY
        clear hX hA' hrep hcache hfr2 hA2 hne hmb hBN hb e8 hB64 hA
        have hp1 : 2 ^ (s + si) < 2 ^ 64 := Nat.pow_lt_pow_right (by omega) (by omega)
        have hp2 : 2 ^ si < 2 ^ 64 := Nat.pow_lt_pow_right (by omega) (by omega)
        have hp3 : 2 ^ si * 2 ≤ 2 ^ sInc := by
          rw [← Nat.pow_succ]; exact Nat.pow_le_pow_right (by omega) (by omega)
        unfold_loops
        dsimp only
        simp (disch := bv_side) only [bv_add, bv_mul, bv_shr, bv_toNat, shl_one, Nat.pow_one, bind_some_id]
        rw [block_loop_g Y self o A hAY hrepY hfr (2 ^ sInc / 2)
          (Model.Ntt.stageStep o s si b (2 ^ sInc) NC (s - 1) (K - 1) (2 ^ (s - 1)))]
        · rfl
        · -- one butterfly of one stage = the hand model's `stageStep`
          intro i Z hi hAZ hrepZ
          obtain ⟨hi64, hbB64, hj64, hj1, hM, hhalf, _, hrow2⟩ :=
            bfly_arith N NC s si b (2 ^ sInc) (s - 1) (K - 1) (2 ^ (s - 1)) i hN30 hs1 (by omega)
              (Nat.pow_le_pow_right (by omega) (by omega)) (butterfly_rows N sInc si b i hsi hi hbB)
          rw [hKS] at hj1
          clear hAY hrepY hfr hi hsiK
          unfold_loops
          dsimp only
          simp (disch := bv_side) only [bv_add, bv_mul, bv_div, bv_mod, bv_mask, bv_shr, bv_sub, bv_toNat, hKS, bind_some_id]
          rw [root_bv Z self o hrepZ _ _ (by omega) hos
            (Nat.lt_of_lt_of_le (Nat.mod_lt _ hhalf) (Nat.div_le_self _ _))]
          unfold Model.Ntt.stageStep Model.Ntt.twIdx
          dsimp only
          refine bfly_loop_g A _ _ NC _ Z hAZ _ ?_
          -- one column of one butterfly = the hand model's `bflyStep`
          intro k Y' hk hY'
          clear hrepZ hAZ hj1 hM hhalf hj64
          unfold_loops
          unfold Model.Ntt.bflyStep
          simp only [Heap.set_eq, Heap.get_def, Nat.zero_add, bv_add]
          simp (disch := bv_side) only [bv_toNat]
          rw [Heap.block_setBlock_same _ _ _ hY', Heap.setBlock_setBlock]
          close_shape
  have hstop : ∀ (mbp s count : Nat), K < s → s < 2 ^ 64 → ∀ (X : Heap) (tmp a2 a : Ptr),
      step (bv mbp, X, tmp, a2, a, bv s, bv count) = some (false, (bv mbp, X, tmp, a2, a, bv s, bv count)) := by
    intro mbp s count hsK hs X tmp a2 a
    subst hstepdef
    have hle : decide (bv s ≤ bv K) = false := by
      rw [decide_eq_false_iff_not, le_bv _ _ hs (by omega)]; omega
    unfold_loops
    dsimp only
    rw [hle]
    rfl
  clear hstepdef
  -- the side conditions of the pass loop: `K + 1` iterations at most, of the `fuel ≥ 64`
  have hgf : K + 1 - 1 ≤ K + 1 := Nat.sub_le _ _
  have hgfF : K + 1 < fuel := by omega
  have hs65 : 1 ≤ K + 65 := by omega
  have hcnt : 1 + (K + 1) ≤ 128 := by omega
  have ha0 := sel_same hp.block D Sx
  have hone : (1#64 : BitVec 64) = bv 1 := rfl
  have hocT : (bv oc).toNat = oc := bv_toNat _ (by omega)
  have hNCAT : (bv NCA).toNat = NCA := by
    apply bv_toNat
    have : 2 * NCA ≤ N * NCA := Nat.mul_le_mul_right _ hN2
    omega
  have hNCT : (bv NC).toNat = NC := bv_toNat _ (by omega)
  -- the hypotheses of `reversePermutation_gen`, for either first buffer
  have hlf : log2Fuel ≤ fuel := by unfold log2Fuel; omega
  have hK32 : K ≤ 32 := by omega
  have hszN : (bv N).toNat = 2 ^ K := by rw [hNt]; exact hN
  have hb1' : (bv N).toNat * (bv NCA).toNat + (bv oc).toNat < 2 ^ 64 := by rw [hNt, hNCAT, hocT]; exact hb1
  have hb2' : (bv N).toNat * (bv NC).toNat < 2 ^ 64 := by rw [hNt, hNCT]; exact hNNC
  have hb3' : (bv NC).toNat * 8 < 2 ^ 64 := by rw [hNCT]; exact hNC8
  by_cases hpar : np % 2 = 1
  · simp only [hpar, decide_true, if_true, beq_self_eq_true, hpk, ne_eq, not_true_eq_false, if_false, ha0]
    have hrp := reversePermutation_gen fuel hlf hp self o Ax Sx (bv N) (bv oc) (bv NC) (bv NCA) K
      hK32 hszN hAx hrep.ext hext31 hb1' hb2' hb3'
    have hdec : decide (Ax = Sx) = false := by simp [Ne.symm hSA]
    rw [hNt, hNCAT, hocT, hNCT, hdec] at hrp
    rw [hrp]
    cases hr : Model.Ntt.reversePermutation o (hp.block Ax) (hp.block Sx) false N oc NC NCA with
    | error e => simp only [Option.bind_none]
    | ok t =>
      simp only [Option.bind_some]
      rw [Heap.setBlock_eq_R2 hp Ax D (Ne.symm hDA) t, hsched, hone]
      obtain ⟨A', A2', tmp', m', s', c', hw, hd⟩ := passes_g hp self o N NC K (K % np) inverse extend hK step hstep hstop
        (K + 1) Ax D (Ne.symm hDA) hAx hD hfrA hfrD
        (K / np + (if K % np > 0 then 1 else 0)) 1 1 false ⟨Ax, 0⟩ (t, hp.block D) fuel hgf hgfF (Nat.le_refl 1) hs65
        hmb1.1 hmb1.2 hcnt
      rcases hd with ⟨e, ea, eb⟩ | ⟨e, ea, eb⟩
      · rw [ea, eb] at hw
        rw [hw]
        simp only [Option.bind_some]
        have hne' : ((⟨Ax, 0⟩ : Ptr) != ⟨D, 0⟩) = true := by rw [ptr_ne]; simp [Ne.symm hDA]
        have hgt : N > 1 := by omega
        simp only [e, hne', hsize1, if_true, Bool.not_false, hgt]
      · rw [ea, eb] at hw
        rw [hw]
        simp only [Option.bind_some]
        have hne' : ((⟨D, 0⟩ : Ptr) != ⟨D, 0⟩) = false := by rw [ptr_ne]; simp
        have hsz := ((Model.Ntt.foldl_pass_size o N K NC inverse extend _ (t, hp.block D, false)).2 e).2
        have hts := Model.Ntt.reversePermutation_size o _ _ false N oc NC NCA t hr
        simp only [Bool.false_eq_true, if_false] at hts
        rw [hts] at hsz
        simp only [e, hne', Bool.not_false, Bool.not_true, Bool.false_eq_true, if_false]
        by_cases hDS : D = Sx
        · simp only [hDS, decide_true, if_true]
          simp only [hDS] at hsz
          exact ⟨_, rfl, hsz⟩
        · simp only [hDS, decide_false, Bool.false_eq_true, if_false]
          exact ⟨_, rfl, hsz⟩
  · have hparf : decide (np % 2 = 1) = false := by simp [hpar]
    simp only [hparf, Bool.false_eq_true, if_false, hpk, ne_eq, not_true_eq_false, ha0,
      show ((true == false) = true) = False from by simp]
    have hrp := reversePermutation_gen fuel hlf hp self o D Sx (bv N) (bv oc) (bv NC) (bv NCA) K
      hK32 hszN hD hrep.ext hext31 hb1' hb2' hb3'
    rw [hNt, hNCAT, hocT, hNCT] at hrp
    rw [hrp]
    cases hr : Model.Ntt.reversePermutation o (hp.block D) (hp.block Sx) (decide (D = Sx)) N oc NC NCA with
    | error e => simp only [Option.bind_none]
    | ok t =>
      simp only [Option.bind_some]
      rw [Heap.setBlock_eq_R2 hp D Ax hDA t, hsched, hone]
      obtain ⟨A', A2', tmp', m', s', c', hw, hd⟩ := passes_g hp self o N NC K (K % np) inverse extend hK step hstep hstop
        (K + 1) D Ax hDA hD hAx hfrD hfrA
        (K / np + (if K % np > 0 then 1 else 0)) 1 1 true ⟨D, 0⟩ (t, hp.block Ax) fuel hgf hgfF (Nat.le_refl 1) hs65
        hmb1.1 hmb1.2 hcnt
      rcases hd with ⟨e, ea, eb⟩ | ⟨e, ea, eb⟩
      · rw [ea, eb] at hw
        rw [hw]
        simp only [Option.bind_some]
        have hne' : ((⟨D, 0⟩ : Ptr) != ⟨D, 0⟩) = false := by rw [ptr_ne]; simp
        have hsz := ((Model.Ntt.foldl_pass_size o N K NC inverse extend _ (t, hp.block Ax, true)).1 e).2
        simp only [e, hne', Bool.not_false, Bool.not_true, Bool.false_eq_true, if_false]
        by_cases hDS : D = Sx
        · simp only [hDS, decide_true, if_true]
          simp only [hDS] at hsz
          exact ⟨_, rfl, hsz⟩
        · simp only [hDS, decide_false, Bool.false_eq_true, if_false]
          exact ⟨_, rfl, hsz⟩
      · rw [ea, eb] at hw
        rw [hw]
        simp only [Option.bind_some]
        have hne' : ((⟨Ax, 0⟩ : Ptr) != ⟨D, 0⟩) = true := by rw [ptr_ne]; simp [Ne.symm hDA]
        have hgt : N > 1 := by omega
        simp only [e, hne', hsize1, if_true, Bool.not_false, Bool.not_true, hgt]

end GoldilocksVerif.BridgeNtt
