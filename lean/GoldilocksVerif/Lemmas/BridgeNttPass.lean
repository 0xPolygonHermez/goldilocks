/-
  BY-NAME forms (used by Lemmas/ParGenNtt.lean and Props/C12.lean): the loops of the TRANSLATED `NTT_iters` below the pass loop
  — butterfly, stage, the stages of one batch, the transposing and the reflecting / scaling copy, the body of the batch loop —
  and the four loop bodies of `reversePermutation`, stated about the lifted loop bodies with their parameter lists, equal the
  hand model's `bfly`, `stageStep`, `stage`, `batchStages`, `transposeCopy`, `scaleRow`, `inverseCopy`, `passBatch`
  (Model/Ntt.lean) and the reversal bodies.  These statements depend on the parameter lists the translator gives the lifted
  bodies; the bridge theorems of C03 / C04 / C05 / C19 do not go through this file (Lemmas/BridgeNttItersG.lean,
  Lemmas/BridgeNttItersTop.lean, `reversePermutation_gen` of Lemmas/BridgeNttRevPermG.lean): they characterise the bodies where
  the loops are called, so they survive a hoisted byte count or a swapped sum.
-/
import GoldilocksVerif.Lemmas.BridgeNttItersG
import GoldilocksVerif.Lemmas.NttParRev

namespace GoldilocksVerif.BridgeNtt
open GoldilocksVerif Gen.NttGen

section bodies
variable (H : Heap) (d s : Nat) (oc nc nca : BitVec 64) (ds : BitVec 32) (k size : Nat) (o : Model.Ntt.Obj)
variable (hk : k ≤ 32) (hds : ds.toNat = k) (hsz : size = 2 ^ k)
variable (hb1 : size * nca.toNat + oc.toNat < 2 ^ 64) (hb2 : size * nc.toNat < 2 ^ 64) (hb3 : nc.toNat * 8 < 2 ^ 64)

include hsz in
theorem log2_size : Model.Ntt.log2 size = k := by rw [hsz]; exact Nat.log2_two_pow

by_name_form include hk hds hsz hb1 hb2 hb3 in
/-- destination distinct, extension ≤ 1: the model's `revOutBody` (Lemmas/NttParRev.lean) on block `d`, reading block `s` -/
theorem rp_body1 (he : o.extension ≤ 1) (i : Nat) (hi : i < size) (X : Heap) :
    NTT_reversePermutation_loop1 ⟨d, 0⟩ ⟨s, 0⟩ oc nc nca ds i X =
      some (X.setBlock d (Model.Ntt.revOutBody o size oc.toNat nc.toNat nca.toNat i (X.block s) (X.block d))) := by
  unfold NTT_reversePermutation_loop1 Model.Ntt.revOutBody
  simp only [Heap.copy_eq, Ptr.add_blk, Ptr.add_off, Nat.zero_add]
  rw [src_off oc nca ds k size hk hds hsz hb1 i hi, dst_off nc k size hk hsz hb2 i hi, words_toNat nc hb3, copyRow_eq,
    log2_size k size hsz, if_pos he]

by_name_form include hk hds hsz hb1 hb2 hb3 in
/-- destination distinct, extension > 1 (rows beyond size / extension read as zero); `ext_` is what the generated function
    passes: `(size / extension) * ncols_all` -/
theorem rp_body2 (ext_ : BitVec 64) (he : ¬ o.extension ≤ 1) (hE : ext_.toNat = size / o.extension * nca.toNat) (i : Nat)
    (hi : i < size) (X : Heap) :
    NTT_reversePermutation_loop2 ⟨d, 0⟩ ⟨s, 0⟩ oc nc nca ds ext_ i X =
      some (X.setBlock d (Model.Ntt.revOutBody o size oc.toNat nc.toNat nca.toNat i (X.block s) (X.block d))) := by
  unfold NTT_reversePermutation_loop2 Model.Ntt.revOutBody
  simp only [Heap.copy_eq, Heap.zero_eq, Ptr.add_blk, Ptr.add_off, Nat.zero_add, BitVec.lt_def]
  rw [src_off oc nca ds k size hk hds hsz hb1 i hi, dst_off nc k size hk hsz hb2 i hi, words_toNat nc hb3, copyRow_eq,
    zeroRow_eq, log2_size k size hsz, if_neg he, hE]
  by_cases hc : Model.Ntt.br i k * nca.toNat + oc.toNat < size / o.extension * nca.toNat
  · simp only [hc, decide_true, if_true]
  · simp only [hc, decide_false, if_false, Bool.false_eq_true]

by_name_form include hk hds hsz hb2 hb3 in
/-- in place, extension ≤ 1: the model's `revInBody` (the temporary row is a block allocated and freed by the iteration) -/
theorem rp_body3 (he : o.extension ≤ 1) (i : Nat) (hi : i < size) (X : Heap) (hd : d < X.size) :
    NTT_reversePermutation_loop3 ⟨d, 0⟩ ⟨d, 0⟩ nc ds i X =
      some (X.setBlock d (Model.Ntt.revInBody o size nc.toNat i (X.block d))) := by
  have h64 : size < 2 ^ 64 := by
    rw [hsz]; exact Nat.pow_lt_pow_right (by omega) (by omega)
  obtain ⟨e, hlt⟩ := BR_i ds k size hk hds hsz i hi
  unfold NTT_reversePermutation_loop3 Model.Ntt.revInBody
  simp only [Ptr.add, Nat.zero_add, lt_ofNat _ i (by omega), e,
    ip_off nc ds k size hk hds hsz hb2 i hi, dst_off nc k size hk hsz hb2 i hi, words_toNat nc hb3,
    Heap.alloc_fst, Heap.alloc_snd]
  rw [log2_size k size hsz, if_pos he]
  exact ip1_heap X d hd (Model.Ntt.br i k) i nc.toNat

by_name_form include hk hds hsz hb2 hb3 in
/-- in place, extension > 1; `nIn` is what the generated function passes: `size / extension` -/
theorem rp_body4 (nIn : BitVec 64) (he : ¬ o.extension ≤ 1) (hN : nIn.toNat = size / o.extension) (i : Nat) (hi : i < size)
    (X : Heap) (hd : d < X.size) :
    NTT_reversePermutation_loop4 ⟨d, 0⟩ ⟨d, 0⟩ nc ds nIn i X =
      some (X.setBlock d (Model.Ntt.revInBody o size nc.toNat i (X.block d))) := by
  have h64 : size < 2 ^ 64 := by
    rw [hsz]; exact Nat.pow_lt_pow_right (by omega) (by omega)
  obtain ⟨e, hlt⟩ := BR_i ds k size hk hds hsz i hi
  have hiN : (BitVec.ofNat 64 i).toNat = i := ofNat_toNat_lt i (by omega)
  unfold NTT_reversePermutation_loop4 Model.Ntt.revInBody Model.Ntt.swapStep
  simp only [Ptr.add, Nat.zero_add, lt_ofNat _ i (by omega), BitVec.lt_def, BitVec.le_def, ge_iff_le, e, hiN,
    BR_beq ds k size hk hds hsz i hi,
    ip_off nc ds k size hk hds hsz hb2 i hi, dst_off nc k size hk hsz hb2 i hi, words_toNat nc hb3,
    Heap.alloc_fst, Heap.alloc_snd]
  rw [log2_size k size hsz, if_neg he, hN]
  exact ip2_heap X d hd (Model.Ntt.br i k) i nc.toNat (size / o.extension)

end bodies

/-! ### one butterfly: the loop over the columns -/

by_name_form theorem bfly_body (A : Nat) (o1 o2 nc : Nat) (w : BitVec 64) (h1 : o1 + nc < 2 ^ 64) (h2 : o2 + nc < 2 ^ 64)
    (k : Nat) (hk : k < nc) (X : Heap) (hA : A < X.size) :
    NTT_NTT_iters_loop1 ⟨A, 0⟩ (bv o1) (bv o2) w k X =
      some (X.setBlock A (Model.Ntt.bflyStep w o1 o2 k (X.block A))) := by
  unfold NTT_NTT_iters_loop1 Model.Ntt.bflyStep
  simp only [Heap.set_eq, Heap.get_def, Nat.zero_add]
  have e1 : (bv o1 + BitVec.ofNat 64 k).toNat = o1 + k := by
    show (bv o1 + bv k).toNat = _
    rw [bv_add, bv_toNat _ (by omega)]
  have e2 : (bv o2 + BitVec.ofNat 64 k).toNat = o2 + k := by
    show (bv o2 + bv k).toNat = _
    rw [bv_add, bv_toNat _ (by omega)]
  rw [e1, e2, Heap.block_setBlock_same _ _ _ hA, Heap.setBlock_setBlock]

by_name_form theorem bfly_loop (A : Nat) (o1 o2 nc : Nat) (w : BitVec 64) (h1 : o1 + nc < 2 ^ 64) (h2 : o2 + nc < 2 ^ 64)
    (X : Heap) (hA : A < X.size) :
    Loop.rangeM 0 (bv nc).toNat 1 X (NTT_NTT_iters_loop1 ⟨A, 0⟩ (bv o1) (bv o2) w) =
      some (X.setBlock A (Model.Ntt.bfly (X.block A) w o1 o2 nc)) := by
  rw [bv_toNat nc (by omega)]
  exact bfly_loop_g A o1 o2 nc w X hA _ (fun k Y hk hY => bfly_body A o1 o2 nc w h1 h2 k hk Y hY)

/-! ### one butterfly of one stage: offsets, twiddle index, root -/

by_name_form theorem stageStep_body (X : Heap) (self : NTT_Goldilocks) (o : Model.Ntt.Obj) (A : Nat)
    (hrep : ObjRep X self o)
    (S si b B NC RS RE RB N i : Nat)
    (hN30 : N ≤ 2 ^ 30) (hrow : b * B + i / 2 ^ si * (2 ^ si * 2) + i % 2 ^ si + 2 ^ si < N)
    (hRB : RB ≤ 2 ^ 30) (hRS : RS ≤ RE) (hRE : RE ≤ 30) (hS1 : 1 ≤ S) (hSs : S + si ≤ o.s) (hos : o.s ≤ 32) :
    NTT_NTT_iters_loop2 (bv NC) self ⟨A, 0⟩ (bv S) (bv RS) (bv RE) (bv RB) (bv (2 ^ (RE - RS) - 1)) (bv B) b si
        (bv (2 ^ (S + si) / 2)) (bv (2 ^ si)) (bv (2 ^ si * 2)) i X =
      (Loop.rangeM 0 (bv NC).toNat 1 X
        (NTT_NTT_iters_loop1 ⟨A, 0⟩
          (bv ((b * B + i / 2 ^ si * (2 ^ si * 2) + i % 2 ^ si + 2 ^ si) * NC))
          (bv ((b * B + i / 2 ^ si * (2 ^ si * 2) + i % 2 ^ si) * NC))
          (Model.Ntt.root o (S + si) (Model.Ntt.twIdx S si b B RS RE RB i)))) := by
  obtain ⟨hi64, hbB64, hj0, hj1, hM, _, h2si, _⟩ := bfly_arith N NC S si b B RS RE RB i hN30 hS1 (by omega) hRB hrow
  have ht : RE - RS < 64 := by omega
  have hJlt : Model.Ntt.twIdx S si b B RS RE RB i < 2 ^ (S + si) / 2 := twIdx_lt S si b B RS RE RB i hS1
  have ej : (((BitVec.ofNat 64 b * bv B / 2#64 + BitVec.ofNat 64 i) &&& bv (2 ^ (RE - RS) - 1)) * bv RB +
      ((BitVec.ofNat 64 b * bv B / 2#64 + BitVec.ofNat 64 i) >>> (bv RE - bv RS).toNat)) % bv (2 ^ (S + si) / 2) =
      bv (Model.Ntt.twIdx S si b B RS RE RB i) := by
    show (((bv b * bv B / 2#64 + bv i) &&& bv (2 ^ (RE - RS) - 1)) * bv RB +
      ((bv b * bv B / 2#64 + bv i) >>> (bv RE - bv RS).toNat)) % bv (2 ^ (S + si) / 2) = _
    rw [bv_two, bv_mul, bv_div _ _ hbB64 (by omega), bv_add, bv_sub RE RS hRS (by omega), bv_toNat _ (by omega),
      bv_mask _ _ hj0 ht, bv_shr _ _ hj0, bv_mul, bv_add, bv_mod _ _ hj1 hM]
    rfl
  have eroot : NTT_root X self (BitVec.setWidth 32 (bv (S + si))) (bv (Model.Ntt.twIdx S si b B RS RE RB i)) =
      Model.Ntt.root o (S + si) (Model.Ntt.twIdx S si b B RS RE RB i) :=
    root_bv X self o hrep _ _ hSs hos (Nat.lt_of_lt_of_le hJlt (Nat.div_le_self _ _))
  have eki : BitVec.ofNat 64 b * bv B + BitVec.ofNat 64 i / bv (2 ^ si) * bv (2 ^ si * 2) =
      bv (b * B + i / 2 ^ si * (2 ^ si * 2)) := by
    show bv b * bv B + bv i / bv (2 ^ si) * bv (2 ^ si * 2) = _
    rw [bv_mul, bv_div _ _ hi64 h2si, bv_mul, bv_add]
  have eji : BitVec.ofNat 64 i % bv (2 ^ si) = bv (i % 2 ^ si) := bv_mod _ _ hi64 h2si
  unfold NTT_NTT_iters_loop2
  simp only [eki, eji, ej]
  simp only [bv_add, bv_mul, bind_some_id]
  rw [eroot]

by_name_form
theorem stageStep_gen (X : Heap) (self : NTT_Goldilocks) (o : Model.Ntt.Obj) (A : Nat) (hA : A < X.size)
    (hrep : ObjRep X self o)
    (S si b B NC RS RE RB N i : Nat)
    (hN30 : N ≤ 2 ^ 30) (hNNC : N * NC < 2 ^ 64) (hrow : b * B + i / 2 ^ si * (2 ^ si * 2) + i % 2 ^ si + 2 ^ si < N)
    (hRB : RB ≤ 2 ^ 30) (hRS : RS ≤ RE) (hRE : RE ≤ 30) (hS1 : 1 ≤ S) (hSs : S + si ≤ o.s) (hos : o.s ≤ 32) :
    NTT_NTT_iters_loop2 (bv NC) self ⟨A, 0⟩ (bv S) (bv RS) (bv RE) (bv RB) (bv (2 ^ (RE - RS) - 1)) (bv B) b si
        (bv (2 ^ (S + si) / 2)) (bv (2 ^ si)) (bv (2 ^ si * 2)) i X =
      some (X.setBlock A (Model.Ntt.stageStep o S si b B NC RS RE RB i (X.block A))) := by
  rw [stageStep_body X self o A hrep S si b B NC RS RE RB N i hN30 hrow hRB hRS hRE hS1 hSs hos]
  have h1 := mul_le_of_lt _ _ NC hrow
  rw [bfly_loop A _ _ NC _ (by omega) (by
    have : (b * B + i / 2 ^ si * (2 ^ si * 2) + i % 2 ^ si) * NC ≤
        (b * B + i / 2 ^ si * (2 ^ si * 2) + i % 2 ^ si + 2 ^ si) * NC := Nat.mul_le_mul_right _ (by omega)
    omega) X hA]
  rfl

by_name_form
theorem stage_gen (X : Heap) (self : NTT_Goldilocks) (o : Model.Ntt.Obj) (A : Nat) (hA : A < X.size)
    (hrep : ObjRep X self o) (hfr : ObjFrame self A)
    (S si b B M NC RS RE RB N rm : Nat)
    (hN30 : N ≤ 2 ^ 30) (hB : B = M * (2 ^ si * 2)) (hbB : b * B + B ≤ N) (hNNC : N * NC < 2 ^ 64)
    (hRB : RB ≤ 2 ^ 30) (hRS : RS ≤ RE) (hRE : RE ≤ 30) (hS1 : 1 ≤ S) (hSs : S + si ≤ o.s) (hos : o.s ≤ 32)
    (hS30 : S + si ≤ 30) :
    NTT_NTT_iters_loop3 (bv NC) self ⟨A, 0⟩ (bv S) (bv RS) (bv RE) (bv RB) (bv (2 ^ (RE - RS) - 1)) (bv B) b si X =
      some (X.setBlock A (Model.Ntt.stage o (X.block A) S si b B NC RS RE RB rm)) := by
  have hU : 0 < 2 ^ si := Nat.pow_pos (by omega)
  have hB64 : B < 2 ^ 64 := by omega
  have e1 : I32.toU64 (I32.shl (1 : Int) (bv S + BitVec.ofNat 64 si).toNat) = bv (2 ^ (S + si)) := by
    show I32.toU64 (I32.shl (1 : Int) (bv S + bv si).toNat) = _
    rw [bv_add, bv_toNat _ (by omega), shl_one _ hS30]
  have e2 : bv (2 ^ (S + si)) >>> 1 = bv (2 ^ (S + si) / 2) := by
    rw [bv_shr _ _ (Nat.pow_lt_pow_right (by omega) (by omega))]; rfl
  have e3 : I32.toU64 (I32.shl (1 : Int) si) = bv (2 ^ si) := shl_one _ (by omega)
  have e4 : (bv B >>> 1).toNat = B / 2 := by
    rw [bv_shr _ _ hB64, bv_toNat _ (by omega)]; rfl
  unfold NTT_NTT_iters_loop3
  simp only [e1, e2, e3, e4, bv_two, bv_mul]
  rw [block_loop_g X self o A hA hrep hfr (B / 2) (Model.Ntt.stageStep o S si b B NC RS RE RB) _
    (fun i Y hi hY hrY => by
      have hiM : i < M * 2 ^ si := by
        have : B / 2 = M * 2 ^ si := by
          rw [hB, ← Nat.mul_assoc, Nat.mul_div_cancel _ (by omega)]
        omega
      have hr := row_lt (2 ^ si) M i hU hiM
      exact stageStep_gen Y self o A hY hrY S si b B NC RS RE RB N i hN30 hNNC (by rw [← hB] at hr; omega) hRB hRS hRE hS1
        hSs hos)]
  rfl

by_name_form
theorem batchStages_gen (X : Heap) (self : NTT_Goldilocks) (o : Model.Ntt.Obj) (A : Nat) (hA : A < X.size)
    (hrep : ObjRep X self o) (hfr : ObjFrame self A)
    (S sInc b NC RS RE RB N rm : Nat)
    (hN30 : N ≤ 2 ^ 30) (hbB : b * 2 ^ sInc + 2 ^ sInc ≤ N) (hNNC : N * NC < 2 ^ 64)
    (hRB : RB ≤ 2 ^ 30) (hRS : RS ≤ RE) (hRE : RE ≤ 30) (hS1 : 1 ≤ S) (hSs : S + sInc ≤ o.s + 1) (hos : o.s ≤ 32)
    (hS30 : S + sInc ≤ 31) :
    Loop.rangeM 0 (bv sInc).toNat 1 X
        (NTT_NTT_iters_loop3 (bv NC) self ⟨A, 0⟩ (bv S) (bv RS) (bv RE) (bv RB) (bv (2 ^ (RE - RS) - 1)) (bv (2 ^ sInc)) b) =
      some (X.setBlock A (Model.Ntt.batchStages o (X.block A) S sInc b (2 ^ sInc) NC RS RE RB rm)) := by
  rw [bv_toNat sInc (by omega)]
  exact block_loop_g X self o A hA hrep hfr sInc (fun si a => Model.Ntt.stage o a S si b (2 ^ sInc) NC RS RE RB rm) _
    (fun si Y hsi hY hrY =>
      stage_gen Y self o A hY hrY hfr S si b (2 ^ sInc) (2 ^ (sInc - si - 1)) NC RS RE RB N rm
        hN30 (pow_stage sInc si hsi) hbB hNNC hRB hRS hRE hS1 (by omega) hos (by omega))

section copies
variable (H : Heap) (A A2 : Nat) (hne : A ≠ A2) (hA : A < H.size) (hA2 : A2 < H.size)

by_name_form include hne hA hA2 in
theorem transpose_body (NC B nB b x N : Nat) (hx : x < B) (hb : b < nB) (hN : B * nB = N) (hNNC : N * NC < 2 ^ 64)
    (hNC8 : NC * 8 < 2 ^ 64) (s : Block × Block) :
    NTT_NTT_iters_loop4 (bv NC) ⟨A, 0⟩ ⟨A2, 0⟩ (bv B) (bv nB) b x (Heap.R2 H A A2 s) =
      some (Heap.R2 H A A2 (s.1, Model.Ntt.copyRow s.2 ((x * nB + b) * NC) s.1 ((b * B + x) * NC) NC)) := by
  obtain ⟨h1, h2, h3, h4, _, _⟩ := copy_arith N NC B nB b x hN hx hb
  unfold NTT_NTT_iters_loop4
  simp only [Heap.copy_eq, Ptr.add_blk, Ptr.add_off, Nat.zero_add]
  have e1 : ((BitVec.ofNat 64 x * bv nB + BitVec.ofNat 64 b) * bv NC).toNat = (x * nB + b) * NC := by
    show ((bv x * bv nB + bv b) * bv NC).toNat = _
    rw [bv_mul, bv_add, bv_mul, bv_toNat _ (by omega)]
  have e2 : ((BitVec.ofNat 64 b * bv B + BitVec.ofNat 64 x) * bv NC).toNat = (b * B + x) * NC := by
    show ((bv b * bv B + bv x) * bv NC).toNat = _
    rw [bv_mul, bv_add, bv_mul, bv_toNat _ (by omega)]
  rw [e1, e2, words_bv NC hNC8, Heap.R2_block_snd _ _ _ _ hA2, Heap.R2_block_fst _ _ _ _ hne hA, Heap.R2_setBlock_snd,
    copyRow_eq]

by_name_form include hne hA hA2 in
theorem transpose_gen (NC B nB b N : Nat) (hb : b < nB) (hN : B * nB = N) (hNNC : N * NC < 2 ^ 64)
    (hNC8 : NC * 8 < 2 ^ 64) (hN64 : N < 2 ^ 64) (s : Block × Block) :
    Loop.rangeM 0 (bv B).toNat 1 (Heap.R2 H A A2 s) (NTT_NTT_iters_loop4 (bv NC) ⟨A, 0⟩ ⟨A2, 0⟩ (bv B) (bv nB) b) =
      some (Heap.R2 H A A2 (s.1, Model.Ntt.transposeCopy s.2 s.1 b B nB NC)) := by
  have hB : B < 2 ^ 64 := by
    have : B ≤ B * nB := Nat.le_mul_of_pos_right B (by omega)
    omega
  rw [bv_toNat B hB]
  exact snd_loop_g H A A2 B (fun x P2 => Model.Ntt.copyRow P2 ((x * nB + b) * NC) s.1 ((b * B + x) * NC) NC) s _
    (fun x P2 hx => transpose_body H A A2 hne hA hA2 NC B nB b x N hx hb hN hNNC hNC8 (s.1, P2))

by_name_form include hne hA hA2 in
/-- one element of a scaled row (`body` = the generated loop body, reading the factor through the pointer `a1`) -/
theorem scale_body (a1 : Ptr) (j : Nat) (f : BitVec 64) (dY sO NC k : Nat) (hk : k < NC) (h1 : dY + NC < 2 ^ 64)
    (h2 : sO + NC < 2 ^ 64) (body : Nat → Heap → Option Heap)
    (hbody : ∀ X : Heap, body k X = some (Heap.set X ⟨A2, 0⟩ (bv dY + BitVec.ofNat 64 k).toNat
      (Gen.Scalar.mul__eEE (Heap.get X ⟨A, 0⟩ (bv sO + BitVec.ofNat 64 k).toNat) (Heap.get X a1 j))))
    (ha1 : a1.blk ≠ A ∧ a1.blk ≠ A2) (hf : (H.block a1.blk).getD (a1.off + j) 0#64 = f) (s : Block × Block) :
    body k (Heap.R2 H A A2 s) =
      some (Heap.R2 H A A2 (s.1, s.2.setIfInBounds (dY + k) (Gen.Scalar.mul__eEE (s.1.getD (sO + k) 0#64) f))) := by
  rw [hbody]
  have e1 : (bv dY + BitVec.ofNat 64 k).toNat = dY + k := by
    show (bv dY + bv k).toNat = _
    rw [bv_add, bv_toNat _ (by omega)]
  have e2 : (bv sO + BitVec.ofNat 64 k).toNat = sO + k := by
    show (bv sO + bv k).toNat = _
    rw [bv_add, bv_toNat _ (by omega)]
  simp only [Heap.set_eq, Heap.get_def, Nat.zero_add, e1, e2]
  rw [Heap.R2_block_snd _ _ _ _ hA2, Heap.R2_block_fst _ _ _ _ hne hA, Heap.R2_block_other _ _ _ _ _ ha1.1 ha1.2,
    Heap.R2_setBlock_snd, hf]

by_name_form include hne hA hA2 in
theorem scaleRow_gen (a1 : Ptr) (j : Nat) (f : BitVec 64) (dY sO NC : Nat) (h1 : dY + NC < 2 ^ 64) (h2 : sO + NC < 2 ^ 64)
    (body : Nat → Heap → Option Heap)
    (hbody : ∀ k (X : Heap), body k X = some (Heap.set X ⟨A2, 0⟩ (bv dY + BitVec.ofNat 64 k).toNat
      (Gen.Scalar.mul__eEE (Heap.get X ⟨A, 0⟩ (bv sO + BitVec.ofNat 64 k).toNat) (Heap.get X a1 j))))
    (ha1 : a1.blk ≠ A ∧ a1.blk ≠ A2) (hf : (H.block a1.blk).getD (a1.off + j) 0#64 = f) (s : Block × Block) :
    Loop.rangeM 0 (bv NC).toNat 1 (Heap.R2 H A A2 s) body =
      some (Heap.R2 H A A2 (s.1, Model.Ntt.scaleRow s.2 s.1 dY sO NC f)) := by
  rw [bv_toNat NC (by omega)]
  exact scaleRow_g H A A2 f dY sO NC s body
    (fun k P2 hk => scale_body H A A2 hne hA hA2 a1 j f dY sO NC k hk h1 h2 body (hbody k) ha1 hf (s.1, P2))

by_name_form include hne hA hA2 in
/-- the reflecting, scaling copy of one batch, factor `powTwoInv[domainPow]` = the hand model's `inverseCopy` (not extend) -/
theorem inverseCopy_gen (self : NTT_Goldilocks) (o : Model.Ntt.Obj) (hrep : ObjRep H self o)
    (hfr : ObjFrame self A) (hfr2 : ObjFrame self A2)
    (NC B nB b N DP : Nat) (hb : b < nB) (hN : B * nB = N) (hNNC : N * NC < 2 ^ 64) (hN30 : N ≤ 2 ^ 30)
    (hDP : DP < 2 ^ 64) (s : Block × Block) :
    Loop.rangeM 0 (bv B).toNat 1 (Heap.R2 H A A2 s)
        (NTT_NTT_iters_loop8 (bv N) (bv NC) self ⟨A, 0⟩ ⟨A2, 0⟩ (bv DP) (bv B) (bv nB) b) =
      some (Heap.R2 H A A2 (s.1, Model.Ntt.inverseCopy o s.2 s.1 b B nB NC N DP false)) := by
  have hB : B < 2 ^ 64 := by
    have : B ≤ B * nB := Nat.le_mul_of_pos_right B (by omega)
    omega
  rw [bv_toNat B hB]
  refine snd_loop_g H A A2 B (fun x P2 => Model.Ntt.scaleRow P2 s.1 (Model.Ntt.inttIdx (x * nB + b) N * NC) ((b * B + x) * NC) NC
      (Model.Ntt.scaleFactor o false DP (Model.Ntt.inttIdx (x * nB + b) N))) s _ (fun x P2 hx => ?_)
  obtain ⟨h1, h2, _, h4, hd, h3⟩ := copy_arith N NC B nB b x hN hx hb
  unfold NTT_NTT_iters_loop8
  simp only [dsty_eq x nB b B N hx hb hN hN30, bind_some_id]
  have e2 : ((BitVec.ofNat 64 b * bv B + BitVec.ofNat 64 x) * bv NC) = bv ((b * B + x) * NC) := by
    show ((bv b * bv B + bv x) * bv NC) = _
    rw [bv_mul, bv_add, bv_mul]
  rw [e2, bv_mul]
  exact scaleRow_gen H A A2 hne hA hA2 self.powTwoInv (bv DP).toNat _ _ _ NC (by omega) (by omega) _
    (fun k X => rfl) ⟨fun e => hfr.2.1 e.symm, fun e => hfr2.2.1 e.symm⟩
    (by
      rw [hrep.pti, hrep.pti_off, bv_toNat DP hDP, Nat.zero_add]
      rfl) (s.1, P2)

by_name_form include hne hA hA2 in
/-- the same with the factors `r_[dsty]` of `extendPol` (the cache must hold the table) -/
theorem inverseCopy_gen_ext (self : NTT_Goldilocks) (o : Model.Ntt.Obj) (hrep : ObjRep H self o)
    (hfr : ObjFrame self A) (hfr2 : ObjFrame self A2) (hcache : o.rcache ≠ none)
    (NC B nB b N DP : Nat) (hb : b < nB) (hN : B * nB = N) (hNNC : N * NC < 2 ^ 64) (hN30 : N ≤ 2 ^ 30)
    (s : Block × Block) :
    Loop.rangeM 0 (bv B).toNat 1 (Heap.R2 H A A2 s)
        (NTT_NTT_iters_loop6 (bv N) (bv NC) self ⟨A, 0⟩ ⟨A2, 0⟩ (bv B) (bv nB) b) =
      some (Heap.R2 H A A2 (s.1, Model.Ntt.inverseCopy o s.2 s.1 b B nB NC N DP true)) := by
  have hB : B < 2 ^ 64 := by
    have : B ≤ B * nB := Nat.le_mul_of_pos_right B (by omega)
    omega
  rw [bv_toNat B hB]
  refine snd_loop_g H A A2 B (fun x P2 => Model.Ntt.scaleRow P2 s.1 (Model.Ntt.inttIdx (x * nB + b) N * NC) ((b * B + x) * NC) NC
      (Model.Ntt.scaleFactor o true DP (Model.Ntt.inttIdx (x * nB + b) N))) s _ (fun x P2 hx => ?_)
  obtain ⟨h1, h2, _, h4, hd, h3⟩ := copy_arith N NC B nB b x hN hx hb
  unfold NTT_NTT_iters_loop6
  simp only [dsty_eq x nB b B N hx hb hN hN30, bind_some_id]
  have e2 : ((BitVec.ofNat 64 b * bv B + BitVec.ofNat 64 x) * bv NC) = bv ((b * B + x) * NC) := by
    show ((bv b * bv B + bv x) * bv NC) = _
    rw [bv_mul, bv_add, bv_mul]
  rw [e2, bv_mul]
  exact scaleRow_gen H A A2 hne hA hA2 self.r_ (bv (Model.Ntt.inttIdx (x * nB + b) N)).toNat _ _ _ NC (by omega)
    (by omega) _ (fun k X => rfl) ⟨fun e => hfr.2.2.2 e.symm, fun e => hfr2.2.2.2 e.symm⟩
    (by
      have hc := hrep.cache
      cases hrc : o.rcache with
      | none => exact absurd hrc hcache
      | some v =>
        obtain ⟨n, r, r_⟩ := v
        rw [hrc] at hc
        obtain ⟨_, _, _, _, c5, c6⟩ := hc
        rw [c5, c6, bv_toNat _ (by omega), Nat.zero_add]
        simp only [Model.Ntt.scaleFactor, hrc, if_true]) (s.1, P2)

by_name_form include hne hA hA2 in
theorem passBatch_gen (self : NTT_Goldilocks) (o : Model.Ntt.Obj) (hrep : ObjRep H self o)
    (hfr : ObjFrame self A) (hfr2 : ObjFrame self A2)
    (N NC K MBP S sInc nB b : Nat) (inverse extend : Bool)
    (hK : K ≤ 30) (hN : N = 2 ^ K) (hS1 : 1 ≤ S) (hSleK : S ≤ K) (hSK : S + sInc ≤ K + 1) (hKs : K ≤ o.s) (hos : o.s ≤ 32)
    (hnB : nB = N / 2 ^ sInc) (hb : b < nB) (hNNC : N * NC < 2 ^ 64) (hNC8 : NC * 8 < 2 ^ 64) (hMBP : MBP < 2 ^ 63)
    (hcache : extend = true → o.rcache ≠ none) (s : Block × Block) :
    NTT_NTT_iters_loop9 (bv N) (bv NC) inverse extend self ⟨A, 0⟩ ⟨A2, 0⟩ (bv K) (bv MBP) (bv S) (bv sInc) (bv (S - 1))
        (bv (K - 1)) (bv (2 ^ (S - 1))) (bv (2 ^ (K - S) - 1)) (bv (2 ^ sInc)) (bv nB) b (Heap.R2 H A A2 s) =
      some (Heap.R2 H A A2
        (Model.Ntt.passBatch o N K NC S sInc (!(decide (S + MBP ≤ K) || !inverse)) extend b s)) := by
  subst hnB
  obtain ⟨hN30, hBN, hbB, _⟩ := batch_arith N K sInc b hK hN (by omega) hb
  have hX := ObjRep.R2 hrep hfr hfr2 s
  have hKS : K - 1 - (S - 1) = K - S := by omega
  unfold NTT_NTT_iters_loop9
  have hst := batchStages_gen (Heap.R2 H A A2 s) self o A (by simpa using hA) hX hfr S sInc b NC (S - 1) (K - 1)
    (2 ^ (S - 1)) N (2 ^ (K - 1 - (S - 1)) - 1) hN30 hbB hNNC (Nat.pow_le_pow_right (by omega) (by omega)) (by omega) (by omega)
    hS1 (by omega) hos (by omega)
  rw [hKS] at hst
  dsimp only
  rw [hst]
  simp only [Option.bind_some, bind_some_id]
  rw [Heap.R2_block_fst _ _ _ _ hne hA, Heap.R2_setBlock_fst _ _ _ _ _ hne]
  have hc : decide (bv S + bv MBP ≤ bv K) = decide (S + MBP ≤ K) := by
    rw [bv_add, decide_eq_decide, le_bv _ _ (by omega) (by omega)]
  rw [hc]
  unfold Model.Ntt.passBatch
  by_cases hcond : (decide (S + MBP ≤ K) || !inverse) = true
  · rw [if_pos hcond]
    simp only [hcond, Bool.not_true, Bool.false_eq_true, if_false, hKS]
    rw [transpose_gen H A A2 hne hA hA2 NC (2 ^ sInc) (N / 2 ^ sInc) b N hb hBN hNNC hNC8 (by omega)]
  · rw [if_neg hcond]
    have hcf : (decide (S + MBP ≤ K) || !inverse) = false := by simpa using hcond
    simp only [hcf, Bool.not_false, if_true, hKS]
    cases extend with
    | true =>
      simp only [if_true]
      rw [inverseCopy_gen_ext H A A2 hne hA hA2 self o hrep hfr hfr2 (hcache rfl) NC (2 ^ sInc) (N / 2 ^ sInc) b N K hb hBN hNNC hN30]
    | false =>
      simp only [Bool.false_eq_true, if_false]
      rw [inverseCopy_gen H A A2 hne hA hA2 self o hrep hfr hfr2 NC (2 ^ sInc) (N / 2 ^ sInc) b N K hb hBN hNNC hN30 (by omega)]

end copies

end GoldilocksVerif.BridgeNtt
