/-
  Poseidon (C06): normal forms of the specification (Model/PoseidonSpec.lean) used by the three backends' proofs, the
  abstraction `stF` of a memory region as a 12-element state, the loop induction principle.
-/
import Mathlib.Tactic.Ring
import GoldilocksVerif.Model.PoseidonSpec
import GoldilocksVerif.Lemmas.LoadStoreL

namespace GoldilocksVerif
open PoseidonSpec

/-- the 12-element state held by the first twelve words of a region, in the field view -/
def stF (r : Region) : State := fun i => den (r i.val)

theorem stF_apply (r : Region) (i : Fin 12) : stF r i = den (r i.val) := rfl

theorem fin12_val :
    ((0 : Fin 12).val = 0 ∧ (1 : Fin 12).val = 1 ∧ (2 : Fin 12).val = 2 ∧ (3 : Fin 12).val = 3) ∧
    ((4 : Fin 12).val = 4 ∧ (5 : Fin 12).val = 5 ∧ (6 : Fin 12).val = 6 ∧ (7 : Fin 12).val = 7) ∧
    ((8 : Fin 12).val = 8 ∧ (9 : Fin 12).val = 9 ∧ (10 : Fin 12).val = 10 ∧ (11 : Fin 12).val = 11) :=
  ⟨⟨rfl, rfl, rfl, rfl⟩, ⟨rfl, rfl, rfl, rfl⟩, ⟨rfl, rfl, rfl, rfl⟩⟩

theorem sum_fin12 (f : Fin 12 → F) :
    ∑ j, f j = f 0 + f 1 + f 2 + f 3 + f 4 + f 5 + f 6 + f 7 + f 8 + f 9 + f 10 + f 11 := by
  simp only [Fin.sum_univ_succ, Fin.sum_univ_zero]
  simp only [Fin.succ_zero_eq_one, Fin.succ_one_eq_two]
  ring_nf
  rfl

theorem state_ext (s t : State) (h : ∀ i (hi : i < 12), s ⟨i, hi⟩ = t ⟨i, hi⟩) : s = t := by
  funext i; exact h i.val i.isLt

theorem mulMat_apply (mat : Fin 12 → Fin 12 → F) (t : State) (i : Fin 12) :
    mulMat mat t i = mat 0 i * t 0 + mat 1 i * t 1 + mat 2 i * t 2 + mat 3 i * t 3 + mat 4 i * t 4 + mat 5 i * t 5 +
      mat 6 i * t 6 + mat 7 i * t 7 + mat 8 i * t 8 + mat 9 i * t 9 + mat 10 i * t 10 + mat 11 i * t 11 := by
  simp only [mulMat, sum_fin12]

theorem partialRound_zero (r : Nat) (t : State) :
    partialRound r t 0 = (t 0 ^ 7 + C (60 + r)) * S (23 * r) + t 1 * S (23 * r + 1) + t 2 * S (23 * r + 2) +
      t 3 * S (23 * r + 3) + t 4 * S (23 * r + 4) + t 5 * S (23 * r + 5) + t 6 * S (23 * r + 6) + t 7 * S (23 * r + 7) +
      t 8 * S (23 * r + 8) + t 9 * S (23 * r + 9) + t 10 * S (23 * r + 10) + t 11 * S (23 * r + 11) := by
  obtain ⟨⟨v0, v1, v2, v3⟩, ⟨v4, v5, v6, v7⟩, ⟨v8, v9, v10, v11⟩⟩ := fin12_val
  simp only [partialRound, Function.update_self, sum_fin12, v0, v1, v2, v3, v4, v5, v6, v7, v8, v9, v10, v11, Nat.add_zero]
  simp

theorem partialRound_succ (r : Nat) (t : State) (i : Fin 12) (hi : i ≠ 0) :
    partialRound r t i = t i + (t 0 ^ 7 + C (60 + r)) * S (23 * r + 11 + i.val) := by
  simp only [partialRound, Function.update_self, Function.update_of_ne hi]

theorem Loop.rangeAux_inv {σ : Type} (Inv : Nat → σ → Prop) (f : Nat → σ → σ) (hi : Nat)
    (hstep : ∀ r s, r < hi → Inv r s → Inv (r + 1) (f r s)) :
    ∀ (n lo : Nat) (s : σ), lo + n = hi → Inv lo s → Inv hi (Loop.rangeAux 1 f n lo s) := by
  intro n
  induction n with
  | zero => intro lo s h hs; simp only [Loop.rangeAux]; have : lo = hi := by omega
            subst this; exact hs
  | succ n ih =>
    intro lo s h hs
    simp only [Loop.rangeAux]
    exact ih (lo + 1) (f lo s) (by omega) (hstep lo s (by omega) hs)

/-- induction principle for `for (r = 0; r < n; r++)` -/
theorem Loop.range_inv {σ : Type} (Inv : Nat → σ → Prop) (f : Nat → σ → σ) (n : Nat) (s : σ) (h0 : Inv 0 s)
    (hstep : ∀ r s, r < n → Inv r s → Inv (r + 1) (f r s)) : Inv n (Loop.range 0 n 1 s f) := by
  unfold Loop.range
  have e : (n - 0 + 1 - 1) / 1 = n := by simp
  rw [e]
  exact Loop.rangeAux_inv Inv f n hstep n 0 s (by omega) h0

end GoldilocksVerif
