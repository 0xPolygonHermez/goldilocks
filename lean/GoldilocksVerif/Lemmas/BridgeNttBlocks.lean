/-
  The COLUMN-BLOCK loop of the TRANSLATED `NTT_Goldilocks::NTT` (Gen/NttGen.lean; per block `NTT_iters` into the temporary
  destination `dst_` and the scatter loop of `memcpy`s) = the hand model's block loop (`nttBlock`, `scatterBlock`), on ANY heap that
  holds the destination, the scratch and the temporary destination (`R3`): `block_body`, `blocks_loop`; `ntt_blocks`: the model's
  `ntt` with more than one block as that loop.  The whole function is put on its heap in Lemmas/BridgeNttBufEq.lean.

  The generated code reuses ONE scratch block and ONE temporary destination for all blocks (dirty after the first block); the
  hand model takes zero-filled ones for every block: `Model.Ntt.nttIters_indep` (Lemmas/NttIndep.lean) — the result of
  `nttIters` does not depend on the initial content of these two buffers, bit for bit.
-/
import GoldilocksVerif.Lemmas.BridgeNttTop
import GoldilocksVerif.Lemmas.NttIndep
import GoldilocksVerif.Lemmas.NttTop

namespace GoldilocksVerif.BridgeNtt
open GoldilocksVerif Gen.NttGen

/-! ### three blocks of a base heap replaced (destination, scratch, temporary destination) -/

def R3 (H : Heap) (D A T : Nat) (x y z : Block) : Heap := ((H.setBlock D x).setBlock A y).setBlock T z

section r3
variable (H : Heap) (D A T : Nat) (hD : D < H.size) (hA : A < H.size) (hT : T < H.size)
  (hDA : D ≠ A) (hDT : D ≠ T) (hAT : A ≠ T) (x y z : Block)

@[simp] theorem size_R3 : (R3 H D A T x y z).size = H.size := by unfold R3; simp

include hD hDA hDT in
theorem R3_block_D : (R3 H D A T x y z).block D = x := by
  unfold R3
  rw [Heap.block_setBlock_other _ _ _ _ hDT, Heap.block_setBlock_other _ _ _ _ hDA, Heap.block_setBlock_same _ _ _ hD]

include hA hAT in
theorem R3_block_A : (R3 H D A T x y z).block A = y := by
  unfold R3
  rw [Heap.block_setBlock_other _ _ _ _ hAT, Heap.block_setBlock_same _ _ _ (by simp; exact hA)]

include hT in
theorem R3_block_T : (R3 H D A T x y z).block T = z := by
  unfold R3
  rw [Heap.block_setBlock_same _ _ _ (by simp; exact hT)]

theorem R3_block_other (c : Nat) (h1 : c ≠ D) (h2 : c ≠ A) (h3 : c ≠ T) : (R3 H D A T x y z).block c = H.block c := by
  unfold R3
  rw [Heap.block_setBlock_other _ _ _ _ h3, Heap.block_setBlock_other _ _ _ _ h2, Heap.block_setBlock_other _ _ _ _ h1]

include hDA hDT in
theorem R3_setBlock_D (x' : Block) : (R3 H D A T x y z).setBlock D x' = R3 H D A T x' y z := by
  unfold R3
  rw [Heap.setBlock_comm _ T D _ _ (Ne.symm hDT), Heap.setBlock_comm _ A D _ _ (Ne.symm hDA), Heap.setBlock_setBlock]

include hAT in
theorem R3_setBlock_A (y' : Block) : (R3 H D A T x y z).setBlock A y' = R3 H D A T x y' z := by
  unfold R3
  rw [Heap.setBlock_comm _ T A _ _ (Ne.symm hAT), Heap.setBlock_setBlock]

theorem R3_setBlock_T (z' : Block) : (R3 H D A T x y z).setBlock T z' = R3 H D A T x y z' := by
  unfold R3
  rw [Heap.setBlock_setBlock]

theorem R3_self : R3 H D A T (H.block D) (H.block A) (H.block T) = H := by
  unfold R3
  rw [Heap.setBlock_block]
  have h1 : (H.setBlock A (H.block A)) = H := Heap.setBlock_block H A
  rw [h1]
  exact Heap.setBlock_block H T

end r3

theorem rangeM_zero {σ : Type} (f : Nat → σ → Option σ) (s : σ) : Loop.rangeM 0 0 1 s f = some s := rfl

theorem itersFuel_mono (self : NTT_Goldilocks) (K w NC : Nat) (h : w ≤ NC) : itersFuel self K w ≤ itersFuel self K NC := by
  unfold itersFuel parFuel
  split
  · have : min w (ParCopy.threads (I32.ofU32 self.nThreads)) ≤ min NC (ParCopy.threads (I32.ofU32 self.nThreads)) := by
      rw [Nat.le_min]
      exact ⟨Nat.le_trans (Nat.min_le_left _ _) h, Nat.min_le_right _ _⟩
    omega
  · exact Nat.le_refl _

/-- `for (ie = 0; ie < size; ++ie) memcpy(&dst[ie * ncols + offset_cols], &dst_[ie * aux_ncols], aux_ncols)` = `scatterBlock` -/
theorem scatter_gen (Y : Heap) (D T : Nat) (hD : D < Y.size) (hDT : D ≠ T) (N NC off w : Nat)
    (hb : N * NC + off < 2 ^ 64) (hNw : N * w < 2 ^ 64) (hw8 : w * 8 < 2 ^ 64) (hN64 : N < 2 ^ 64) :
    Loop.rangeM 0 (bv N).toNat 1 Y (NTT_NTT_loop1 ⟨D, 0⟩ (bv NC) (bv off) ⟨T, 0⟩ (bv w)) =
      some (Y.setBlock D (Model.Ntt.scatterBlock (Y.block D) (Y.block T) N NC off w)) := by
  rw [bv_toNat N hN64]
  rw [Heap.rangeM_block Y D hD (fun ie B => Model.Ntt.copyRow B (ie * NC + off) (Y.block T) (ie * w) w) _ 0 N
    (fun ie X _ hie hs hfr => by
      have h1 := mul_le_of_lt ie N NC hie
      have h2 := mul_le_of_lt ie N w hie
      unfold NTT_NTT_loop1
      simp only [Heap.copy_eq, Ptr.add_blk, Ptr.add_off, Nat.zero_add]
      have e1 : (BitVec.ofNat 64 ie * bv NC + bv off).toNat = ie * NC + off := by
        show (bv ie * bv NC + bv off).toNat = _
        rw [bv_mul, bv_add, bv_toNat _ (by omega)]
      have e2 : (BitVec.ofNat 64 ie * bv w).toNat = ie * w := by
        show (bv ie * bv w).toNat = _
        rw [bv_mul, bv_toNat _ (by omega)]
      rw [e1, e2, words_bv w hw8, hfr T (Ne.symm hDT), copyRow_eq])]
  rfl

section blocks
variable (fuel : Nat) (H : Heap) (self : NTT_Goldilocks) (o : Model.Ntt.Obj) (hrep : ObjRep H self o)
variable (D Sx A T : Nat) (hD : D < H.size) (hA : A < H.size) (hT : T < H.size) (hT0 : T ≠ 0)
  (hDA : D ≠ A) (hDT : D ≠ T) (hAT : A ≠ T) (hSA : Sx ≠ A) (hST : Sx ≠ T)
  (hfrD : ObjFrame self D) (hfrA : ObjFrame self A) (hfrT : ObjFrame self T)
variable (K NC q res alloc nb : Nat) (nphase : BitVec 64) (inverse extend : Bool)
  (hK : K ≤ 30) (hKs : K ≤ o.s) (hos : o.s ≤ 32) (hNNC8 : 2 ^ K * NC * 8 < 2 ^ 64)
  (hext31 : o.extension < 2 ^ 31) (hcache : extend = true → o.rcache ≠ none)
  (hnb2 : 2 ≤ nb) (hnbNC : nb ≤ NC) (hq : q = NC / nb) (hres : res = NC % nb) (halloc : alloc = q + if res > 0 then 1 else 0)
  (hf : itersFuel self K NC ≤ fuel)

include hq hres hnb2 in
theorem blk_bounds (ib : Nat) (hib : ib < nb) :
    Model.Ntt.blkOff q res ib + Model.Ntt.blkW q res ib ≤ NC ∧ Model.Ntt.blkW q res ib ≤ NC := by
  have htot : Model.Ntt.blkOff q res nb = NC := by rw [hq, hres]; exact Model.Ntt.blkOff_total NC nb (by omega)
  have h1 : Model.Ntt.blkOff q res ib + Model.Ntt.blkW q res ib ≤ NC := by
    rw [← Model.Ntt.blkOff_succ, ← htot]; exact Model.Ntt.blkOff_mono q res _ _ hib
  exact ⟨h1, by omega⟩

include hrep hD hA hT hT0 hDA hDT hAT hSA hST hfrD hfrA hfrT hK hKs hos hNNC8 hext31 hcache hnb2 hnbNC hq hres halloc hf in
/-- the hand model's `nttBlock` takes a zero-filled scratch and temporary destination, the generated iteration the ones the
    previous block left: `nttIters_indep` -/
theorem block_body (ib : Nat) (hib : ib < nb) (dst XA XT : Block) (hXA : 2 ^ K * alloc ≤ XA.size) (hXT : 2 ^ K * alloc ≤ XT.size) :
    (∃ dst' XA' XT',
      Model.Ntt.nttBlock o (Array.replicate (2 ^ K * alloc) 0#64) (decide (D = Sx)) (2 ^ K) NC nphase.toNat q res alloc inverse
          extend ib (.ok (dst, if decide (D = Sx) = true then dst else H.block Sx, Model.Ntt.blkOff q res ib)) =
        .ok (dst', if decide (D = Sx) = true then dst' else H.block Sx, Model.Ntt.blkOff q res (ib + 1)) ∧
      NTT_NTT_loop2 fuel ⟨D, 0⟩ ⟨Sx, 0⟩ (bv (2 ^ K)) (bv NC) nphase (bv nb) inverse extend self (bv q) (bv res) ⟨T, 0⟩ ⟨A, 0⟩ ib
          (R3 H D A T dst XA XT, bv (Model.Ntt.blkOff q res ib)) =
        some (R3 H D A T dst' XA' XT', bv (Model.Ntt.blkOff q res (ib + 1))) ∧
      XA'.size = XA.size ∧ XT'.size = XT.size) ∨
    (∃ e,
      Model.Ntt.nttBlock o (Array.replicate (2 ^ K * alloc) 0#64) (decide (D = Sx)) (2 ^ K) NC nphase.toNat q res alloc inverse
          extend ib (.ok (dst, if decide (D = Sx) = true then dst else H.block Sx, Model.Ntt.blkOff q res ib)) = .error e ∧
      NTT_NTT_loop2 fuel ⟨D, 0⟩ ⟨Sx, 0⟩ (bv (2 ^ K)) (bv NC) nphase (bv nb) inverse extend self (bv q) (bv res) ⟨T, 0⟩ ⟨A, 0⟩ ib
          (R3 H D A T dst XA XT, bv (Model.Ntt.blkOff q res ib)) = none) := by
  obtain ⟨hbo, hbw⟩ := blk_bounds NC q res nb hnb2 hq hres ib hib
  generalize hoff : Model.Ntt.blkOff q res ib = off at hbo
  have hoffs : Model.Ntt.blkOff q res (ib + 1) = off + Model.Ntt.blkW q res ib := by rw [Model.Ntt.blkOff_succ, hoff]
  generalize hw : Model.Ntt.blkW q res ib = w at hbo hbw hoffs
  have hN30 : 2 ^ K ≤ 2 ^ 30 := Nat.pow_le_pow_right (by omega) hK
  have hNpos : 0 < 2 ^ K := Nat.two_pow_pos K
  have hNCle : NC ≤ 2 ^ K * NC := Nat.le_mul_of_pos_left NC hNpos
  have hresnb : res < nb := by rw [hres]; exact Nat.mod_lt _ (by omega)
  have hqNC : q ≤ NC := by rw [hq]; exact Nat.div_le_self _ _
  have hwle : w ≤ alloc := by
    rw [← hw, halloc]; unfold Model.Ntt.blkW
    by_cases h : ib < res
    · rw [if_pos h, if_pos (by omega)]
    · rw [if_neg h]; omega
  have hNw : 2 ^ K * w ≤ 2 ^ K * NC := Nat.mul_le_mul_left _ hbw
  have hNwa : 2 ^ K * w ≤ 2 ^ K * alloc := Nat.mul_le_mul_left _ hwle
  generalize hX : R3 H D A T dst XA XT = X
  have hXs : X.size = H.size := by rw [← hX]; simp
  have hXT' : X.block T = XT := by rw [← hX]; exact R3_block_T H D A T hT _ _ _
  have hXA' : X.block A = XA := by rw [← hX]; exact R3_block_A H D A T hA hAT _ _ _
  have hXD' : X.block D = dst := by rw [← hX]; exact R3_block_D H D A T hD hDA hDT _ _ _
  have hXS' : X.block Sx = (if decide (D = Sx) = true then dst else H.block Sx) := by
    by_cases h : D = Sx
    · simp only [h, decide_true, if_true]; rw [← h]; exact hXD'
    · simp only [h, decide_false, Bool.false_eq_true, if_false]
      rw [← hX]; exact R3_block_other H D A T _ _ _ Sx (Ne.symm h) hSA hST
  generalize hsrc : (if decide (D = Sx) = true then dst else H.block Sx) = srcCur at hXS'
  have hrepX : ObjRep X self o := by
    apply hrep.frame
    obtain ⟨a1, a2, a3, a4⟩ := hfrA
    obtain ⟨t1, t2, t3, t4⟩ := hfrT
    obtain ⟨d1, d2, d3, d4⟩ := hfrD
    rintro c (rfl | rfl | rfl | rfl) <;> rw [← hX] <;> apply R3_block_other <;> first | exact Ne.symm ‹_›
  have hit := nttIters_gen_all fuel X self o hrepX T Sx A (by omega) (by omega) (Ne.symm hAT) hSA hfrT hfrA ⟨T, 0⟩
    (sel_nonnull T hT0 _)
    K (2 ^ K) off w NC nphase inverse extend hK rfl hKs hos (by omega) (by omega) (by omega) hext31 hcache
    (Nat.le_trans (itersFuel_mono self K w NC hbw) hf)
  have hdecT : decide (T = Sx) = false := by simp [Ne.symm hST]
  rw [hXT', hXS', hXA', hdecT] at hit
  have hZs : (Array.replicate (2 ^ K * alloc) (0#64 : BitVec 64)).size = 2 ^ K * alloc := Array.size_replicate
  have hind := Model.Ntt.nttIters_indep o XT (Array.replicate (2 ^ K * alloc) 0#64) srcCur XA
    (Array.replicate (2 ^ K * alloc) 0#64) false K off w NC nphase.toNat inverse extend (fun _ => False)
    ⟨by simp only [Bool.false_eq_true, if_false]; omega, by simp only [Bool.false_eq_true, if_false]; rw [hZs]; omega,
      fun i hi => absurd hi id⟩ (by omega) (by rw [hZs]; omega)
  have hauxn : (if decide (BitVec.ofNat 64 ib < bv res) = true then bv q + 1#64 else bv q) = bv w := by
    rw [show decide (BitVec.ofNat 64 ib < bv res) = decide (ib < res) from decide_lt_bv ib res (by omega) (by omega), ← hw]
    exact bv_succ_if q (ib < res)
  have hgt : decide (bv nb > 1#64) = true := by
    rw [decide_eq_true_eq]; show bv 1 < bv nb; rw [lt_bv _ _ (by omega) (by omega)]; omega
  unfold Model.Ntt.nttBlock NTT_NTT_loop2
  dsimp only
  have hw' : q + (if ib < res then 1 else 0) = w := hw
  rw [hw', hoffs]
  have hauxn' : (if decide (BitVec.ofNat 64 ib < bv res) = true then (let aux_ncols := bv q + 1#64; aux_ncols) else bv q) =
      bv w := hauxn
  rw [hauxn']
  rcases hind with ⟨r, r', e, e', hag⟩ | ⟨er, e, e'⟩
  · simp only [Bool.false_eq_true, if_false] at e e'
    rw [e] at hit
    obtain ⟨XA', hgen, hXAs⟩ := hit
    left
    rw [e', hgen]
    have hsc : Model.Ntt.scatterBlock dst r' (2 ^ K) NC off w = Model.Ntt.scatterBlock dst r (2 ^ K) NC off w :=
      (Model.Ntt.scatterBlock_congr dst r r' (2 ^ K) NC off w _ hag (fun i hi => Or.inr hi)).symm
    have hrs : r.size = XT.size := by
      have h1 := Model.Ntt.nttIters_size o XT srcCur XA false K off w NC nphase.toNat inverse extend r _ e
      simpa using h1
    have hY : (X.setBlock T r).setBlock A XA' = R3 H D A T dst XA' r := by
      rw [← hX, R3_setBlock_T, R3_setBlock_A H D A T hAT]
    have hsg := scatter_gen (R3 H D A T dst XA' r) D T (by simp; exact hD) hDT (2 ^ K) NC off w (by omega) (by omega) (by omega)
      (by omega)
    rw [R3_block_D H D A T hD hDA hDT, R3_block_T H D A T hT, R3_setBlock_D H D A T hDA hDT] at hsg
    refine ⟨Model.Ntt.scatterBlock dst r (2 ^ K) NC off w, XA', r, ?_, ?_, hXAs, hrs⟩
    · simp only []
      rw [hsc, ← hsrc]
      by_cases h : D = Sx <;> simp [h]
    · simp only [Option.bind_some, hgt, if_true, hY, hsg, bv_add]
  · rw [e] at hit
    right
    refine ⟨er, ?_, ?_⟩
    · rw [e']
    · rw [hit]; rfl

include hrep hD hA hT hT0 hDA hDT hAT hSA hST hfrD hfrA hfrT hK hKs hos hNNC8 hext31 hcache hnb2 hnbNC hq hres halloc hf in
theorem blocks_loop (hAs : 2 ^ K * alloc ≤ (H.block A).size) (hTs : 2 ^ K * alloc ≤ (H.block T).size) : ∀ ib, ib ≤ nb →
    (∃ dst XA XT,
      Model.Ntt.iter ib (Except.ok (H.block D, H.block Sx, 0))
          (Model.Ntt.nttBlock o (Array.replicate (2 ^ K * alloc) 0#64) (decide (D = Sx)) (2 ^ K) NC nphase.toNat q res alloc
            inverse extend) =
        .ok (dst, if decide (D = Sx) = true then dst else H.block Sx, Model.Ntt.blkOff q res ib) ∧
      Loop.rangeM 0 ib 1 (H, bv 0) (NTT_NTT_loop2 fuel ⟨D, 0⟩ ⟨Sx, 0⟩ (bv (2 ^ K)) (bv NC) nphase (bv nb) inverse extend self
          (bv q) (bv res) ⟨T, 0⟩ ⟨A, 0⟩) =
        some (R3 H D A T dst XA XT, bv (Model.Ntt.blkOff q res ib)) ∧
      XA.size = (H.block A).size ∧ XT.size = (H.block T).size) ∨
    (∃ e,
      Model.Ntt.iter ib (Except.ok (H.block D, H.block Sx, 0))
          (Model.Ntt.nttBlock o (Array.replicate (2 ^ K * alloc) 0#64) (decide (D = Sx)) (2 ^ K) NC nphase.toNat q res alloc
            inverse extend) = .error e ∧
      Loop.rangeM 0 ib 1 (H, bv 0) (NTT_NTT_loop2 fuel ⟨D, 0⟩ ⟨Sx, 0⟩ (bv (2 ^ K)) (bv NC) nphase (bv nb) inverse extend self
          (bv q) (bv res) ⟨T, 0⟩ ⟨A, 0⟩) = none) := by
  intro ib
  induction ib with
  | zero =>
    intro _
    left
    refine ⟨H.block D, H.block A, H.block T, ?_, ?_, rfl, rfl⟩
    · rw [Model.Ntt.iter_zero]
      have e0 : Model.Ntt.blkOff q res 0 = 0 := by simp [Model.Ntt.blkOff]
      rw [e0]
      by_cases h : D = Sx
      · simp [h]
      · simp [h]
    · have e0 : Model.Ntt.blkOff q res 0 = 0 := by simp [Model.Ntt.blkOff]
      rw [rangeM_zero, R3_self, e0]
  | succ ib ih =>
    intro hib
    rw [Model.Ntt.iter_succ, Loop.rangeM_succ_right _ 0 ib _ (Nat.zero_le ib)]
    rcases ih (by omega) with ⟨dst, XA, XT, e1, e2, s1, s2⟩ | ⟨e, e1, e2⟩
    · rw [e1, e2]
      simp only [Option.bind_some]
      rcases block_body fuel H self o hrep D Sx A T hD hA hT hT0 hDA hDT hAT hSA hST hfrD hfrA hfrT K NC q res alloc nb nphase
        inverse extend hK hKs hos hNNC8 hext31 hcache hnb2 hnbNC hq hres halloc hf ib (by omega) dst XA XT (by omega) (by omega)
        with ⟨dst', XA', XT', b1, b2, b3, b4⟩ | ⟨e, b1, b2⟩
      · left
        exact ⟨dst', XA', XT', b1, b2, by omega, by omega⟩
      · right
        exact ⟨e, b1, b2⟩
    · right
      rw [e1, e2]
      exact ⟨e, rfl, rfl⟩

end blocks

theorem ntt_blocks (o : Model.Ntt.Obj) (mode : Model.Ntt.DstMode) (dstB srcB : Model.Ntt.Buf) (same : Bool)
    (hsame : decide (mode ≠ Model.Ntt.DstMode.other) = same) (hds : same = true → dstB = srcB)
    (N NC nphase nblock : Nat) (inverse extend : Bool) (nb q res alloc : Nat) (hN1 : 1 ≤ N) (hNC1 : 1 ≤ NC)
    (hnb : nb = Model.Ntt.clampBlock nblock NC) (hnb2 : 2 ≤ nb) (hq : q = NC / nb) (hres : res = NC % nb)
    (halloc : alloc = q + if res > 0 then 1 else 0) :
    Model.Ntt.ntt o mode dstB srcB N NC nphase nblock inverse extend =
      match Model.Ntt.iter nb (Except.ok (dstB, srcB, 0))
          (Model.Ntt.nttBlock o (Array.replicate (N * alloc) 0#64) same N NC nphase q res alloc inverse extend) with
      | .error e => .error e
      | .ok (dst, src, _) => .ok (dst, src) := by
  have hdst0 : (if same = true then srcB else dstB) = dstB := by
    cases same with
    | true => exact (hds rfl).symm
    | false => rfl
  unfold Model.Ntt.ntt
  rw [if_neg (by omega), ← hnb]
  unfold Model.Ntt.nttBlocks
  simp only [← hq, ← hres, ← halloc, hsame, hdst0]
  rw [if_neg (by omega)]
  cases Model.Ntt.iter nb (Except.ok (dstB, srcB, 0))
    (Model.Ntt.nttBlock o (Array.replicate (N * alloc) 0#64) same N NC nphase q res alloc inverse extend) <;> rfl

end GoldilocksVerif.BridgeNtt
