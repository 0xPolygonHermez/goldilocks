/-
  Bridge theorem: the TRANSLATED `Goldilocks::parSetZero` (Gen/ParZeroGen.lean, heap mode; goldilocks_base_field.cpp) — the clamp
  of the `int` thread count, the chunk length `(size + nt - 1) / nt` on 64-bit words, the chunk loop
  `for (i = 0; i < size; i += chunk) memset(&dst[i], 0, min(chunk, size - i))` — is ONE `memset` of `size` words of the
  destination block: exactly `size` words are zeroed, for every size and every `int` thread count (zero and negative
  included), no other word and no other block changes.  This is the hand model `Model/ParCopy.parSetZero` in the heap view
  (`parSetZero_gen_region`).  As in Lemmas/BridgeParcpy.lean, with `memset` as the chunk action; the lifted body is read
  semantically (`parSetZero_step`, the tactic of Lemmas/BridgeParcpyStep.lean), the function around the loop through
  `parSetZero_top`.

  FUEL: as for `parcpy`, `fuel > min(size, max(1, nt))` (`parFuel`).
-/
import GoldilocksVerif.Lemmas.BridgeParcpy
import GoldilocksVerif.Gen.ParZeroGen

set_option linter.unusedSimpArgs false

namespace GoldilocksVerif.BridgeNtt
open GoldilocksVerif Gen.ParZeroGen

theorem parSetZero_step (dst : Ptr) (size ct : BitVec 64) (X : Heap) (i : BitVec 64)
    (hs8 : size.toNat * 8 < 2 ^ 64) (hct : ct.toNat ≤ size.toNat) :
    parSetZero_loop1 dst size ct (X, i) =
      if i < size then some (true, (X.zero (dst.add i.toNat) (min (size.toNat - i.toNat) ct.toNat), i + ct))
      else some (false, (X, i)) := by
  unfold parSetZero_loop1
  dsimp only
  by_cases hlt : i < size
  · chunk_len_simp size i ct hs8 hct hlt
  · chunk_exit_simp size i hlt

theorem parSetZero_top (fuel : Nat) (hp : Heap) (dst : Ptr) (size : BitVec 64) (nt : Int) :
    parSetZero fuel hp dst size nt =
      (Loop.whileM (parSetZero_loop1 dst size (chunkBV size nt)) fuel (hp, 0#64)).bind (fun st => some st.1) := by
  unfold parSetZero chunkBV
  dsimp only
  chunk_top nt

theorem zeroRow_append (d : Block) (d0 a b : Nat) :
    Model.Ntt.zeroRow (Model.Ntt.zeroRow d d0 a) (d0 + a) b = Model.Ntt.zeroRow d d0 (a + b) := by
  induction b with
  | zero => rfl
  | succ b ih =>
    have e1 : ∀ (x : Block) (x0 m : Nat), Model.Ntt.zeroRow x x0 (m + 1) =
        (Model.Ntt.zeroRow x x0 m).setIfInBounds (x0 + m) 0#64 := by
      intro x x0 m; unfold Model.Ntt.zeroRow; rw [Model.Ntt.iter_succ]
    rw [e1, ih, ← Nat.add_assoc a b 1, e1, Nat.add_assoc d0 a b]

theorem parSetZero_heap_seq (fuel : Nat) (hp : Heap) (dst : Ptr) (size : BitVec 64) (nt : Int) (hnt : nt < 2 ^ 63)
    (hs8 : size.toNat * 8 < 2 ^ 64) (hfuel : (ParCopy.starts size.toNat nt).length < fuel) :
    parSetZero fuel hp dst size nt =
      some ((ParCopy.starts size.toNat nt).foldl (fun X i => X.zero (dst.add i) (ParCopy.len size.toNat nt i)) hp) := by
  rw [parSetZero_top]
  exact chunkFn_seq (parSetZero_loop1 dst size) (fun n i X => X.zero (dst.add i) n) size nt hnt hs8
    (fun ct hct X i => parSetZero_step dst size ct X i hs8 hct) fuel hfuel hp

theorem parSetZero_gen (fuel : Nat) (hp : Heap) (D od n : Nat) (nt : Int) (hD : D < hp.size)
    (hn8 : n * 8 < 2 ^ 64) (hnt : nt < 2 ^ 63) (hf : parFuel n nt ≤ fuel) :
    parSetZero fuel hp ⟨D, od⟩ (bv n) nt = some (hp.setBlock D (Model.Ntt.zeroRow (hp.block D) od n)) := by
  have hsz : (bv n).toNat = n := bv_toNat n (by omega)
  have hfu : (ParCopy.starts n nt).length < fuel :=
    Nat.lt_of_le_of_lt (ParCopy.starts_length_le n nt) hf
  rw [parSetZero_heap_seq fuel hp _ (bv n) nt hnt (by rw [hsz]; exact hn8) (by rw [hsz]; exact hfu), hsz]
  congr 1
  have h := ParCopy.foldl_starts (fun (X : Heap) i => X.zero (Ptr.add ⟨D, od⟩ i) (ParCopy.len n nt i))
    (fun i => hp.setBlock D (Model.Ntt.zeroRow (hp.block D) od i)) n nt (by
      intro i _
      simp only [Heap.zero_eq, Ptr.add_blk, Ptr.add_off]
      rw [Heap.block_setBlock_same _ _ _ hD, Heap.setBlock_setBlock, zeroRow_eq, zeroRow_append])
  rwa [show Model.Ntt.zeroRow (hp.block D) od 0 = hp.block D from rfl, Heap.setBlock_block] at h

/-- `parSetZero_gen` in the view of the hand model `Model/ParCopy.lean` (region = what the pointer designates) -/
theorem parSetZero_gen_region (hp : Heap) (D od n : Nat) (nt : Int) (hfit : od + n ≤ (hp.block D).size) (j : Nat) :
    (Model.Ntt.zeroRow (hp.block D) od n).getD (od + j) 0#64 =
      (ParCopy.parSetZero ⟨fun j => (hp.block D).getD (od + j) 0#64⟩ n nt) j := by
  have hseq : ∀ (dst : Region), (ParCopy.parSetZero dst n nt) j = if j < n then 0#64 else dst j :=
    fun dst => ParCopy.foldl_chunks_cover (fun _ => 0#64) n nt _ (fun _ => Iff.rfl) dst j
  rw [hseq, Model.Ntt.zeroRow_getD]
  by_cases h : j < n
  · rw [if_pos h, if_pos ⟨by omega, by omega, by omega⟩]
  · rw [if_neg h, if_neg (by omega)]

end GoldilocksVerif.BridgeNtt
