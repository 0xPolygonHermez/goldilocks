/-
  Simp sets used by the proofs about the translated SIMD kernels (core-only).

  `lane_get` : a register-level kernel read at one lane becomes an expression over the 64-bit lane functions of
               `Isa/Vec.lean` (every lane-wise intrinsic of `Isa/Avx2.lean`, the `V4.get_*` lemmas, the register constants;
               `Lemmas/Avx512Nat.lean` adds the lane-wise intrinsics of `Isa/Avx512.lean`, the `V8.get_*` lemmas and
               the masked add / subtract under every unsigned compare predicate, folded to `Lane.ultSel` / `eqSel`).
               Being one closed set, a kernel that starts using another (modelled) intrinsic, renames locals or
               reorders independent statements is still normalised by the same call.
  `lane_nat` : `BitVec.toNat` of a lane expression becomes arithmetic on `Nat` (`+ - * / %`, `if`), with both
               operand orders of the commutative operations and the equivalent idioms (`srli 32` / `movehdup` as
               seen by `mul_epu32`, `slli 32` / `moveldup` as seen by the 0xAA blend, `or` / `add` of disjoint
               bit ranges) mapped to forms `omega` identifies.
-/
import Lean
register_simp_attr lane_get
register_simp_attr lane_nat
