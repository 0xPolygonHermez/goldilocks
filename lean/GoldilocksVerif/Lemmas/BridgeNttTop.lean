/-
  What every bridge theorem about the TRANSLATED `NTT_Goldilocks::NTT` / `INTT` (Gen/NttGen.lean) against the hand model's `ntt` /
  `intt` (Model/Ntt.lean) uses (Lemmas/BridgeNttBuf.lean, BridgeNttBlocks.lean, BridgeNttBufEq.lean): what follows from `ObjIn` (the
  object's blocks exist), the pointer selections, `block_sched` (the column-block schedule on 64-bit words), `ntt_one` (the model's `ntt` with one
  block), `sizes_ok`; `INTT` is `NTT` with `inverse = true` on the selected destination (`INTT_eq_NTT` here, `Model.Ntt.intt_eq_ntt`
  in Lemmas/NttEasy.lean): every `INTT` theorem of the chain is its `NTT` theorem through these two.  At the end `NttPre`: a call
  within the scope of the theorems.
-/
import GoldilocksVerif.Lemmas.BridgeNttSize1
import GoldilocksVerif.Lemmas.NttEasy

namespace GoldilocksVerif.BridgeNtt
open GoldilocksVerif Gen.NttGen

theorem ObjRep.push {hp : Heap} {obj : NTT_Goldilocks} {o : Model.Ntt.Obj} (h : ObjRep hp obj o) (hin : ObjIn hp obj)
    (Z : Block) : ObjRep (hp.push Z) obj o := by
  obtain ⟨i1, i2, i3, i4⟩ := hin
  apply h.frame
  rintro c (rfl | rfl | rfl | rfl)
  · exact Heap.block_push_lt _ _ _ i1
  · exact Heap.block_push_lt _ _ _ i2
  · exact Heap.block_push_lt _ _ _ i3
  · exact Heap.block_push_lt _ _ _ i4

theorem ObjIn.frame_ge {hp : Heap} {obj : NTT_Goldilocks} (h : ObjIn hp obj) (A : Nat) (hA : hp.size ≤ A) : ObjFrame obj A := by
  obtain ⟨a, b, c, d⟩ := h
  exact ⟨by omega, by omega, by omega, by omega⟩

theorem ObjIn.frame_last {hp : Heap} {obj : NTT_Goldilocks} (hin : ObjIn hp obj) : ObjFrame obj hp.size :=
  hin.frame_ge _ (Nat.le_refl _)

theorem ObjIn.mono {hp hp' : Heap} {obj : NTT_Goldilocks} (h : ObjIn hp obj) (hs : hp.size ≤ hp'.size) : ObjIn hp' obj := by
  obtain ⟨a, b, c, d⟩ := h
  exact ⟨by omega, by omega, by omega, by omega⟩

theorem ObjIn.push {hp : Heap} {obj : NTT_Goldilocks} (h : ObjIn hp obj) (Z : Block) : ObjIn (hp.push Z) obj :=
  h.mono (by simp)

theorem ObjIn.lt {hp : Heap} {obj : NTT_Goldilocks} (h : ObjIn hp obj) {c : Nat}
    (hc : c = obj.roots.blk ∨ c = obj.powTwoInv.blk ∨ c = obj.r.blk ∨ c = obj.r_.blk) : c < hp.size := by
  obtain ⟨a, b, c', d⟩ := h
  rcases hc with rfl | rfl | rfl | rfl <;> assumption

theorem ObjFrame.ne_own {obj : NTT_Goldilocks} {A c : Nat} (h : ObjFrame obj A)
    (hc : c = obj.roots.blk ∨ c = obj.powTwoInv.blk ∨ c = obj.r.blk ∨ c = obj.r_.blk) : c ≠ A := by
  obtain ⟨a, b, c', d⟩ := h
  rcases hc with rfl | rfl | rfl | rfl
  exacts [Ne.symm a, Ne.symm b, Ne.symm c', Ne.symm d]

theorem rangeM_one {σ : Type} (s : σ) (f : Nat → σ → Option σ) : Loop.rangeM 0 1 1 s f = f 0 s := by
  unfold Loop.rangeM
  show Loop.rangeMAux 1 f 1 0 s = _
  rw [Loop.rangeMAux_succ]
  cases f 0 s <;> rfl

theorem ptr_beq_null (B : Nat) (hB0 : B ≠ 0) : ((⟨B, 0⟩ : Ptr) == Ptr.null) = false := by
  have h1 : ((⟨B, 0⟩ : Ptr) != ⟨0, 0⟩) = true := by rw [ptr_ne]; simp [hB0]
  show ((⟨B, 0⟩ : Ptr) == ⟨0, 0⟩) = false
  simpa [bne] using h1

theorem clampBlock_gen (nblock : BitVec 64) (NC : Nat) (hNC : NC < 2 ^ 64) (hNC1 : 1 ≤ NC) :
    (if decide ((if decide (nblock < 1#64) = true then 1#64 else nblock) > bv NC) = true then bv NC
      else (if decide (nblock < 1#64) = true then 1#64 else nblock)) = bv (Model.Ntt.clampBlock nblock.toNat NC) := by
  unfold Model.Ntt.clampBlock
  have h1 : decide (nblock < 1#64) = decide (nblock.toNat < 1) := by
    rw [decide_eq_decide, BitVec.lt_def]; rfl
  rw [h1]
  by_cases c1 : nblock.toNat < 1
  · simp only [c1, decide_true, if_true]
    have : ¬ ((1#64 : BitVec 64) > bv NC) := by
      show ¬ (bv NC < bv 1); rw [lt_bv _ _ hNC (by omega)]; omega
    simp only [this, decide_false, Bool.false_eq_true, if_false]
  · simp only [c1, decide_false, Bool.false_eq_true, if_false]
    have h2 : decide (nblock > bv NC) = decide (nblock.toNat > NC) := by
      rw [decide_eq_decide]; show bv NC < nblock ↔ _; rw [BitVec.lt_def, bv_toNat _ hNC]
    rw [h2]
    by_cases c2 : nblock.toNat > NC
    · simp only [c2, decide_true, if_true]
    · simp only [c2, decide_false, Bool.false_eq_true, if_false]
      exact bv_self nblock

/-- the hand model's "destination is the source" flag, given the mode / block correspondence -/
theorem mode_same {mode : Model.Ntt.DstMode} {D Sx : Nat} (hmode : mode = .other ↔ D ≠ Sx) :
    decide (mode ≠ Model.Ntt.DstMode.other) = decide (D = Sx) := by
  rw [decide_eq_decide]
  constructor
  · intro h; by_contra h2; exact h (hmode.mpr h2)
  · intro h h2; exact (hmode.mp h2) h

/-- **the column-block schedule of `NTT` on 64-bit words** — the clamp of `nblock`, `ncols_block`, `ncols_res`,
    `ncols_alloc`, the word count of the two `malloc`s — is the hand model's (`nb`, `q`, `res`, `alloc`) -/
theorem block_sched (nblock : BitVec 64) (K NC nb q res alloc : Nat) (hNC1 : 1 ≤ NC) (hNNC8 : 2 ^ K * NC * 8 < 2 ^ 64)
    (hnb : nb = Model.Ntt.clampBlock nblock.toNat NC) (hq : q = NC / nb) (hres : res = NC % nb)
    (halloc : alloc = q + if res > 0 then 1 else 0) :
    (1 ≤ nb ∧ nb ≤ NC ∧ alloc ≤ NC) ∧
    (if decide ((if decide (nblock < 1#64) = true then 1#64 else nblock) > bv NC) = true then bv NC
      else (if decide (nblock < 1#64) = true then 1#64 else nblock)) = bv nb ∧
    decide (bv nb > 1#64) = decide (nb > 1) ∧ (bv nb).toNat = nb ∧
    bv NC / bv nb = bv q ∧ bv NC % bv nb = bv res ∧ decide (bv res > 0#64) = decide (res > 0) ∧
    (if decide (res > 0) = true then bv q + 1#64 else bv q) = bv alloc ∧
    (8#64 * bv (2 ^ K) * bv alloc).toNat / 8 = 2 ^ K * alloc := by
  have hNpos : 0 < 2 ^ K := Nat.two_pow_pos K
  have hNCle : NC ≤ 2 ^ K * NC := Nat.le_mul_of_pos_left NC hNpos
  have hNC64 : NC < 2 ^ 64 := by omega
  have hrange : 1 ≤ nb ∧ nb ≤ NC := by
    rw [hnb]; unfold Model.Ntt.clampBlock
    split
    · omega
    · split <;> omega
  obtain ⟨hnb1, hnbNC⟩ := hrange
  have hresnb : res < nb := by rw [hres]; exact Nat.mod_lt _ (by omega)
  have hqNC : q ≤ NC := by rw [hq]; exact Nat.div_le_self _ _
  have hallocNC : alloc ≤ NC := by
    rw [halloc]
    by_cases h : res > 0
    · rw [if_pos h]
      have h1 := Nat.div_add_mod NC nb
      rw [← hq, ← hres] at h1
      have h2 : q ≤ nb * q := Nat.le_mul_of_pos_left q (by omega)
      omega
    · rw [if_neg h]; omega
  have hNa : 2 ^ K * alloc ≤ 2 ^ K * NC := Nat.mul_le_mul_left _ hallocNC
  refine ⟨⟨hnb1, hnbNC, hallocNC⟩, ?_, ?_, bv_toNat _ (by omega), ?_, ?_, ?_, ?_, ?_⟩
  · rw [hnb]; exact clampBlock_gen nblock NC hNC64 hNC1
  · exact decide_lt_bv 1 nb (by omega) (by omega)
  · rw [hq]; exact bv_div _ _ hNC64 (by omega)
  · rw [hres]; exact bv_mod _ _ hNC64 (by omega)
  · exact decide_lt_bv 0 res (by omega) (by omega)
  · rw [halloc]; exact bv_succ_if q (res > 0)
  · have h8 : (8#64 : BitVec 64) = bv 8 := rfl
    have e8 : 8 * 2 ^ K * alloc = 2 ^ K * alloc * 8 := by rw [Nat.mul_assoc, Nat.mul_comm]
    rw [h8, bv_mul, bv_mul, e8, bv_toNat _ (by omega)]
    omega

theorem ntt_one (o : Model.Ntt.Obj) (mode : Model.Ntt.DstMode) (dstB srcB : Model.Ntt.Buf) (same : Bool)
    (hsame : decide (mode ≠ Model.Ntt.DstMode.other) = same) (N NC nphase nblock : Nat) (inverse extend : Bool)
    (hN1 : 1 ≤ N) (hNC1 : 1 ≤ NC) (hnb : Model.Ntt.clampBlock nblock NC = 1) :
    Model.Ntt.ntt o mode dstB srcB N NC nphase nblock inverse extend =
      Model.Ntt.nttIters o dstB srcB (Array.replicate (N * NC) 0#64) same N 0 NC NC nphase inverse extend := by
  unfold Model.Ntt.ntt
  rw [if_neg (by omega), hnb]
  unfold Model.Ntt.nttBlocks
  have e1 : NC / 1 + (if NC % 1 > 0 then 1 else 0) = NC := by
    rw [Nat.div_one, Nat.mod_one]; rfl
  simp only [e1, hsame, Nat.le_refl, if_true]

theorem bv_beq_zero (n : Nat) (h1 : 1 ≤ n) (h64 : n < 2 ^ 64) : (bv n == 0#64) = false :=
  beq_eq_false_iff_ne.mpr (bv_ne_zero n h1 h64)

theorem sizes_ok {K N NC : Nat} (hK : K ≤ 30) (hN : N = 2 ^ K) (hNNC8 : N * NC * 8 < 2 ^ 64) :
    1 ≤ N ∧ N < 2 ^ 64 ∧ NC < 2 ^ 64 ∧ NC ≤ N * NC := by
  have hNpos : 0 < N := pow2_pos hN
  have hN30 : N ≤ 2 ^ 30 := pow2_le hN hK
  have hNCle : NC ≤ N * NC := Nat.le_mul_of_pos_left NC hNpos
  omega

/-- **`INTT` = `NTT` with `inverse = true`** on the selected destination `D`, however the selection is written (if / else on a
    local, `?:` on `dst != NULL`, …) -/
theorem INTT_eq_NTT (fuel : Nat) (hp : Heap) (self : NTT_Goldilocks) (dst src D : Ptr)
    (hdst : (if (dst == Ptr.null) = true then src else dst) = D) (N NC : Nat) (hN1 : 1 ≤ N) (hN64 : N < 2 ^ 64) (hNC1 : 1 ≤ NC)
    (hNC64 : NC < 2 ^ 64) (buffer : Ptr) (nphase nblock : BitVec 64) (extend : Bool) :
    NTT_INTT fuel hp self dst src (bv N) (bv NC) buffer nphase nblock extend =
      NTT_NTT fuel hp self D src (bv N) (bv NC) buffer nphase nblock true extend := by
  unfold NTT_INTT
  rw [bv_beq_zero NC hNC1 hNC64, bv_beq_zero N hN1 hN64]
  simp only [Bool.or_false, Bool.false_eq_true, if_false, bind_some_id]
  ptr_norm at hdst ⊢
  simp only [hdst]

/-- `INTT(NULL, src)` passes `src` on as destination: the mode / block correspondence is kept -/
theorem mode_intt {mode : Model.Ntt.DstMode} {P : Prop} (hmode : mode = .other ↔ P) :
    (if mode = .null then Model.Ntt.DstMode.same else mode) = .other ↔ P := by
  rw [← hmode]
  cases mode <;> simp

theorem sel_self (D : Nat) (hD0 : D ≠ 0) (src : Ptr) :
    (if ((⟨D, 0⟩ : Ptr) == Ptr.null) = true then src else (⟨D, 0⟩ : Ptr)) = ⟨D, 0⟩ := by
  rw [ptr_beq_null D hD0]; rfl

/-- the selection as `NTT_iters` writes it (`dst != NULL ? dst : src`) -/
theorem sel_nonnull (D : Nat) (hD0 : D ≠ 0) (src : Ptr) :
    (if ((⟨D, 0⟩ : Ptr) != Ptr.null) = true then (⟨D, 0⟩ : Ptr) else src) = ⟨D, 0⟩ := by
  have : ((⟨D, 0⟩ : Ptr) != Ptr.null) = true := by
    show ((⟨D, 0⟩ : Ptr) != ⟨0, 0⟩) = true
    rw [ptr_ne]; simp [hD0]
  rw [if_pos this]

/-- a call of `NTT` / `INTT` with destination block `D`, source block `Sx`, `N = 2^K` rows of `NC` columns, within the scope of the
    bridge theorems: the object state represents `o`, its blocks exist, the destination is none of them -/
structure NttPre (hp : Heap) (obj : NTT_Goldilocks) (o : Model.Ntt.Obj) (D Sx K N NC : Nat) (extend : Bool) : Prop where
  rep : ObjRep hp obj o
  oin : ObjIn hp obj
  hD : D < hp.size
  hSx : Sx < hp.size
  frD : ObjFrame obj D
  hK : K ≤ 30
  hN : N = 2 ^ K
  hKs : K ≤ o.s
  hos : o.s ≤ 32
  hNC1 : 1 ≤ NC
  hNNC8 : N * NC * 8 < 2 ^ 64
  hext31 : o.extension < 2 ^ 31
  hcache : extend = true → o.rcache ≠ none

theorem NttPre.push {hp : Heap} {obj : NTT_Goldilocks} {o : Model.Ntt.Obj} {D Sx K N NC : Nat} {extend : Bool}
    (h : NttPre hp obj o D Sx K N NC extend) (Z : Block) : NttPre (hp.push Z) obj o D Sx K N NC extend :=
  { h with rep := h.rep.push h.oin Z, oin := h.oin.push Z, hD := by have := h.hD; simp; omega,
           hSx := by have := h.hSx; simp; omega }

end GoldilocksVerif.BridgeNtt
