/-
  Bridge: the TRANSLATED Merkle builders `merkletree_seq` and `merkletree_avx` (Gen/MerkleGen.lean, regenerated from
  poseidon_goldilocks.cpp on every run: the two `#pragma omp parallel for` loops sequentially, `while (pending > 1)` as a
  fuel-bounded fold, `floor((pending - 1) / 2) + 1` through `F64`) build `Model.merkleTree` of Model/Sponge.lean.

    * `mt_seq_generic`, `mt_avx_generic`: both generated builders EQUAL the reference text `mtGenG LH H` (kept here),
      instantiated with the translated linear hash `LH` and the translated capacity-sized hash `H` they call.  Proved
      extensionally by `gen_equiv` (Lemmas/BridgeEquiv.lean), not by `rfl`: the number / names / captured variables of the
      lifted loop bodies, hoisted invariants (`row_size`, `parentIndex`), `(i*c)*d` vs `i*(c*d)`, `x >> 1` vs `x / 2`,
      copy-then-zero vs zero-then-copy of the node input, inverted `if`s do not matter; a change of an offset, a length, a
      callee or the loop structure does.
    * `fill_spec`: a counted loop whose iteration m hands out `buf + c·m` to a writer of c words `D m` (and nothing else)
      leaves `(range N).flatMap D` in the first c·N words.  Every leaf loop of the eight builders has this form (c = 4;
      c = 8 for the AVX512 builders in Lemmas/BridgeMerkle512.lean), and so has the inner loop over the column batches
      (Lemmas/BridgeMerkleBatch.lean).  Per leaf loop one pair of lemmas, `…LeafG_fill` (the lifted body has this form) and
      `…LeafG_writer` (what the handed-out block receives): `fill_spec` turns the pair into what the leaf phase computes,
      Props/C12.lean into "the iterations in any order".
    * `mtTailG`: everything after the leaf phase (`while (pending > 1)` with its initialisation) is ONE text for all eight
      builders; `mtTailG_spec` (from `levels_from`): if the leaf phase returns a buffer whose first 4·2^k words are `leaves`
      and which is otherwise the old buffer, the builder returns `treeOfLeaves node 2^k leaves` in the first
      4·(2·2^k − 1) words and writes nothing else.
    * `mtGenG_spec`: for every `LH`, `H` that satisfy the contracts `LeafHash` (what Lemmas/BridgeSponge.lean proves about
      the translated linear hashes) and `NodeHash`, the reference text builds `merkleTree leaf (fun x => nodeF (x ++ zeros 4))`.
-/
import GoldilocksVerif.Gen.MerkleGen
import GoldilocksVerif.Lemmas.MerkleL
import GoldilocksVerif.Lemmas.BridgeSponge
set_option linter.unusedSimpArgs false

namespace GoldilocksVerif
open Model Gen.MerkleGen

/-! ### the generated text, generic in the two hash calls -/

def mtLeafG (LH : Nat → Region → Region → BitVec 64 → Option Region) (fuel : Nat) (input : Region)
    (num_cols dim : BitVec 64) (i : Nat) (st__ : Region) : Option Region :=
  let tree := st__
  (LH fuel (Region.shift tree (4 * i)) (Region.shift input ((((BitVec.ofNat 64 i) * num_cols) * dim)).toNat) (num_cols * dim)).bind fun r_1 =>
  let tree := (Region.unshift tree (4 * i) r_1)
  some tree

def mtNodeG (H : Region → Region → Region) (pending nextIndex : BitVec 64) (i : Nat) (st__ : Region) : Option Region :=
  let tree := st__
  let pol_input : Region := Region.zero
  let pol_input := (Region.zeroN pol_input 12)
  let pol_input := (Region.copyN pol_input (Region.shift tree ((nextIndex + (BitVec.ofNat 64 (8 * i)))).toNat) 8)
  let r_3 := H (Region.shift tree ((nextIndex + ((pending + (BitVec.ofNat 64 i)) * 4#64))).toNat) pol_input
  let tree := (Region.unshift tree ((nextIndex + ((pending + (BitVec.ofNat 64 i)) * 4#64))).toNat r_3)
  some tree

def mtLevelG (H : Region → Region → Region) (st__ : Region × BitVec 64 × BitVec 64 × BitVec 64) :
    Option (Bool × (Region × BitVec 64 × BitVec 64 × BitVec 64)) :=
  let tree := st__.1
  let nextIndex := st__.2.1
  let pending := st__.2.2.1
  let nextN := st__.2.2.2
  if (decide (pending > 1#64)) then
    (Loop.rangeM 0 (nextN).toNat 1 tree (mtNodeG H pending nextIndex)).bind fun st_4 =>
    let tree := st_4
    let nextIndex := (nextIndex + (pending * 4#64))
    let pending := (pending / 2#64)
    let nextN := (F64.toU64 (F64.add (F64.floor (F64.ofU64 ((pending - 1#64) / 2#64))) (F64.ofNat 1)))
    some (true, (tree, nextIndex, pending, nextN))
  else
    some (false, (tree, nextIndex, pending, nextN))

def mtGenG (LH : Nat → Region → Region → BitVec 64 → Option Region) (H : Region → Region → Region) (fuel : Nat)
    (tree input : Region) (num_cols num_rows : BitVec 64) (nThreads : Int) (dim : BitVec 64) : Option Region :=
  if (num_rows == 0#64) then
    some tree
  else
    let nThreads := if (decide ((nThreads : Int) = (0 : Int))) then Omp.maxThreads else nThreads
    (Loop.rangeM 0 (num_rows).toNat 1 tree (mtLeafG LH fuel input num_cols dim)).bind fun st_2 =>
    let tree := st_2
    let pending : BitVec 64 := num_rows
    let nextN : BitVec 64 := (F64.toU64 (F64.add (F64.floor (F64.ofU64 ((pending - 1#64) / 2#64))) (F64.ofNat 1)))
    let nextIndex : BitVec 64 := 0#64
    (Loop.whileM (mtLevelG H) fuel (tree, nextIndex, pending, nextN)).bind fun st_5 =>
    let tree := st_5.1
    some tree

theorem mt_seq_generic (fuel : Nat) (tree input : Region) (num_cols num_rows : BitVec 64) (nThreads : Int) (dim : BitVec 64) :
    Pos_merkletree_seq fuel tree input num_cols num_rows nThreads dim =
      mtGenG Gen.LinearHashGen.Pos_linear_hash_seq Gen.PosScalar.Pos_hash_seq fuel tree input num_cols num_rows nThreads dim := by
  delta mtGenG mtLevelG mtNodeG mtLeafG
  delta_prefix "Gen.MerkleGen."
  gen_equiv

theorem mt_avx_generic (fuel : Nat) (tree input : Region) (num_cols num_rows : BitVec 64) (nThreads : Int) (dim : BitVec 64) :
    Pos_merkletree_avx fuel tree input num_cols num_rows nThreads dim =
      mtGenG Gen.LinearHashGen.Pos_linear_hash Gen.PosAvx2.Pos_hash fuel tree input num_cols num_rows nThreads dim := by
  delta mtGenG mtLevelG mtNodeG mtLeafG
  delta_prefix "Gen.MerkleGen."
  gen_equiv

theorem nextN_val (x : BitVec 64) (h : x.toNat + 1 < 2 ^ 53) :
    (F64.toU64 (F64.add (F64.floor (F64.ofU64 x)) (F64.ofNat 1))).toNat = x.toNat + 1 := by
  have h53 : (2 : Nat) ^ 53 = 9007199254740992 := by decide
  unfold F64.toU64 F64.add F64.floor F64.ofU64 F64.ofNat
  rw [F64.round_small x.toNat (by omega), F64.round_small 1 (by omega), F64.round_small (x.toNat + 1) (by omega)]
  rw [BitVec.toNat_ofNat]
  omega

theorem half_pow (j : Nat) : ((2 : Nat) ^ j - 1) / 2 + 1 = if j = 0 then 1 else 2 ^ (j - 1) := by
  cases j with
  | zero => rfl
  | succ j =>
    have h2 : (2 : Nat) ^ (j + 1) = 2 * 2 ^ j := by rw [Nat.pow_succ]; omega
    have hpos : 0 < 2 ^ j := Nat.two_pow_pos j
    simp only [Nat.succ_ne_zero, if_false, Nat.add_sub_cancel]
    omega

/-- `nextN = floor((pending - 1) / 2) + 1` for `pending = 2^j`: half of it, and 1 for a single node -/
theorem nextN_pow (p : BitVec 64) (j : Nat) (hp : p.toNat = 2 ^ j) (hj : 2 ^ j ≤ 2 ^ 48) :
    (F64.toU64 (F64.add (F64.floor (F64.ofU64 ((p - 1#64) / 2#64))) (F64.ofNat 1))).toNat =
      (if j = 0 then 1 else 2 ^ (j - 1)) := by
  have hpos : 0 < 2 ^ j := Nat.two_pow_pos j
  have ex : ((p - 1#64) / 2#64).toNat = (2 ^ j - 1) / 2 := by
    rw [BitVec.toNat_udiv, BitVec.toNat_sub, hp]
    show (2 ^ 64 - 1 + 2 ^ j) % 2 ^ 64 / 2 = _
    omega
  rw [nextN_val _ (by rw [ex]; omega), ex, half_pow]

/-- row i of the input (w = cols·dim words per row) -/
def rowOf (input : Region) (w i : Nat) : List Wd := Region.toList (Region.shift input (i * w)) w
def rowsOf (input : Region) (w R : Nat) : List (List Wd) := (List.range R).map (rowOf input w)

theorem rangeM_zero_one {σ : Type} (R : Nat) (s : σ) (f : Nat → σ → Option σ) :
    Loop.rangeM 0 R 1 s f = Loop.rangeMAux 1 f R 0 s := Loop.rangeM_step_one 0 R s f

def DigestWriter (c : Nat) (G : Region → Option Region) (D : List Wd) : Prop :=
  ∀ out, ∃ out', G out = some out' ∧ Region.toList out' c = D ∧ ∀ k, c ≤ k → out' k = out k

theorem fill_spec (c : Nat) (f : Nat → Region → Option Region) (G : Nat → Region → Option Region) (D : Nat → List Wd)
    (N : Nat)
    (hf : ∀ m, m < N → ∀ t, f m t = (G m (Region.shift t (c * m))).bind fun r => some (Region.unshift t (c * m) r))
    (hG : ∀ m, m < N → DigestWriter c (G m) (D m)) (t : Region) :
    ∃ t', Loop.rangeMAux 1 f N 0 t = some t' ∧ Region.toList t' (c * N) = (List.range N).flatMap D ∧
      ∀ j, c * N ≤ j → t' j = t j := by
  refine Loop.rangeMAux_inv f
    (fun m t' => Region.toList t' (c * m) = (List.range m).flatMap D ∧ ∀ j, c * m ≤ j → t' j = t j) N ?_ N 0 t
    (by omega) ⟨by simp [Region.toList], fun j _ => rfl⟩
  intro m tm hm ⟨hl, hfr⟩
  obtain ⟨out', ho, hd, hofr⟩ := hG m hm (Region.shift tm (c * m))
  have e : c * (m + 1) = c * m + c := Nat.mul_succ c m
  refine ⟨Region.unshift tm (c * m) out', by rw [hf m hm, ho]; rfl, ?_, fun j hj => ?_⟩
  · rw [e, Region.toList_add, Region.toList_unshift_of_le _ _ (Nat.le_refl _), Region.shift_unshift, hl, hd,
      List.range_succ, List.flatMap_append]
    simp
  · rw [Region.unshift_apply_of_frame hofr (by omega)]
    exact hfr j (by omega)

/-- the leaf loop of `merkletree_seq` / `merkletree_avx` is in the form `fill_spec` asks for (c = 4) -/
theorem mtLeafG_fill (LH : Nat → Region → Region → BitVec 64 → Option Region) (fuel : Nat) (input : Region)
    (num_cols dim : BitVec 64) (m : Nat) (t : Region) :
    mtLeafG LH fuel input num_cols dim m t =
      ((fun m out => LH fuel out (Region.shift input ((((BitVec.ofNat 64 m) * num_cols) * dim)).toNat) (num_cols * dim)) m
        (Region.shift t (4 * m))).bind fun r => some (Region.unshift t (4 * m) r) := by
  unfold mtLeafG
  rfl

theorem mtLeafG_writer (LH : Nat → Region → Region → BitVec 64 → Option Region) (leaf : List Wd → List Wd)
    (hLH : LeafHash LH leaf) (fuel : Nat) (input : Region) (num_cols dim : BitVec 64) (hfu : (num_cols * dim).toNat < fuel)
    (m : Nat) :
    DigestWriter 4 (fun out => LH fuel out (Region.shift input ((((BitVec.ofNat 64 m) * num_cols) * dim)).toNat) (num_cols * dim))
      (leaf (Region.toList (Region.shift input ((((BitVec.ofNat 64 m) * num_cols) * dim)).toNat) (num_cols * dim).toNat)) := by
  intro out
  exact hLH fuel out _ _ hfu

theorem flatMap_congr_range (g g' : Nat → List Wd) (n : Nat) (h : ∀ j, j < n → g j = g' j) :
    (List.range n).flatMap g = (List.range n).flatMap g' := by
  induction n with
  | zero => rfl
  | succ n ih =>
    rw [List.range_succ, List.flatMap_append, List.flatMap_append, ih (fun j hj => h j (by omega))]
    simp [h n (by omega)]

theorem mt_leaves (LH : Nat → Region → Region → BitVec 64 → Option Region) (leaf : List Wd → List Wd)
    (hLH : LeafHash LH leaf) (fuel : Nat) (input tree : Region) (num_cols dim : BitVec 64) (R w : Nat)
    (hw : (num_cols * dim).toNat = w) (hidx : ∀ i, i < R → (((BitVec.ofNat 64 i) * num_cols) * dim).toNat = i * w)
    (hf : w < fuel) :
    ∃ t, Loop.rangeM 0 R 1 tree (mtLeafG LH fuel input num_cols dim) = some t ∧
      Region.toList t (4 * R) = (rowsOf input w R).flatMap leaf ∧ ∀ j, 4 * R ≤ j → t j = tree j := by
  rw [rangeM_zero_one]
  obtain ⟨t, h1, h2, h3⟩ := fill_spec 4 _ _ _ R (fun m _ t => mtLeafG_fill LH fuel input num_cols dim m t)
    (fun m _ => mtLeafG_writer LH leaf hLH fuel input num_cols dim (by rw [hw]; exact hf) m) tree
  refine ⟨t, h1, ?_, h3⟩
  rw [h2, rowsOf, List.flatMap_map]
  exact flatMap_congr_range _ _ R fun i hi => by rw [hw, hidx i hi]; rfl

theorem pol_input_list (t : Region) (a : Nat) :
    Region.toList (Region.copyN (Region.zeroN Region.zero 12) (Region.shift t a) 8) 12 =
      Region.toList (Region.shift t a) 8 ++ zeros 4 := by
  apply List.ext_getElem?
  intro j
  simp only [Region.getElem?_toList, List.getElem?_append, List.getElem?_replicate, Region.length_toList, zeros,
    Region.copyN_apply, Region.zeroN_apply, Region.shift_apply]
  split_ifs <;> first | rfl | omega

/-- the lifted level body with the offsets as natural numbers: node `i` of the level of `p` nodes stored from word `ni` -/
def nodeStepR (H : Region → Region → Region) (ni p i : Nat) (t : Region) : Region :=
  Region.unshift t (ni + 4 * p + 4 * i)
    (H (Region.shift t (ni + 4 * p + 4 * i)) (Region.copyN (Region.zeroN Region.zero 12) (Region.shift t (ni + 8 * i)) 8))

/-- the generated body is `nodeStepR` as long as the 64-bit offsets do not wrap -/
theorem node_some (H : Region → Region → Region) (pending nextIndex : BitVec 64) (ni p m : Nat) (hni : nextIndex.toNat = ni) (hp : pending.toNat = p)
    (hm : 2 * m ≤ p) (hsmall : ni + 8 * p < 2 ^ 60) (i : Nat) (hi : i < m) (t : Region) :
    mtNodeG H pending nextIndex i t = some (nodeStepR H ni p i t) := by
  have e_rd : (nextIndex + (BitVec.ofNat 64 (8 * i))).toNat = ni + 8 * i := by
    rw [BitVec.toNat_add, BitVec.toNat_ofNat, hni]; omega
  have e_wr : (nextIndex + ((pending + (BitVec.ofNat 64 i)) * 4#64)).toNat = ni + 4 * p + 4 * i := by
    rw [BitVec.toNat_add, BitVec.toNat_mul, BitVec.toNat_add, BitVec.toNat_ofNat, hni, hp]
    show (ni + (p + i % 2 ^ 64) % 2 ^ 64 * 4 % 2 ^ 64) % 2 ^ 64 = _
    omega
  unfold mtNodeG nodeStepR
  dsimp only
  rw [e_rd, e_wr]

theorem mt_level (H : Region → Region → Region) (nodeF : List Wd → List Wd) (hH : NodeHash H nodeF)
    (t : Region) (pending nextIndex : BitVec 64) (ni p m : Nat)
    (hni : nextIndex.toNat = ni) (hp : pending.toNat = p) (hm : 2 * m = p) (hsmall : ni + 8 * p < 2 ^ 60) :
    ∃ t', Loop.rangeM 0 m 1 t (mtNodeG H pending nextIndex) = some t' ∧
      Region.toList (Region.shift t' (ni + 4 * p)) (4 * m) =
        nextLevel (fun x => nodeF (x ++ zeros 4)) m (Region.toList (Region.shift t ni) (4 * p)) ∧
      (∀ j, j < ni + 4 * p → t' j = t j) ∧ (∀ j, ni + 4 * p + 4 * m ≤ j → t' j = t j) := by
  refine Loop.rangeM_inv (mtNodeG H pending nextIndex)
    (fun i ti => Region.toList (Region.shift ti (ni + 4 * p)) (4 * i) =
        nextLevel (fun x => nodeF (x ++ zeros 4)) i (Region.toList (Region.shift t ni) (4 * p)) ∧
      (∀ j, j < ni + 4 * p → ti j = t j) ∧ (∀ j, ni + 4 * p + 4 * i ≤ j → ti j = t j))
    0 m (Nat.zero_le _)
    (by
      intro i ti _ hi ⟨hl, hlo, hhi⟩
      obtain ⟨hd, hfr⟩ := hH (Region.shift ti (ni + 4 * p + 4 * i))
        (Region.copyN (Region.zeroN Region.zero 12) (Region.shift ti (ni + 8 * i)) 8)
      refine ⟨nodeStepR H ni p i ti, node_some H pending nextIndex ni p m hni hp (by omega) hsmall i hi ti, ?_, ?_, ?_⟩
      all_goals unfold nodeStepR
      · have e4 : 4 * (i + 1) = 4 * i + 4 := by omega
        have ek : ni + 4 * p + 4 * i = (ni + 4 * p) + 4 * i := rfl
        rw [e4, Region.toList_add, nextLevel_snoc, ← hl, Region.shift_shift, ← ek, Region.shift_unshift, hd,
          pol_input_list, Region.toList_drop_take _ (by omega), Region.shift_shift]
        congr 1
        · exact Region.toList_congr fun j hj => by
            rw [Region.shift_apply, Region.shift_apply, Region.unshift_apply, if_neg (by omega)]
        · congr 2
          exact Region.toList_congr fun j hj => by
            rw [Region.shift_apply, Region.shift_apply, hlo _ (by omega)]
      · intro j hj
        rw [Region.unshift_apply, if_neg (by omega)]
        exact hlo j hj
      · intro j hj
        rw [Region.unshift_apply_of_frame hfr (by omega)]
        exact hhi j (by omega))
    t ⟨by simp [Region.toList, nextLevel], fun j _ => rfl, fun j _ => rfl⟩

theorem pow_le_48 (j : Nat) (h : j ≤ 48) : (2 : Nat) ^ j ≤ 2 ^ 48 := Nat.pow_le_pow_right (by omega) h

/-- `while (pending > 1)` started on a level of `2^j` nodes stored from word `ni`: the levels above it are appended behind
    it, nothing else changes. -/
theorem levels_from (H : Region → Region → Region) (nodeF : List Wd → List Wd) (hH : NodeHash H nodeF) :
    ∀ (j fuel : Nat) (t : Region) (nextIndex pending nextN : BitVec 64) (ni : Nat),
      pending.toNat = 2 ^ j → nextIndex.toNat = ni → nextN.toNat = (if j = 0 then 1 else 2 ^ (j - 1)) →
      j ≤ 48 → ni + 8 * 2 ^ j ≤ 2 ^ 52 → j < fuel →
      ∃ s', Loop.whileM (mtLevelG H) fuel (t, nextIndex, pending, nextN) = some s' ∧
        Region.toList (Region.shift s'.1 ni) (4 * (2 * 2 ^ j - 1)) =
          Region.toList (Region.shift t ni) (4 * 2 ^ j) ++
            upperLevels (fun x => nodeF (x ++ zeros 4)) j (2 ^ j) (Region.toList (Region.shift t ni) (4 * 2 ^ j)) ∧
        ∀ i, i < ni ∨ ni + 4 * (2 * 2 ^ j - 1) ≤ i → s'.1 i = t i := by
  intro j
  induction j with
  | zero =>
    intro fuel t nextIndex pending nextN ni hp _ _ _ _ hf
    obtain ⟨f, rfl⟩ : ∃ f, fuel = f + 1 := ⟨fuel - 1, by omega⟩
    have hc : (decide (pending > 1#64)) = false := by
      rw [decide_eq_false_iff_not, gt_iff_lt, BitVec.lt_def, hp]; decide
    refine ⟨_, Loop.whileM_stop _ _ _ _ (by unfold mtLevelG; simp only [hc, Bool.false_eq_true, if_false]; rfl), ?_,
      fun _ _ => rfl⟩
    rw [Nat.pow_zero, upperLevels_one, List.append_nil]
  | succ j ih =>
    intro fuel t nextIndex pending nextN ni hp hni hnn hj hsm hf
    obtain ⟨f, rfl⟩ : ∃ f, fuel = f + 1 := ⟨fuel - 1, by omega⟩
    have h2 : (2 : Nat) ^ (j + 1) = 2 * 2 ^ j := by rw [Nat.pow_succ]; omega
    have hjpos : 0 < 2 ^ j := Nat.two_pow_pos j
    have h52 : (2 : Nat) ^ 52 = 4503599627370496 := by decide
    have h60 : (2 : Nat) ^ 60 = 1152921504606846976 := by decide
    have hc : (decide (pending > 1#64)) = true := by
      rw [decide_eq_true_iff, gt_iff_lt, BitVec.lt_def, hp]; show 1 < _; omega
    have hnn' : nextN.toNat = 2 ^ j := by simpa using hnn
    obtain ⟨t', hr, hlvl, hlo, hhi⟩ := mt_level H nodeF hH t pending nextIndex ni (2 ^ (j + 1)) (2 ^ j) hni hp (by omega)
      (by omega)
    have e_ni : (nextIndex + (pending * 4#64)).toNat = ni + 4 * 2 ^ (j + 1) := by
      rw [BitVec.toNat_add, BitVec.toNat_mul, hni, hp]
      show (ni + 2 ^ (j + 1) * 4 % 2 ^ 64) % 2 ^ 64 = _
      omega
    have e_p : (pending / 2#64).toNat = 2 ^ j := by
      rw [BitVec.toNat_udiv, hp]; show 2 ^ (j + 1) / 2 = _; omega
    have e_n := nextN_pow (pending / 2#64) j e_p (pow_le_48 j (by omega))
    obtain ⟨s', hw, hl, hfr⟩ := ih f t' _ _ _ (ni + 4 * 2 ^ (j + 1)) e_p e_ni e_n (by omega) (by omega) (by omega)
    refine ⟨s', ?_, ?_, fun i hi => ?_⟩
    · have hs : mtLevelG H (t, nextIndex, pending, nextN) = some (true, (t', nextIndex + (pending * 4#64), pending / 2#64,
          F64.toU64 (F64.add (F64.floor (F64.ofU64 ((pending / 2#64 - 1#64) / 2#64))) (F64.ofNat 1)))) := by
        unfold mtLevelG
        simp only [hc, if_true, hnn']
        rw [hr]
        rfl
      rw [Loop.whileM_next _ _ _ _ hs]
      exact hw
    · have e : 4 * (2 * 2 ^ (j + 1) - 1) = 4 * 2 ^ (j + 1) + 4 * (2 * 2 ^ j - 1) := by omega
      rw [e, Region.toList_add, Region.shift_shift, hl, hlvl, upperLevels_succ]
      refine congrArg (· ++ _) (Region.toList_congr fun x hx => ?_)
      rw [Region.shift_apply, Region.shift_apply, hfr _ (.inl (by omega)), hlo _ (by omega)]
    · rw [hfr i (by omega)]
      rcases hi with hi | hi
      · exact hlo i (by omega)
      · exact hhi i (by omega)

theorem row_index (num_cols dim : BitVec 64) (R i : Nat) (hi : i < R)
    (hprod : R * (num_cols.toNat * dim.toNat) < 2 ^ 64) :
    (((BitVec.ofNat 64 i) * num_cols) * dim).toNat = i * (num_cols.toNat * dim.toNat) := by
  have hlt : i * (num_cols.toNat * dim.toNat) < 2 ^ 64 :=
    Nat.lt_of_le_of_lt (Nat.mul_le_mul_right _ (Nat.le_of_lt hi)) hprod
  rw [BitVec.toNat_mul, BitVec.toNat_mul, BitVec.toNat_ofNat, Nat.mod_mul_mod, Nat.mul_assoc, Nat.mod_mul_mod]
  exact Nat.mod_eq_of_lt hlt

/-- leaves followed by the levels above them (`Model.merkleTree` with the leaf level given) -/
def treeOfLeaves (node : List Wd → List Wd) (n : Nat) (leaves : List Wd) : List Wd :=
  leaves ++ upperLevels node n n leaves

theorem merkleTree_eq_treeOfLeaves (leaf node : List Wd → List Wd) (input : Region) (w R : Nat) :
    merkleTree leaf node (rowsOf input w R) =
      treeOfLeaves node R ((List.range R).flatMap (fun i => leaf (rowOf input w i))) := by
  unfold merkleTree rowsOf treeOfLeaves
  simp only [List.length_map, List.length_range, List.flatMap_map]

/-- everything after the leaf phase -/
def mtTailG (H : Region → Region → Region) (fuel : Nat) (leafPhase : Option Region) (num_rows : BitVec 64) : Option Region :=
  leafPhase.bind fun st_2 =>
  let tree := st_2
  let pending : BitVec 64 := num_rows
  let nextN : BitVec 64 := (F64.toU64 (F64.add (F64.floor (F64.ofU64 ((pending - 1#64) / 2#64))) (F64.ofNat 1)))
  let nextIndex : BitVec 64 := 0#64
  (Loop.whileM (mtLevelG H) fuel (tree, nextIndex, pending, nextN)).bind fun st_5 =>
  let tree := st_5.1
  some tree

theorem mtTailG_spec (H : Region → Region → Region) (nodeF : List Wd → List Wd) (hH : NodeHash H nodeF)
    (fuel : Nat) (tree : Region) (num_rows : BitVec 64) (k : Nat)
    (hR : num_rows.toNat = 2 ^ k) (hk : k ≤ 48) (hf2 : 2 ^ k < fuel)
    (lp : Option Region) (leaves : List Wd)
    (hlp : ∃ t0, lp = some t0 ∧ Region.toList t0 (4 * 2 ^ k) = leaves ∧ ∀ j, 4 * 2 ^ k ≤ j → t0 j = tree j) :
    ∃ t, mtTailG H fuel lp num_rows = some t ∧
      Region.toList t (4 * (2 * 2 ^ k - 1)) = treeOfLeaves (fun x => nodeF (x ++ zeros 4)) (2 ^ k) leaves ∧
      ∀ i, 4 * (2 * 2 ^ k - 1) ≤ i → t i = tree i := by
  obtain ⟨t0, rfl, hl0, hfr0⟩ := hlp
  have hkpos : 0 < 2 ^ k := Nat.two_pow_pos k
  have hk48 := pow_le_48 k hk
  have hkf : k < fuel := Nat.lt_trans Nat.lt_two_pow_self hf2
  obtain ⟨s', hw', hM, hfr⟩ := levels_from H nodeF hH k fuel t0 0#64 num_rows _ 0 hR rfl (nextN_pow num_rows k hR hk48) hk
    (by have h52 : (2 : Nat) ^ 52 = 4503599627370496 := by decide
        have h48 : (2 : Nat) ^ 48 = 281474976710656 := by decide
        omega) hkf
  rw [Region.shift_zero, Region.shift_zero, hl0] at hM
  refine ⟨s'.1, ?_, ?_, fun i hi => ?_⟩
  · unfold mtTailG
    simp only [Option.bind_some]
    rw [hw']
    rfl
  · rw [hM, treeOfLeaves, upperLevels_fuel _ k (2 ^ k) k _ (Nat.le_of_lt Nat.lt_two_pow_self) (Nat.le_refl _)]
  · rw [hfr i (.inr (by omega))]
    exact hfr0 i (by omega)

theorem rows_ne_zero (num_rows : BitVec 64) (k : Nat) (hR : num_rows.toNat = 2 ^ k) : ¬ (num_rows == 0#64) = true := by
  rw [beq_iff_eq]
  intro h
  have hpos : 0 < 2 ^ k := Nat.two_pow_pos k
  rw [h] at hR
  exact absurd hR (by rw [BitVec.toNat_ofNat]; omega)

theorem row_width (num_cols dim : BitVec 64) (k : Nat) (hprod : 2 ^ k * (num_cols.toNat * dim.toNat) < 2 ^ 64) :
    (num_cols * dim).toNat = num_cols.toNat * dim.toNat := by
  rw [BitVec.toNat_mul]
  exact Nat.mod_eq_of_lt (Nat.lt_of_le_of_lt (Nat.le_mul_of_pos_left _ (Nat.two_pow_pos k)) hprod)

/-- the generated builder `mtGenG LH H` builds `Model.merkleTree` for rows = 2^k -/
theorem mtGenG_spec (LH : Nat → Region → Region → BitVec 64 → Option Region) (leaf : List Wd → List Wd)
    (hLH : LeafHash LH leaf) (H : Region → Region → Region) (nodeF : List Wd → List Wd) (hH : NodeHash H nodeF)
    (fuel : Nat) (tree input : Region) (num_cols num_rows : BitVec 64) (nThreads : Int) (dim : BitVec 64) (k : Nat)
    (hR : num_rows.toNat = 2 ^ k) (hk : k ≤ 48) (hprod : 2 ^ k * (num_cols.toNat * dim.toNat) < 2 ^ 64)
    (hf1 : num_cols.toNat * dim.toNat < fuel) (hf2 : 2 ^ k < fuel) :
    ∃ t, mtGenG LH H fuel tree input num_cols num_rows nThreads dim = some t ∧
      Region.toList t (4 * (2 * 2 ^ k - 1)) =
        merkleTree leaf (fun x => nodeF (x ++ zeros 4)) (rowsOf input (num_cols.toNat * dim.toNat) (2 ^ k)) ∧
      ∀ i, 4 * (2 * 2 ^ k - 1) ≤ i → t i = tree i := by
  have hkpos : 0 < 2 ^ k := Nat.two_pow_pos k
  have hw := row_width num_cols dim k hprod
  have hne := rows_ne_zero num_rows k hR
  rw [merkleTree_eq_treeOfLeaves, ← List.flatMap_map, ← rowsOf]
  show ∃ t, (if (num_rows == 0#64) = true then some tree else
      mtTailG H fuel (Loop.rangeM 0 num_rows.toNat 1 tree (mtLeafG LH fuel input num_cols dim)) num_rows) = some t ∧ _
  rw [if_neg hne, hR]
  exact mtTailG_spec H nodeF hH fuel tree num_rows k hR hk hf2 _ _
    (mt_leaves LH leaf hLH fuel input tree num_cols dim (2 ^ k) _ hw
      (fun i hi => row_index num_cols dim (2 ^ k) i hi hprod) hf1)

end GoldilocksVerif
