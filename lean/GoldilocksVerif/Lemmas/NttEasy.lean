/-
  Structural facts of the transform model that need no DFT reasoning (for all shapes, all inputs):
  size 0 / zero columns are no-ops, a null destination of INTT means in place, the source is returned unchanged
  when the destination is another buffer; the shape of the state of the column-block loop (`nttBlock_loop_inv`).
-/
import GoldilocksVerif.Lemmas.NttArr

namespace GoldilocksVerif.Model.Ntt

theorem ntt_noop (o : Obj) (mode : DstMode) (dstB srcB : Buf) (size ncols nphase nblock : Nat) (inverse extend : Bool)
    (h : ncols = 0 ∨ size = 0) :
    ntt o mode dstB srcB size ncols nphase nblock inverse extend = .ok (if mode = .other then dstB else srcB, srcB) := by
  unfold ntt
  rw [if_pos h]

theorem intt_noop (o : Obj) (mode : DstMode) (dstB srcB : Buf) (size ncols nphase nblock : Nat) (extend : Bool)
    (h : ncols = 0 ∨ size = 0) :
    intt o mode dstB srcB size ncols nphase nblock extend = .ok (if mode = .other then dstB else srcB, srcB) := by
  unfold intt
  rw [if_pos h]

theorem intt_eq_ntt (o : Obj) (mode : DstMode) (dstB srcB : Buf) (size ncols nphase nblock : Nat) (extend : Bool) :
    intt o mode dstB srcB size ncols nphase nblock extend
      = ntt o (if mode = .null then .same else mode) dstB srcB size ncols nphase nblock true extend := by
  unfold intt
  by_cases h : ncols = 0 ∨ size = 0
  · rw [if_pos h, ntt_noop _ _ _ _ _ _ _ _ _ _ h]
    cases mode <;> rfl
  · rw [if_neg h]

theorem intt_null (o : Obj) (dstB srcB : Buf) (size ncols nphase nblock : Nat) (extend : Bool) :
    intt o .null dstB srcB size ncols nphase nblock extend = intt o .same dstB srcB size ncols nphase nblock extend := by
  rw [intt_eq_ntt, intt_eq_ntt]; rfl

theorem nttIters_src (o : Obj) (dstB srcB auxB : Buf) (size oc nc nca np : Nat) (inv ext : Bool) (d s' : Buf)
    (h : nttIters o dstB srcB auxB false size oc nc nca np inv ext = .ok (d, s')) : s' = srcB := by
  unfold nttIters at h
  dsimp only at h
  split at h
  · cases h
  · split at h
    · cases h
    · split at h
      · split at h
        · cases h
        · simp only [Bool.false_eq_true, if_false] at h
          cases h; rfl
      · simp only [Bool.false_eq_true, if_false] at h
        cases h; rfl

/-- width and offset of column block `ib` (`q = ncols / nblock`, `res = ncols % nblock`) -/
def blkW (q res ib : Nat) : Nat := q + (if ib < res then 1 else 0)
def blkOff (q res ib : Nat) : Nat := ib * q + min ib res

theorem blkOff_succ (q res ib : Nat) : blkOff q res (ib + 1) = blkOff q res ib + blkW q res ib := by
  unfold blkOff blkW
  rw [Nat.add_mul, Nat.one_mul]
  by_cases h : ib < res
  · rw [if_pos h, Nat.min_eq_left (by omega), Nat.min_eq_left (by omega)]; omega
  · rw [if_neg h, Nat.min_eq_right (by omega), Nat.min_eq_right (by omega)]; omega

theorem blkOff_mono (q res : Nat) : ∀ i j, i ≤ j → blkOff q res i ≤ blkOff q res j := by
  intro i j hij
  induction j with
  | zero => have : i = 0 := by omega
            subst this; exact Nat.le_refl _
  | succ j ih =>
    by_cases h : i = j + 1
    · subst h; exact Nat.le_refl _
    · have := ih (by omega)
      rw [blkOff_succ]; omega

theorem blkOff_total (ncols nblock : Nat) (h : 0 < nblock) :
    blkOff (ncols / nblock) (ncols % nblock) nblock = ncols := by
  unfold blkOff
  rw [Nat.min_eq_right (Nat.le_of_lt (Nat.mod_lt _ h))]
  exact Nat.div_add_mod ncols nblock

theorem scatterBlock_size (dst d : Buf) (size ncols oc w : Nat) : (scatterBlock dst d size ncols oc w).size = dst.size :=
  iter_size _ _ (fun _ _ => copyRow_size _ _ _ _ _)

/-- the column-block loop keeps its state in shape: after `m` blocks it has aborted, or holds a destination of the initial size,
    the source (the destination itself when they are one buffer) and the column offset of block `m` -/
theorem nttBlock_loop_inv (o : Obj) (aux : Buf) (dstIsSrc : Bool) (size ncols nphase q res alloc : Nat) (inverse extend : Bool)
    (dst0 srcB : Buf) (hs : dstIsSrc = true → dst0 = srcB) (m : Nat) :
    (∃ dst, iter m (.ok (dst0, srcB, 0)) (nttBlock o aux dstIsSrc size ncols nphase q res alloc inverse extend)
        = .ok (dst, if dstIsSrc then dst else srcB, blkOff q res m) ∧ dst.size = dst0.size) ∨
    ∃ e, iter m (.ok (dst0, srcB, 0)) (nttBlock o aux dstIsSrc size ncols nphase q res alloc inverse extend) = .error e := by
  induction m with
  | zero =>
    refine Or.inl ⟨dst0, ?_, rfl⟩
    have e0 : blkOff q res 0 = 0 := by simp [blkOff]
    rw [iter_zero, e0]
    cases dstIsSrc
    · rfl
    · rw [hs rfl]; rfl
  | succ m ih =>
    rw [iter_succ]
    rcases ih with ⟨dst, e, hsz⟩ | ⟨err, e⟩
    · rw [e, blkOff_succ]
      unfold nttBlock
      simp only
      split
      · exact Or.inr ⟨_, rfl⟩
      · rename_i d _ _
        refine Or.inl ⟨scatterBlock dst d size ncols (blkOff q res m) (blkW q res m), ?_, by rw [scatterBlock_size, hsz]⟩
        cases dstIsSrc <;> rfl
    · rw [e]
      exact Or.inr ⟨err, rfl⟩

/-- the same, read off a state that is not an abort -/
theorem nttBlock_loop_ok (o : Obj) (aux : Buf) (dstIsSrc : Bool) (size ncols nphase q res alloc : Nat) (inverse extend : Bool)
    (dst0 srcB : Buf) (hs : dstIsSrc = true → dst0 = srcB) (m : Nat) (st : Buf × Buf × Nat)
    (h : iter m (.ok (dst0, srcB, 0)) (nttBlock o aux dstIsSrc size ncols nphase q res alloc inverse extend) = .ok st) :
    st = (st.1, if dstIsSrc then st.1 else srcB, blkOff q res m) ∧ st.1.size = dst0.size := by
  rcases nttBlock_loop_inv o aux dstIsSrc size ncols nphase q res alloc inverse extend dst0 srcB hs m with ⟨dst, e, hsz⟩ | ⟨err, e⟩
  · rw [e] at h
    injection h with h
    subst h
    exact ⟨rfl, hsz⟩
  · rw [e] at h
    cases h

theorem nttBlocks_src (o : Obj) (dstB srcB : Buf) (size ncols nphase nblock : Nat) (inverse extend : Bool) (d s' : Buf)
    (h : nttBlocks o false dstB srcB size ncols nphase nblock inverse extend = .ok (d, s')) : s' = srcB := by
  unfold nttBlocks at h
  dsimp only at h
  by_cases hb : nblock ≤ 1
  · rw [if_pos hb] at h
    exact nttIters_src _ _ _ _ _ _ _ _ _ _ _ _ _ h
  · rw [if_neg hb] at h
    simp only [Bool.false_eq_true, if_false] at h
    split at h
    · cases h
    · rename_i dst src off heq
      cases h
      have := (nttBlock_loop_ok _ _ false _ _ _ _ _ _ _ _ dstB srcB (fun hh => by cases hh) nblock _ heq).1
      exact (Prod.mk.inj (Prod.mk.inj this).2).1

/-- C03/C04: when the destination is another buffer the source is returned unchanged (all shapes, all inputs) -/
theorem ntt_other_src (o : Obj) (dstB srcB : Buf) (size ncols nphase nblock : Nat) (inverse extend : Bool) (d s' : Buf)
    (h : ntt o .other dstB srcB size ncols nphase nblock inverse extend = .ok (d, s')) : s' = srcB := by
  unfold ntt at h
  split at h
  · cases h; rfl
  · have hm : (decide (DstMode.other ≠ DstMode.other)) = false := by decide
    rw [hm] at h
    exact nttBlocks_src _ _ _ _ _ _ _ _ _ _ _ h

theorem intt_other_src (o : Obj) (dstB srcB : Buf) (size ncols nphase nblock : Nat) (extend : Bool) (d s' : Buf)
    (h : intt o .other dstB srcB size ncols nphase nblock extend = .ok (d, s')) : s' = srcB := by
  rw [intt_eq_ntt] at h
  exact ntt_other_src _ _ _ _ _ _ _ _ _ _ _ h

end GoldilocksVerif.Model.Ntt
