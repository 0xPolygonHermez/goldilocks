/-
  Bridge: the TRANSLATED batched Merkle builders `merkletree_batch_seq` and `merkletree_batch_avx` (Gen/MerkleGen.lean,
  regenerated from poseidon_goldilocks.cpp on every run) build `Model.merkleTree (Model.batchLeaf lh cols dim batch) node`.

    * `mtb_seq_generic`, `mtb_avx_generic`: the two generated batched builders EQUAL the reference text
      (`mtbInnerG`, `mtbLeafG`, then `mtTailG`) instantiated with the translated linear hash and capacity-sized hash they call;
      proved extensionally (`gen_equiv`, Lemmas/BridgeEquiv.lean), see Lemmas/BridgeMerkle.lean.
    * `mtbGenG_spec`: the leaf loop and the inner loop over the column batches through `fill_spec`, the levels through
      `mtTailG_spec` (both in Lemmas/BridgeMerkle.lean).  Beyond the hypotheses of `mtGenG_spec`: cols + batch_size < 2^62
      keeps `nbatches * CAPACITY` from wrapping, and fuel > 4·(cols + 1) is for the second hash of a leaf, over the
      4·nbatches ≤ 4·(cols + 1) words of `buff0`.
  num_cols = 0: nbatches = 1, nlastb = 0: the leaf is lh (lh []) on both sides.
-/
import GoldilocksVerif.Lemmas.BridgeMerkle
set_option linter.unusedSimpArgs false

namespace GoldilocksVerif
open Model Gen.MerkleGen

/-! ### the generated text of the batched builders, generic in the two hash calls -/

def mtbInnerG (LH : Nat → Region → Region → BitVec 64 → Option Region) (fuel : Nat) (input : Region)
    (num_cols batch_size dim nbatches nlastb : BitVec 64) (i j : Nat) (st__ : Region) : Option Region :=
  let buff0 := st__
  let nn : BitVec 64 := batch_size
  let nn := if ((BitVec.ofNat 64 j) == (nbatches - 1#64)) then
      let nn := nlastb
      nn
    else
      nn
  (LH fuel (Region.shift buff0 (4 * j)) (Region.shift input (((((BitVec.ofNat 64 i) * num_cols) * dim) + (((BitVec.ofNat 64 j) * batch_size) * dim))).toNat) (nn * dim)).bind fun r_1 =>
  let buff0 := (Region.unshift buff0 (4 * j) r_1)
  some buff0

def mtbLeafG (LH : Nat → Region → Region → BitVec 64 → Option Region) (fuel : Nat) (input : Region)
    (num_cols batch_size dim nbatches nlastb : BitVec 64) (i : Nat) (st__ : Region) : Option Region :=
  let tree := st__
  let buff0 : Region := Region.zero
  (Loop.rangeM 0 (nbatches).toNat 1 buff0 (mtbInnerG LH fuel input num_cols batch_size dim nbatches nlastb i)).bind fun st_2 =>
  let buff0 := st_2
  (LH fuel (Region.shift tree (4 * i)) buff0 (nbatches * 4#64)).bind fun r_3 =>
  let tree := (Region.unshift tree (4 * i) r_3)
  some tree

/-- `nbatches`, `nlastb` as the code computes them -/
def nbBV (num_cols batch_size : BitVec 64) : BitVec 64 :=
  if (decide (num_cols > 0#64)) then (((num_cols + batch_size) - 1#64) / batch_size) else 1#64
def nlastBV (num_cols batch_size : BitVec 64) : BitVec 64 :=
  (num_cols - ((nbBV num_cols batch_size - 1#64) * batch_size))

def mtbGenG (LH : Nat → Region → Region → BitVec 64 → Option Region) (H : Region → Region → Region) (fuel : Nat)
    (tree input : Region) (num_cols num_rows batch_size : BitVec 64) (dim : BitVec 64) : Option Region :=
  if (num_rows == 0#64) then
    some tree
  else
    mtTailG H fuel (Loop.rangeM 0 (num_rows).toNat 1 tree
      (mtbLeafG LH fuel input num_cols batch_size dim (nbBV num_cols batch_size) (nlastBV num_cols batch_size))) num_rows

theorem mtb_seq_generic (fuel : Nat) (tree input : Region) (num_cols num_rows batch_size : BitVec 64) (nThreads : Int)
    (dim : BitVec 64) :
    Pos_merkletree_batch_seq fuel tree input num_cols num_rows batch_size nThreads dim =
      mtbGenG Gen.LinearHashGen.Pos_linear_hash_seq Gen.PosScalar.Pos_hash_seq fuel tree input num_cols num_rows
        batch_size dim := by
  delta mtbGenG mtTailG mtbLeafG mtbInnerG mtLevelG mtNodeG nlastBV nbBV
  delta_prefix "Gen.MerkleGen."
  gen_equiv

theorem mtb_avx_generic (fuel : Nat) (tree input : Region) (num_cols num_rows batch_size : BitVec 64) (nThreads : Int)
    (dim : BitVec 64) :
    Pos_merkletree_batch_avx fuel tree input num_cols num_rows batch_size nThreads dim =
      mtbGenG Gen.LinearHashGen.Pos_linear_hash Gen.PosAvx2.Pos_hash fuel tree input num_cols num_rows
        batch_size dim := by
  delta mtbGenG mtTailG mtbLeafG mtbInnerG mtLevelG mtNodeG nlastBV nbBV
  delta_prefix "Gen.MerkleGen."
  gen_equiv

/-- `nbatches`, `nlastb`, the width of batch j, over the naturals (as in `Model.batchLeaf`) -/
def nbOf (cols batch : Nat) : Nat := if cols > 0 then (cols + batch - 1) / batch else 1
def nlastOf (cols batch : Nat) : Nat := cols - (nbOf cols batch - 1) * batch
def nnOf (cols batch j : Nat) : Nat := if j = nbOf cols batch - 1 then nlastOf cols batch else batch

theorem nbOf_pos (cols batch : Nat) (hb : 1 ≤ batch) : 1 ≤ nbOf cols batch := by
  unfold nbOf
  by_cases hc : cols > 0
  · rw [if_pos hc]
    exact (Nat.le_div_iff_mul_le (by omega)).2 (by omega)
  · rw [if_neg hc]; omega

theorem nbOf_le (cols batch : Nat) (hb : 1 ≤ batch) : nbOf cols batch ≤ cols + 1 := by
  unfold nbOf
  by_cases hc : cols > 0
  · rw [if_pos hc]
    have h1 : cols + batch - 1 ≤ batch * cols := by
      obtain ⟨c', rfl⟩ : ∃ c', cols = c' + 1 := ⟨cols - 1, by omega⟩
      have : c' ≤ batch * c' := Nat.le_mul_of_pos_left _ (by omega)
      rw [Nat.mul_succ]; omega
    have := Nat.div_le_of_le_mul h1
    omega
  · rw [if_neg hc]; omega

theorem nb_pred_mul_le (cols batch : Nat) (hb : 1 ≤ batch) : (nbOf cols batch - 1) * batch ≤ cols := by
  unfold nbOf
  by_cases hc : cols > 0
  · rw [if_pos hc]
    have h1 := Nat.div_mul_le_self (cols + batch - 1) batch
    have h2 : 1 ≤ (cols + batch - 1) / batch := (Nat.le_div_iff_mul_le (by omega)).2 (by omega)
    rw [Nat.sub_mul, Nat.one_mul]
    omega
  · rw [if_neg hc]; simp

theorem nlast_add (cols batch : Nat) (hb : 1 ≤ batch) : (nbOf cols batch - 1) * batch + nlastOf cols batch = cols := by
  have := nb_pred_mul_le cols batch hb
  unfold nlastOf
  omega

theorem batch_in_cols (cols batch j : Nat) (hb : 1 ≤ batch) (hj : j < nbOf cols batch) :
    j * batch + nnOf cols batch j ≤ cols := by
  have h2 := nlast_add cols batch hb
  unfold nnOf
  by_cases hl : j = nbOf cols batch - 1
  · rw [if_pos hl, hl]; omega
  · rw [if_neg hl]
    have h3 : (j + 1) * batch ≤ (nbOf cols batch - 1) * batch := Nat.mul_le_mul_right _ (by omega)
    rw [Nat.succ_mul] at h3
    omega

theorem batch_in_row (cols batch dim j : Nat) (hb : 1 ≤ batch) (hj : j < nbOf cols batch) :
    j * batch * dim + nnOf cols batch j * dim ≤ cols * dim := by
  rw [← Nat.add_mul]
  exact Nat.mul_le_mul_right _ (batch_in_cols cols batch j hb hj)

theorem mul3_toNat (x y z : BitVec 64) (h : x.toNat * y.toNat * z.toNat < 2 ^ 64) :
    ((x * y) * z).toNat = x.toNat * y.toNat * z.toNat := by
  rw [BitVec.toNat_mul, BitVec.toNat_mul, Nat.mod_mul_mod]
  exact Nat.mod_eq_of_lt h

theorem ofNat_toNat_lt (j : Nat) (h : j < 2 ^ 64) : (BitVec.ofNat 64 j).toNat = j := by
  rw [BitVec.toNat_ofNat]
  exact Nat.mod_eq_of_lt h

theorem nbBV_toNat (num_cols batch_size : BitVec 64) (hb : 1 ≤ batch_size.toNat)
    (hcb : num_cols.toNat + batch_size.toNat < 2 ^ 64) :
    (nbBV num_cols batch_size).toNat = nbOf num_cols.toNat batch_size.toNat := by
  have h1 : (1#64 : BitVec 64).toNat = 1 := rfl
  have h0 : (0#64 : BitVec 64).toNat = 0 := rfl
  unfold nbBV nbOf
  by_cases hc : num_cols > 0#64
  · have hc' : num_cols.toNat > 0 := by rw [gt_iff_lt, BitVec.lt_def, h0] at hc; exact hc
    rw [if_pos (by simpa using hc), if_pos hc', BitVec.toNat_udiv, BitVec.toNat_sub, BitVec.toNat_add, h1]
    congr 1
    omega
  · have hc' : ¬ num_cols.toNat > 0 := by rw [gt_iff_lt, BitVec.lt_def, h0] at hc; exact hc
    rw [if_neg (by simpa using hc), if_neg hc', h1]

theorem nlastBV_toNat (num_cols batch_size : BitVec 64) (hb : 1 ≤ batch_size.toNat)
    (hcb : num_cols.toNat + batch_size.toNat < 2 ^ 64) :
    (nlastBV num_cols batch_size).toNat = nlastOf num_cols.toNat batch_size.toNat := by
  have h1 : (1#64 : BitVec 64).toNat = 1 := rfl
  have hnb := nbBV_toNat num_cols batch_size hb hcb
  have hpos := nbOf_pos num_cols.toNat batch_size.toNat hb
  have hle := nb_pred_mul_le num_cols.toNat batch_size.toNat hb
  have e1 : (nbBV num_cols batch_size - 1#64).toNat = nbOf num_cols.toNat batch_size.toNat - 1 := by
    rw [BitVec.toNat_sub, hnb, h1]; omega
  have e2 : ((nbBV num_cols batch_size - 1#64) * batch_size).toNat =
      (nbOf num_cols.toNat batch_size.toNat - 1) * batch_size.toNat := by
    rw [BitVec.toNat_mul, e1]
    exact Nat.mod_eq_of_lt (by omega)
  unfold nlastBV nlastOf
  rw [BitVec.toNat_sub, e2]
  omega

/-- the size `nbatches * CAPACITY` of `buff0`, the input of the second hash of a batched leaf -/
theorem buff0_len (nbatches : BitVec 64) (c b : Nat) (hb : 1 ≤ b) (hcb : c + b < 2 ^ 62) (hnb : nbatches.toNat = nbOf c b) :
    (nbatches * 4#64).toNat = 4 * nbOf c b := by
  have hnble := nbOf_le c b hb
  have h4 : (4#64 : BitVec 64).toNat = 4 := rfl
  rw [BitVec.toNat_mul, hnb, h4]
  omega

theorem batchLeaf_eq (lh : List Wd → List Wd) (c d b : Nat) (row : List Wd) :
    batchLeaf lh c d b row =
      lh ((List.range (nbOf c b)).flatMap fun j => lh ((row.drop (j * b * d)).take (nnOf c b j * d))) := rfl

/-- word offset of batch j of row i, as the code computes it -/
theorem batch_offset (num_cols batch_size dim : BitVec 64) (c b d R i j : Nat)
    (hc : num_cols.toNat = c) (hbv : batch_size.toNat = b) (hd : dim.toNat = d) (hb : 1 ≤ b) (hi : i < R)
    (hj : j < nbOf c b) (hprod : R * (c * d) < 2 ^ 64) :
    (((BitVec.ofNat 64 i) * num_cols) * dim + ((BitVec.ofNat 64 j) * batch_size) * dim).toNat = i * (c * d) + j * b * d := by
  have hrow := batch_in_row c b d j hb hj
  have hR : (i + 1) * (c * d) ≤ R * (c * d) := Nat.mul_le_mul_right _ (by omega)
  rw [Nat.succ_mul] at hR
  have hjlt : j < 2 ^ 64 := by
    have := nbOf_le c b hb
    have : c < 2 ^ 64 := by rw [← hc]; exact num_cols.isLt
    omega
  have e1 : (((BitVec.ofNat 64 i) * num_cols) * dim).toNat = i * (c * d) := by
    have := row_index num_cols dim R i hi (by rw [hc, hd]; exact hprod)
    rw [hc, hd] at this
    exact this
  have e2 : (((BitVec.ofNat 64 j) * batch_size) * dim).toNat = j * b * d := by
    have := mul3_toNat (BitVec.ofNat 64 j) batch_size dim (by rw [ofNat_toNat_lt j hjlt, hbv, hd]; omega)
    rw [ofNat_toNat_lt j hjlt, hbv, hd] at this
    exact this
  rw [BitVec.toNat_add, e1, e2]
  exact Nat.mod_eq_of_lt (by omega)

theorem batch_width (batch_size dim nbatches nlastb : BitVec 64) (c b d j : Nat)
    (hbv : batch_size.toNat = b) (hd : dim.toNat = d) (hb : 1 ≤ b) (hcd : c * d < 2 ^ 64)
    (hnb : nbatches.toNat = nbOf c b) (hnl : nlastb.toNat = nlastOf c b) (hj : j < nbOf c b) :
    ((if ((BitVec.ofNat 64 j) == (nbatches - 1#64)) then nlastb else batch_size) * dim).toNat = nnOf c b j * d := by
  have h1 : (1#64 : BitVec 64).toNat = 1 := rfl
  have hrow := batch_in_row c b d j hb hj
  have hpos := nbOf_pos c b hb
  have hjlt : j < 2 ^ 64 := by
    have := nbOf_le c b hb
    omega
  have epred : (nbatches - 1#64).toNat = nbOf c b - 1 := by
    rw [BitVec.toNat_sub, hnb, h1]; omega
  by_cases hl : j = nbOf c b - 1
  · have hcond : ((BitVec.ofNat 64 j) == (nbatches - 1#64)) = true := by
      rw [beq_iff_eq]
      exact BitVec.eq_of_toNat_eq (by rw [ofNat_toNat_lt j hjlt, epred, hl])
    have hnn : nnOf c b j = nlastOf c b := by unfold nnOf; rw [if_pos hl]
    rw [if_pos hcond, BitVec.toNat_mul, hnl, hd, hnn]
    rw [hnn] at hrow
    exact Nat.mod_eq_of_lt (by omega)
  · have hcond : ¬ ((BitVec.ofNat 64 j) == (nbatches - 1#64)) = true := by
      rw [beq_iff_eq]
      intro h
      have := congrArg BitVec.toNat h
      rw [ofNat_toNat_lt j hjlt, epred] at this
      exact hl this
    have hnn : nnOf c b j = b := by unfold nnOf; rw [if_neg hl]
    rw [if_neg hcond, BitVec.toNat_mul, hbv, hd, hnn]
    rw [hnn] at hrow
    exact Nat.mod_eq_of_lt (by omega)

/-- the inner loop over the column batches of row i: `buff0` = the batch digests in order -/
theorem mtb_inner (LH : Nat → Region → Region → BitVec 64 → Option Region) (leaf : List Wd → List Wd)
    (hLH : LeafHash LH leaf) (fuel : Nat) (input : Region) (num_cols batch_size dim nbatches nlastb : BitVec 64)
    (c b d R i : Nat) (hc : num_cols.toNat = c) (hbv : batch_size.toNat = b) (hd : dim.toNat = d) (hb : 1 ≤ b)
    (hi : i < R) (hprod : R * (c * d) < 2 ^ 64)
    (hnb : nbatches.toNat = nbOf c b) (hnl : nlastb.toNat = nlastOf c b) (hf1 : c * d < fuel) :
    ∃ b0, Loop.rangeM 0 nbatches.toNat 1 Region.zero
        (mtbInnerG LH fuel input num_cols batch_size dim nbatches nlastb i) = some b0 ∧
      Region.toList b0 (4 * nbOf c b) =
        (List.range (nbOf c b)).flatMap fun j =>
          leaf (((rowOf input (c * d) i).drop (j * b * d)).take (nnOf c b j * d)) := by
  have hR : (i + 1) * (c * d) ≤ R * (c * d) := Nat.mul_le_mul_right _ (by omega)
  rw [Nat.succ_mul] at hR
  obtain ⟨b0, h1, h2, _⟩ := fill_spec 4 (mtbInnerG LH fuel input num_cols batch_size dim nbatches nlastb i)
    (fun j out => LH fuel out
      (Region.shift input (((((BitVec.ofNat 64 i) * num_cols) * dim) + (((BitVec.ofNat 64 j) * batch_size) * dim))).toNat)
      ((if ((BitVec.ofNat 64 j) == (nbatches - 1#64)) then nlastb else batch_size) * dim))
    (fun j => leaf (((rowOf input (c * d) i).drop (j * b * d)).take (nnOf c b j * d)))
    (nbOf c b) (fun j _ t => rfl)
    (by
      intro j hj out
      have hrow := batch_in_row c b d j hb hj
      have ew := batch_width batch_size dim nbatches nlastb c b d j hbv hd hb (by omega) hnb hnl hj
      have eo := batch_offset num_cols batch_size dim c b d R i j hc hbv hd hb hi hj hprod
      obtain ⟨out', ho, hdg, hofr⟩ := hLH fuel out
        (Region.shift input (((((BitVec.ofNat 64 i) * num_cols) * dim) + (((BitVec.ofNat 64 j) * batch_size) * dim))).toNat)
        ((if ((BitVec.ofNat 64 j) == (nbatches - 1#64)) then nlastb else batch_size) * dim) (by rw [ew]; omega)
      refine ⟨out', ho, ?_, hofr⟩
      rw [hdg, ew, eo]
      unfold rowOf
      rw [Region.toList_drop_take _ hrow, Region.shift_shift])
    Region.zero
  exact ⟨b0, by rw [rangeM_zero_one, hnb]; exact h1, h2⟩

/-- the leaf loop of the batched builders is in the form `fill_spec` asks for (c = 4): `buff0` is built from the input only -/
theorem mtbLeafG_fill (LH : Nat → Region → Region → BitVec 64 → Option Region) (fuel : Nat) (input : Region)
    (num_cols batch_size dim nbatches nlastb : BitVec 64) (i : Nat) (t : Region) :
    mtbLeafG LH fuel input num_cols batch_size dim nbatches nlastb i t =
      ((fun i out => (Loop.rangeM 0 nbatches.toNat 1 Region.zero
          (mtbInnerG LH fuel input num_cols batch_size dim nbatches nlastb i)).bind fun st_2 =>
        LH fuel out st_2 (nbatches * 4#64)) i (Region.shift t (4 * i))).bind fun r => some (Region.unshift t (4 * i) r) := by
  unfold mtbLeafG
  dsimp only
  cases (Loop.rangeM 0 nbatches.toNat 1 Region.zero
    (mtbInnerG LH fuel input num_cols batch_size dim nbatches nlastb i)) <;> rfl

theorem mtbLeafG_writer (LH : Nat → Region → Region → BitVec 64 → Option Region) (leaf : List Wd → List Wd)
    (hLH : LeafHash LH leaf) (fuel : Nat) (input : Region) (num_cols batch_size dim nbatches nlastb : BitVec 64)
    (c b d R : Nat) (hc : num_cols.toNat = c) (hbv : batch_size.toNat = b) (hd : dim.toNat = d) (hb : 1 ≤ b)
    (hprod : R * (c * d) < 2 ^ 64) (hcb : c + b < 2 ^ 62)
    (hnb : nbatches.toNat = nbOf c b) (hnl : nlastb.toNat = nlastOf c b) (hf1 : c * d < fuel) (hf3 : 4 * (c + 1) < fuel)
    (i : Nat) (hi : i < R) :
    DigestWriter 4 (fun out => (Loop.rangeM 0 nbatches.toNat 1 Region.zero
        (mtbInnerG LH fuel input num_cols batch_size dim nbatches nlastb i)).bind fun st_2 =>
      LH fuel out st_2 (nbatches * 4#64)) (batchLeaf leaf c d b (rowOf input (c * d) i)) := by
  have hnble := nbOf_le c b hb
  have e4 := buff0_len nbatches c b hb hcb hnb
  intro out
  obtain ⟨b0, hb0, hl0⟩ := mtb_inner LH leaf hLH fuel input num_cols batch_size dim nbatches nlastb c b d R i hc hbv hd hb
    hi hprod hnb hnl hf1
  obtain ⟨out', ho, hdg, hofr⟩ := hLH fuel out b0 (nbatches * 4#64) (by rw [e4]; omega)
  refine ⟨out', by rw [hb0]; exact ho, ?_, hofr⟩
  rw [hdg, e4, hl0, batchLeaf_eq]

theorem mtb_leaves (LH : Nat → Region → Region → BitVec 64 → Option Region) (leaf : List Wd → List Wd)
    (hLH : LeafHash LH leaf) (fuel : Nat) (input tree : Region) (num_cols batch_size dim nbatches nlastb : BitVec 64)
    (c b d R : Nat) (hc : num_cols.toNat = c) (hbv : batch_size.toNat = b) (hd : dim.toNat = d) (hb : 1 ≤ b)
    (hprod : R * (c * d) < 2 ^ 64) (hcb : c + b < 2 ^ 62)
    (hnb : nbatches.toNat = nbOf c b) (hnl : nlastb.toNat = nlastOf c b) (hf1 : c * d < fuel) (hf3 : 4 * (c + 1) < fuel) :
    ∃ t, Loop.rangeM 0 R 1 tree (mtbLeafG LH fuel input num_cols batch_size dim nbatches nlastb) = some t ∧
      Region.toList t (4 * R) = (List.range R).flatMap (fun i => batchLeaf leaf c d b (rowOf input (c * d) i)) ∧
      ∀ j, 4 * R ≤ j → t j = tree j := by
  rw [rangeM_zero_one]
  exact fill_spec 4 _ _ _ R (fun i _ t => mtbLeafG_fill LH fuel input num_cols batch_size dim nbatches nlastb i t)
    (fun i hi => mtbLeafG_writer LH leaf hLH fuel input num_cols batch_size dim nbatches nlastb c b d R hc hbv hd hb hprod hcb
      hnb hnl hf1 hf3 i hi) tree

/-- the generated batched builder `mtbGenG LH H` builds `Model.merkleTree (Model.batchLeaf leaf ..)` for rows = 2^k -/
theorem mtbGenG_spec (LH : Nat → Region → Region → BitVec 64 → Option Region) (leaf : List Wd → List Wd)
    (hLH : LeafHash LH leaf) (H : Region → Region → Region) (nodeF : List Wd → List Wd) (hH : NodeHash H nodeF)
    (fuel : Nat) (tree input : Region) (num_cols num_rows batch_size : BitVec 64) (dim : BitVec 64) (k : Nat)
    (hR : num_rows.toNat = 2 ^ k) (hk : k ≤ 48) (hprod : 2 ^ k * (num_cols.toNat * dim.toNat) < 2 ^ 64)
    (hb : 1 ≤ batch_size.toNat) (hcb : num_cols.toNat + batch_size.toNat < 2 ^ 62)
    (hf1 : num_cols.toNat * dim.toNat < fuel) (hf2 : 2 ^ k < fuel) (hf3 : 4 * (num_cols.toNat + 1) < fuel) :
    ∃ t, mtbGenG LH H fuel tree input num_cols num_rows batch_size dim = some t ∧
      Region.toList t (4 * (2 * 2 ^ k - 1)) =
        merkleTree (batchLeaf leaf num_cols.toNat dim.toNat batch_size.toNat) (fun x => nodeF (x ++ zeros 4))
          (rowsOf input (num_cols.toNat * dim.toNat) (2 ^ k)) ∧
      ∀ i, 4 * (2 * 2 ^ k - 1) ≤ i → t i = tree i := by
  have hkpos : 0 < 2 ^ k := Nat.two_pow_pos k
  have hne := rows_ne_zero num_rows k hR
  unfold mtbGenG
  rw [if_neg hne, merkleTree_eq_treeOfLeaves]
  refine mtTailG_spec H nodeF hH fuel tree num_rows k hR hk hf2 _ _ ?_
  rw [hR]
  exact mtb_leaves LH leaf hLH fuel input tree num_cols batch_size dim _ _ _ _ _ (2 ^ k) rfl rfl rfl hb hprod hcb
    (nbBV_toNat num_cols batch_size hb (by omega)) (nlastBV_toNat num_cols batch_size hb (by omega)) hf1 hf3

end GoldilocksVerif
