/-
  Bridge theorems: the TRANSLATED `NTT` / `INTT` called WITH a caller scratch buffer (any content, one column block) against the
  hand model's `nttIters` run with that buffer as `aux`; with the field-level specification of `nttIters` (which holds for
  every `aux` of sufficient size, `nttIters_spec'` of Lemmas/NttIters.lean) this gives the transform property for the caller-buffer call shape.
-/
import GoldilocksVerif.Lemmas.BridgeNttTop
import GoldilocksVerif.Lemmas.NttTop

namespace GoldilocksVerif.BridgeNtt
open GoldilocksVerif Gen.NttGen

/-- `X'`: the caller's buffer block is left holding the other ping-pong buffer -/
theorem NTT_gen_buf_iters (fuel : Nat) (hp : Heap) (self : NTT_Goldilocks) (o : Model.Ntt.Obj)
    (hrep : ObjRep hp self o) (D Sx B : Nat) (hD : D < hp.size) (hB : B < hp.size) (hD0 : D ≠ 0) (hB0 : B ≠ 0)
    (hDB : D ≠ B) (hSB : Sx ≠ B) (hfrD : ObjFrame self D) (hfrB : ObjFrame self B)
    (dst : Ptr) (hdst : (if (dst == Ptr.null) = true then (⟨Sx, 0⟩ : Ptr) else dst) = ⟨D, 0⟩)
    (K N NC : Nat) (nphase nblock : BitVec 64) (inverse extend : Bool)
    (hK : K ≤ 30) (hN : N = 2 ^ K) (hKs : K ≤ o.s) (hos : o.s ≤ 32) (hNC1 : 1 ≤ NC)
    (hNNC8 : N * NC * 8 < 2 ^ 64) (hext31 : o.extension < 2 ^ 31) (hcache : extend = true → o.rcache ≠ none)
    (hnb : Model.Ntt.clampBlock nblock.toNat NC = 1) (hf : itersFuel self K NC ≤ fuel) :
    match Model.Ntt.nttIters o (hp.block D) (hp.block Sx) (hp.block B) (decide (D = Sx)) N 0 NC NC nphase.toNat inverse extend with
    | .ok (d, _) => ∃ X', NTT_NTT fuel hp self dst ⟨Sx, 0⟩ (bv N) (bv NC) ⟨B, 0⟩ nphase nblock inverse extend =
        some ((hp.setBlock D d).setBlock B X') ∧ X'.size = (hp.block B).size
    | .error _ => NTT_NTT fuel hp self dst ⟨Sx, 0⟩ (bv N) (bv NC) ⟨B, 0⟩ nphase nblock inverse extend = none := by
  subst hN
  obtain ⟨hN1, hN64, hNC64, hNCle⟩ := sizes_ok hK rfl hNNC8
  obtain ⟨_, hclamp, hgt, _, hdiv, hmod, hresd, hallocg, _⟩ := block_sched nblock K NC 1 NC 0 NC hNC1 hNNC8 hnb.symm
    (Nat.div_one _).symm (Nat.mod_one _).symm rfl
  have hlt0 : decide (BitVec.ofNat 64 0 < bv 0) = false := by decide
  have hit := nttIters_gen_all fuel hp self o hrep D Sx B hD hB hDB hSB hfrD hfrB ⟨D, 0⟩ (sel_nonnull D hD0 _)
    K (2 ^ K) 0 NC NC nphase inverse extend hK rfl hKs hos (by omega) (by omega) (by omega) hext31 hcache hf
  unfold NTT_NTT
  rw [bv_beq_zero NC hNC1 hNC64, bv_beq_zero (2 ^ K) hN1 hN64]
  simp only [Bool.or_false, Bool.false_eq_true, if_false, hclamp, hgt, hdiv, hmod, hresd, hallocg, gt_iff_lt, Nat.lt_irrefl,
    decide_false, ptr_beq_null B hB0, hdst]
  have h1n : (bv 1).toNat = 1 := rfl
  rw [h1n, rangeM_one]
  unfold NTT_NTT_loop2
  simp only [hlt0, Bool.false_eq_true, if_false, hgt, gt_iff_lt, Nat.lt_irrefl, decide_false]
  have hz : (0#64 : BitVec 64) = bv 0 := rfl
  rw [hz]
  cases hr : Model.Ntt.nttIters o (hp.block D) (hp.block Sx) (hp.block B) (decide (D = Sx)) (2 ^ K) 0 NC NC
      nphase.toNat inverse extend with
  | error e =>
    rw [hr] at hit
    simp only [] at hit
    rw [hit]
    rfl
  | ok v =>
    obtain ⟨d, s'⟩ := v
    rw [hr] at hit
    obtain ⟨X', hX, hXs⟩ := hit
    rw [hX]
    exact ⟨X', rfl, hXs⟩

theorem NTT_gen_buf (fuel : Nat) (hf : 64 ≤ fuel) (hp : Heap) (self : NTT_Goldilocks) (o : Model.Ntt.Obj)
    (hrep : ObjRep hp self o) (D Sx B : Nat) (hD : D < hp.size) (hB : B < hp.size) (hD0 : D ≠ 0) (hB0 : B ≠ 0)
    (hDB : D ≠ B) (hSB : Sx ≠ B) (hfrD : ObjFrame self D) (hfrB : ObjFrame self B)
    (dst : Ptr) (hdst : (if (dst == Ptr.null) = true then (⟨Sx, 0⟩ : Ptr) else dst) = ⟨D, 0⟩)
    (K N NC : Nat) (nphase nblock : BitVec 64) (inverse extend : Bool)
    (hK1 : 1 ≤ K) (hK : K ≤ 30) (hN : N = 2 ^ K) (hKs : K ≤ o.s) (hos : o.s ≤ 32) (hNC1 : 1 ≤ NC)
    (hNNC8 : N * NC * 8 < 2 ^ 64) (hext31 : o.extension < 2 ^ 31) (hcache : extend = true → o.rcache ≠ none)
    (hnb : Model.Ntt.clampBlock nblock.toNat NC = 1) :
    match Model.Ntt.nttIters o (hp.block D) (hp.block Sx) (hp.block B) (decide (D = Sx)) N 0 NC NC nphase.toNat inverse extend with
    | .ok (d, _) => ∃ X', NTT_NTT fuel hp self dst ⟨Sx, 0⟩ (bv N) (bv NC) ⟨B, 0⟩ nphase nblock inverse extend =
        some ((hp.setBlock D d).setBlock B X') ∧ X'.size = (hp.block B).size
    | .error _ => NTT_NTT fuel hp self dst ⟨Sx, 0⟩ (bv N) (bv NC) ⟨B, 0⟩ nphase nblock inverse extend = none :=
  NTT_gen_buf_iters fuel hp self o hrep D Sx B hD hB hD0 hB0 hDB hSB hfrD hfrB dst hdst K N NC nphase nblock inverse extend hK hN
    hKs hos hNC1 hNNC8 hext31 hcache hnb (itersFuel_le self K NC fuel hf (by omega))

theorem INTT_gen_buf (fuel : Nat) (hf : 64 ≤ fuel) (hp : Heap) (self : NTT_Goldilocks) (o : Model.Ntt.Obj)
    (hrep : ObjRep hp self o) (D Sx B : Nat) (hD : D < hp.size) (hB : B < hp.size) (hD0 : D ≠ 0) (hB0 : B ≠ 0)
    (hDB : D ≠ B) (hSB : Sx ≠ B) (hfrD : ObjFrame self D) (hfrB : ObjFrame self B)
    (dst : Ptr) (hdst : (if (dst == Ptr.null) = true then (⟨Sx, 0⟩ : Ptr) else dst) = ⟨D, 0⟩)
    (K N NC : Nat) (nphase nblock : BitVec 64) (extend : Bool)
    (hK1 : 1 ≤ K) (hK : K ≤ 30) (hN : N = 2 ^ K) (hKs : K ≤ o.s) (hos : o.s ≤ 32) (hNC1 : 1 ≤ NC)
    (hNNC8 : N * NC * 8 < 2 ^ 64) (hext31 : o.extension < 2 ^ 31) (hcache : extend = true → o.rcache ≠ none)
    (hnb : Model.Ntt.clampBlock nblock.toNat NC = 1) :
    match Model.Ntt.nttIters o (hp.block D) (hp.block Sx) (hp.block B) (decide (D = Sx)) N 0 NC NC nphase.toNat true extend with
    | .ok (d, _) => ∃ X', NTT_INTT fuel hp self dst ⟨Sx, 0⟩ (bv N) (bv NC) ⟨B, 0⟩ nphase nblock extend =
        some ((hp.setBlock D d).setBlock B X') ∧ X'.size = (hp.block B).size
    | .error _ => NTT_INTT fuel hp self dst ⟨Sx, 0⟩ (bv N) (bv NC) ⟨B, 0⟩ nphase nblock extend = none := by
  obtain ⟨hN1, hN64, hNC64, hNCle⟩ := sizes_ok hK hN hNNC8
  rw [INTT_eq_NTT fuel hp self dst ⟨Sx, 0⟩ ⟨D, 0⟩ hdst N NC hN1 hN64 hNC1 hNC64]
  exact NTT_gen_buf fuel hf hp self o hrep D Sx B hD hB hD0 hB0 hDB hSB hfrD hfrB ⟨D, 0⟩ (sel_self D hD0 _) K N NC nphase nblock
    true extend hK1 hK hN hKs hos hNC1 hNNC8 hext31 hcache hnb

section spec
open GoldilocksVerif.Model.Ntt GoldilocksVerif.NttSpec

theorem nttIters_forward (o : Obj) (Dm : Nat) (hO : ObjOk o Dm) (dstB srcB auxB : Buf) (dstIsSrc : Bool) (d nc nphase : Nat)
    (hd : d ≤ Dm) (hdst : 2 ^ d * nc ≤ (if dstIsSrc then srcB else dstB).size) (haux : 2 ^ d * nc ≤ auxB.size) :
    ∃ out, nttIters o dstB srcB auxB dstIsSrc (2 ^ d) 0 nc nc nphase false false = .ok (out, if dstIsSrc then out else srcB) ∧
      out.size = (if dstIsSrc then srcB else dstB).size ∧
      ∀ k c, k < 2 ^ d → c < nc → cell out nc k c = dft (omega d) (2 ^ d) (fun j => cell srcB nc j c) k := by
  have hO' := hO.mono hd
  obtain ⟨out, e, s, c⟩ := nttIters_spec' o dstB srcB auxB dstIsSrc d 0 nc nc nphase false false hO'.dle hO'.roots hdst haux
    (by omega) (fun _ => ⟨rfl, rfl⟩)
  refine ⟨out, e, s, ?_⟩
  intro k c' hk hc
  rw [c k c' hk hc, outSpec_fwd _ _ _ _ _ hk]
  apply dft_congr
  intro j _
  rw [xin_cell, if_pos (Or.inl hO.ext), Nat.zero_add]

theorem nttIters_inverse (o : Obj) (Dm : Nat) (hO : ObjOk o Dm) (dstB srcB auxB : Buf) (dstIsSrc : Bool) (d nc nphase : Nat)
    (hd : d ≤ Dm) (hdst : 2 ^ d * nc ≤ (if dstIsSrc then srcB else dstB).size) (haux : 2 ^ d * nc ≤ auxB.size) :
    ∃ out, nttIters o dstB srcB auxB dstIsSrc (2 ^ d) 0 nc nc nphase true false = .ok (out, if dstIsSrc then out else srcB) ∧
      out.size = (if dstIsSrc then srcB else dstB).size ∧
      ∀ k c, k < 2 ^ d → c < nc → cell out nc k c = idft (omega d) (2 ^ d) (fun j => cell srcB nc j c) k := by
  have hO' := hO.mono hd
  obtain ⟨out, e, s, c⟩ := nttIters_spec' o dstB srcB auxB dstIsSrc d 0 nc nc nphase true false hO'.dle hO'.roots hdst haux
    (by omega) (fun _ => ⟨rfl, rfl⟩)
  refine ⟨out, e, s, ?_⟩
  intro k c' hk hc
  rw [c k c' hk hc]
  have hx : ∀ j, j < 2 ^ d → xin o srcB (2 ^ d) nc 0 c' j = cell srcB nc j c' := by
    intro j _; rw [xin_cell, if_pos (Or.inl hO.ext), Nat.zero_add]
  rw [outSpec_congr o d true false _ _ k hx]
  unfold outSpec
  by_cases hd0 : d = 0
  · subst hd0
    have : k = 0 := by simpa using hk
    subst this
    rw [if_pos rfl]
    unfold idft
    simp
  · rw [if_neg hd0]
    simp only [if_true]
    rw [mul_comm]
    apply idft_scaled
    have := hO'.pti d (Nat.le_refl _)
    unfold scaleFactor
    simp only [Bool.false_eq_true, if_false]
    push_cast
    exact this

end spec

end GoldilocksVerif.BridgeNtt
