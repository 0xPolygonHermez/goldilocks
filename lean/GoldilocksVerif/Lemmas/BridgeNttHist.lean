/-
  HISTORIES of calls on ONE object in the GENERATED model (Gen/NttGen.lean): sequences of the translated `NTT`, `INTT`,
  `extendPol` that thread the heap `hp` and the object state `self`.

  `GInv` is the invariant every call keeps: the object state with the heap represents a hand-model object whose tables are those
  of the freshly constructed object `o0` and whose cache is absent or valid (`Obj.wf`: it is `computeR` of the N it is keyed
  with); the object owns existing, distinct blocks; the caller's blocks (`U`) are below the original heap size, are not the
  object's, and keep their sizes.
  `ctor_inv`: the state right after the translated constructor satisfies it.  That every valid call keeps it (`gcall_step`,
  `runG_inv`, and with caller buffers `gcallB_step`, `runGB_inv`) is proved in Lemmas/BridgeNttHistBuf.lean.
-/
import GoldilocksVerif.Lemmas.BridgeNttExtend
import GoldilocksVerif.Lemmas.NttTop

namespace GoldilocksVerif.BridgeNtt
open GoldilocksVerif Gen.NttGen GoldilocksVerif.Model.Ntt

/-- one call of the public interface on the generated model: block numbers of the caller's buffers (destination / source, output /
    input), log2 of the sizes, column count, phase and block settings; no caller scratch buffer -/
inductive GCall where
  | ntt (D Sx d nc : Nat) (nphase nblock : BitVec 64)
  | intt (D Sx d nc : Nat) (nphase nblock : BitVec 64)
  | extendPol (Out In de dn nc : Nat) (nphase nblock : BitVec 64)

/-- run one call of the TRANSLATED functions: heap and object state afterwards (`none`: abort or out of fuel) -/
def GCall.run (fuel : Nat) (st : Heap × NTT_Goldilocks) : GCall → Option (Heap × NTT_Goldilocks)
  | .ntt D Sx d nc np nb =>
    (NTT_NTT fuel st.1 st.2 ⟨D, 0⟩ ⟨Sx, 0⟩ (bv (2 ^ d)) (bv nc) Ptr.null np nb false false).bind fun hp => some (hp, st.2)
  | .intt D Sx d nc np nb =>
    (NTT_INTT fuel st.1 st.2 ⟨D, 0⟩ ⟨Sx, 0⟩ (bv (2 ^ d)) (bv nc) Ptr.null np nb false).bind fun hp => some (hp, st.2)
  | .extendPol Out In de dn nc np nb =>
    NTT_extendPol fuel st.1 st.2 ⟨Out, 0⟩ ⟨In, 0⟩ (bv (2 ^ de)) (bv (2 ^ dn)) (bv nc) Ptr.null np nb

def runG (fuel : Nat) : Heap × NTT_Goldilocks → List GCall → Option (Heap × NTT_Goldilocks)
  | st, [] => some st
  | st, c :: cs => (c.run fuel st).bind fun st' => runG fuel st' cs

def GCall.dst : GCall → Nat
  | .ntt D _ _ _ _ _ => D
  | .intt D _ _ _ _ _ => D
  | .extendPol Out _ _ _ _ _ _ => Out

/-- the hand model's call with the same arguments; the buffers are the current contents of the blocks -/
def GCall.toCall (hp : Heap) : GCall → Call
  | .ntt D Sx d nc np nb => .ntt (if D = Sx then .same else .other) (hp.block D) (hp.block Sx) (2 ^ d) nc np.toNat nb.toNat
  | .intt D Sx d nc np nb => .intt (if D = Sx then .same else .other) (hp.block D) (hp.block Sx) (2 ^ d) nc np.toNat nb.toNat
  | .extendPol Out In de dn nc np nb =>
    .extendPol (decide (Out = In)) (hp.block Out) (hp.block In) (2 ^ de) (2 ^ dn) nc np.toNat nb.toNat

/-- a call the theorems cover: caller blocks, sizes within the object's domain and ≤ 2^30, at least one column, the destination
    block large enough; fuel ≥ 64 is a hypothesis of the theorems, size 1 needs more fuel than columns -/
def GCall.ok (m fuel : Nat) (U : Nat → Prop) (sz : Nat → Nat) : GCall → Prop
  | .ntt D Sx d nc _ _ => U D ∧ U Sx ∧ d ≤ 30 ∧ 2 ^ d ≤ m ∧ 1 ≤ nc ∧ 2 ^ d * nc * 8 < 2 ^ 64 ∧ 2 ^ d * nc ≤ sz D ∧ (d = 0 → nc < fuel)
  | .intt D Sx d nc _ _ => U D ∧ U Sx ∧ d ≤ 30 ∧ 2 ^ d ≤ m ∧ 1 ≤ nc ∧ 2 ^ d * nc * 8 < 2 ^ 64 ∧ 2 ^ d * nc ≤ sz D ∧ (d = 0 → nc < fuel)
  | .extendPol Out In de dn nc _ _ => U Out ∧ U In ∧ dn ≤ de ∧ de ≤ 30 ∧ 2 ^ dn ≤ m ∧ 1 ≤ nc ∧ 2 ^ de * nc * 8 < 2 ^ 64 ∧
      2 ^ de * nc ≤ sz Out ∧ (dn = 0 → nc < fuel)

/-- the invariant of a history: `o0` the freshly constructed hand-model object, `n0` the heap size when the history started,
    `U` the caller's blocks, `sz` their sizes -/
structure GInv (o0 : Obj) (n0 : Nat) (U : Nat → Prop) (sz : Nat → Nat) (st : Heap × NTT_Goldilocks) : Prop where
  obj : ∃ o, o.base = o0 ∧ o.wf ∧ ObjRep st.1 st.2 o
  oin : ObjIn st.1 st.2
  disj : ObjDisj st.2
  size : n0 ≤ st.1.size
  user : ∀ c, U c → c < n0 ∧ c ≠ 0 ∧ ObjFrame st.2 c ∧ (st.1.block c).size = sz c

/-- `U` = all blocks that existed before the constructor ran, except the NULL block -/
theorem ctor_inv (fuel : Nat) (hf : 64 ≤ fuel) (hp : Heap) (hpos : 0 < hp.size) (self0 : NTT_Goldilocks)
    (mw : BitVec 64) (thr : BitVec 32) (e : Nat) (hm0 : mw ≠ 0#64) (o0 : Obj) (hobj : mkObj mw.toNat e = some o0) :
    ∃ st, NTT_ctor fuel hp self0 mw thr (e : Int) = some st ∧
      GInv o0 hp.size (fun c => 0 < c ∧ c < hp.size) (fun c => (hp.block c).size) st ∧
      ∀ c, c < hp.size → st.1.block c = hp.block c := by
  obtain ⟨self, hc, hrep, hin, hdisj, hfr, hb1⟩ := ctor_frame fuel hf hp self0 mw thr e hm0 o0 hobj
  have hfresh : o0.rcache = none := mkObj_fresh _ _ _ hobj
  exact ⟨_, hc, ⟨⟨o0, base_of_fresh o0 hfresh, wf_of_fresh o0 hfresh, hrep⟩, hin, hdisj hpos, by simp; omega,
    fun c ⟨h0, hlt⟩ => ⟨hlt, by omega, hfr c hlt (by omega), by rw [hb1 c hlt]⟩⟩, hb1⟩

end GoldilocksVerif.BridgeNtt
