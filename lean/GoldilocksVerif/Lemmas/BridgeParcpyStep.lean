/-
  What ONE evaluation of the lifted chunk-loop body of the translated `Goldilocks::parcpy` (Gen/NttGen.lean: `parcpy_loop1`) does,
  stated SEMANTICALLY: test `i < size`; if so `memcpy` of `min (size - i) components_thread` words at `&dst[i]`, `&src[i]`, and
  `i += components_thread` (`parcpy_step`); and what the function around the loop is: the loop started at 0 with the chunk length
  `chunkBV` computed from the hand model's clamped thread count (`parcpy_top`).  Every other lemma about the generated chunk loop
  (Lemmas/BridgeParcpy.lean, ParGenCopy.lean; for `parSetZero`: BridgeParcpyZero.lean, ParGenZero.lean) goes through these two, so
  none of them depends on how the C++ spells the chunk length or the clamp: `dim_` overwritten in an `if`, a ternary on the element
  count multiplied by `sizeof` at the call, either operand order of the comparisons or of the product, `<` / `>` / `<=` / `>=`,
  hoisted `size - i`, local names, `if (nt < 1) nt = 1` or a ternary.
  Method: the tests are decided OUTSIDE the generated text (`chunk_len_facts`, `clamp_cases`: one bundle of facts per truth value,
  every spelling of the comparison, the word counts `(w * 8).toNat / 8` in both operand orders) and the bundle is handed to
  `simp only` (`chunk_len_simp`, `chunk_top`), which leaves no `if`.
  Last part: the `while` loop itself, for ANY chunk action (`chunkLoop_seq`, `chunkFn_seq`): a function of this shape folds its
  action over the hand model's chunk starts `ParCopy.starts`, with the hand model's chunk lengths `ParCopy.len`.
-/
import GoldilocksVerif.Lemmas.BridgeNttItersG
import GoldilocksVerif.Lemmas.ParCopyL

set_option linter.unusedSimpArgs false

namespace GoldilocksVerif.BridgeNtt
open GoldilocksVerif Gen.NttGen

theorem words_toNat' (n : BitVec 64) (h : n.toNat * 8 < 2 ^ 64) : (8#64 * n).toNat / 8 = n.toNat := by
  rw [BitVec.mul_comm]; exact words_toNat n h

/-- every comparison between two words, strict or not, in either order, decided from `x.toNat < y.toNat` -/
theorem bv_lt_facts (x y : BitVec 64) (h : x.toNat < y.toNat) :
    x < y ∧ x ≤ y ∧ ¬ (y ≤ x) ∧ ¬ (y < x) ∧ ¬ (x = y) ∧ ¬ (y = x) :=
  ⟨BitVec.lt_def.mpr h, BitVec.le_def.mpr (Nat.le_of_lt h), fun c => Nat.not_le.mpr h (BitVec.le_def.mp c),
    fun c => Nat.lt_asymm h (BitVec.lt_def.mp c), fun e => Nat.ne_of_lt h (congrArg BitVec.toNat e),
    fun e => Nat.ne_of_gt h (congrArg BitVec.toNat e)⟩

/-- the inner test of a chunk loop (`size - i` against `components_thread`) decided three ways (`<`, `=`, `>`: every comparison
    between the two, strict or not, in either order, is then decided by `simp`), with the word count of the chunk
    (`min (size - i) components_thread` words, the byte count as either product) -/
theorem chunk_len_facts (size i ct : BitVec 64) (hs8 : size.toNat * 8 < 2 ^ 64) (hct : ct.toNat ≤ size.toNat) (hlt : i < size) :
    (size - i).toNat = size.toNat - i.toNat ∧
      ((size - i < ct ∧ size - i ≤ ct ∧ ¬ (ct ≤ size - i) ∧ ¬ (ct < size - i) ∧ ¬ (size - i = ct) ∧ ¬ (ct = size - i) ∧
          ((size - i) * 8#64).toNat / 8 = min (size.toNat - i.toNat) ct.toNat ∧
          (8#64 * (size - i)).toNat / 8 = min (size.toNat - i.toNat) ct.toNat) ∨
       (size - i = ct ∧ ¬ (ct < ct) ∧ ct ≤ ct ∧ ¬ (ct < ct) ∧ ct ≤ ct ∧ ct ≤ ct ∧
          (ct * 8#64).toNat / 8 = min (size.toNat - i.toNat) ct.toNat ∧
          (8#64 * ct).toNat / 8 = min (size.toNat - i.toNat) ct.toNat) ∨
       (¬ (size - i < ct) ∧ ¬ (size - i ≤ ct) ∧ ct ≤ size - i ∧ ct < size - i ∧ ¬ (size - i = ct) ∧ ¬ (ct = size - i) ∧
          (ct * 8#64).toNat / 8 = min (size.toNat - i.toNat) ct.toNat ∧
          (8#64 * ct).toNat / 8 = min (size.toNat - i.toNat) ct.toNat)) := by
  have hi' : i.toNat < size.toNat := BitVec.lt_def.mp hlt
  have esub : (size - i).toNat = size.toNat - i.toNat := by rw [BitVec.toNat_sub]; omega
  refine ⟨esub, ?_⟩
  rcases Nat.lt_trichotomy (size - i).toNat ct.toNat with h | h | h
  · obtain ⟨c1, c2, c3, c4, c5, c6⟩ := bv_lt_facts _ _ h
    have hmin : min (size.toNat - i.toNat) ct.toNat = (size - i).toNat := by omega
    exact Or.inl ⟨c1, c2, c3, c4, c5, c6, by rw [hmin]; exact words_toNat _ (by omega),
      by rw [hmin]; exact words_toNat' _ (by omega)⟩
  · have hmin : min (size.toNat - i.toNat) ct.toNat = ct.toNat := by omega
    exact Or.inr (Or.inl ⟨BitVec.eq_of_toNat_eq h, BitVec.lt_irrefl _, BitVec.le_refl _, BitVec.lt_irrefl _, BitVec.le_refl _,
      BitVec.le_refl _, by rw [hmin]; exact words_toNat _ (by omega), by rw [hmin]; exact words_toNat' _ (by omega)⟩)
  · obtain ⟨c1, c2, c3, c4, c5, c6⟩ := bv_lt_facts _ _ h
    have hmin : min (size.toNat - i.toNat) ct.toNat = ct.toNat := by omega
    exact Or.inr (Or.inr ⟨c4, c3, c2, c1, c6, c5, by rw [hmin]; exact words_toNat _ (by omega),
      by rw [hmin]; exact words_toNat' _ (by omega)⟩)

/-- the `simp` set that removes decided tests -/
macro "decided_simp " "[" ts:Lean.Parser.Tactic.simpLemma,* "]" : tactic => `(tactic|
  simp only [$ts,*, gt_iff_lt, ge_iff_le, decide_true, decide_false, Bool.not_true, Bool.not_false, Bool.false_eq_true,
    if_true, if_false, ite_true, ite_false, reduceIte, eq_self, true_implies, false_implies, forall_const, not_true_eq_false,
    not_false_eq_true])

/-- on a goal that contains the unfolded body of a chunk loop (lets reduced), with `hlt : i < size`: decide both tests and read the
    word count; what is left speaks of `min (size - i) ct` words (goals that `simp` closes by reflexivity are closed) -/
macro "chunk_len_simp " size:term:max i:term:max ct:term:max hs8:term:max hct:term:max hlt:term:max : tactic => `(tactic|
  (have hle : ¬ ($size ≤ $i) := BitVec.not_le.mpr $hlt
   have hne1 : ¬ ($size = $i) := fun e => BitVec.lt_irrefl _ (e ▸ $hlt)
   have hne2 : ¬ ($i = $size) := fun e => BitVec.lt_irrefl _ (e ▸ $hlt)
   have hgt : ¬ ($size < $i) := fun c => BitVec.lt_irrefl _ (BitVec.lt_trans c $hlt)
   have hge : $i ≤ $size := BitVec.le_of_lt $hlt
   obtain ⟨esub, ⟨c1, c2, c3, c4, c5, c6, c7, c8⟩ | ⟨c1, c2, c3, c4, c5, c6, c7, c8⟩ | ⟨c1, c2, c3, c4, c5, c6, c7, c8⟩⟩ :=
     chunk_len_facts $size $i $ct $hs8 $hct $hlt <;>
   decided_simp [$hlt:term, hle, hne1, hne2, hgt, hge, c1, c2, c3, c4, c5, c6, c7, c8]))

/-- the outer test fails: `size ≤ i` in every spelling -/
macro "chunk_exit_simp " size:term:max i:term:max hlt:term:max : tactic => `(tactic|
  (have hle : $size ≤ $i := BitVec.not_lt.mp $hlt
   have hgt : ¬ ($size > $i) := $hlt
   decided_simp [$hlt:term, hle, hgt]))

theorem parcpy_step (dst src : Ptr) (size ct : BitVec 64) (X : Heap) (i : BitVec 64)
    (hs8 : size.toNat * 8 < 2 ^ 64) (hct : ct.toNat ≤ size.toNat) :
    parcpy_loop1 dst src size ct (X, i) =
      if i < size then
        some (true, (X.copy (dst.add i.toNat) (src.add i.toNat) (min (size.toNat - i.toNat) ct.toNat), i + ct))
      else some (false, (X, i)) := by
  unfold parcpy_loop1
  dsimp only
  by_cases hlt : i < size
  · chunk_len_simp size i ct hs8 hct hlt
  · chunk_exit_simp size i hlt

/-- `components_thread` of `parcpy` / `parSetZero` on 64-bit words, from the hand model's clamped thread count -/
def chunkBV (size : BitVec 64) (nt : Int) : BitVec 64 := (size + bv (ParCopy.threads nt) - 1#64) / bv (ParCopy.threads nt)

/-- facts handed to `simp` to decide the clamp `if (num_threads_copy < 1) num_threads_copy = 1` in every spelling, and to read the
    clamped `int` as the hand model's `ParCopy.threads` -/
theorem clamp_cases (nt : Int) :
    (nt < 1 ∧ nt ≤ 0 ∧ ¬ (1 ≤ nt) ∧ ¬ (0 < nt) ∧ ParCopy.threads nt = 1) ∨
    (¬ (nt < 1) ∧ ¬ (nt ≤ 0) ∧ 1 ≤ nt ∧ 0 < nt ∧ I32.toU64 nt = bv (ParCopy.threads nt)) := by
  unfold ParCopy.threads
  by_cases h : nt < 1
  · left; rw [if_pos h]; omega
  · right
    rw [if_neg h]
    refine ⟨h, by omega, by omega, by omega, ?_⟩
    obtain ⟨m, hm⟩ : ∃ m : Nat, nt = (m : Int) := ⟨nt.toNat, by omega⟩
    subst hm
    rw [toU64_nat, Int.toNat_natCast]

/-- on a goal that contains the text around a chunk loop (after `unfold f; dsimp only`) and `chunkBV` unfolded: decide the clamp;
    both sides then speak of `bv (ParCopy.threads nt)` (`bv 1` when `nt < 1`) -/
macro "chunk_top " nt:term:max : tactic => `(tactic|
  (have e1 : I32.toU64 (1 : Int) = bv 1 := toU64_nat 1
   rcases clamp_cases $nt with ⟨h1, h2, h3, h4, h5⟩ | ⟨h1, h2, h3, h4, h5⟩ <;>
   decided_simp [h1, h2, h3, h4, h5, e1]))

theorem parcpy_top (fuel : Nat) (hp : Heap) (dst src : Ptr) (size : BitVec 64) (nt : Int) :
    parcpy fuel hp dst src size nt =
      (Loop.whileM (parcpy_loop1 dst src size (chunkBV size nt)) fuel (hp, 0#64)).bind (fun st => some st.1) := by
  unfold parcpy chunkBV
  dsimp only
  chunk_top nt

open ParCopy

/-- a `while` loop on `(X, i)` whose body tests `i < size`, applies `act i` to `X` and steps `i` by `ct` runs `act` over the
    starts `i, i + ct, … < size` in turn (`f` bounds their number) -/
theorem chunkLoop_seq {σ : Type} (body : σ × BitVec 64 → Option (Bool × (σ × BitVec 64))) (act : Nat → σ → σ)
    (size ct : BitVec 64) (h64 : size.toNat + ct.toNat < 2 ^ 64)
    (hbody : ∀ X i, body (X, i) = if i < size then some (true, (act i.toNat X, i + ct)) else some (false, (X, i))) :
    ∀ (f fuel i : Nat) (X : σ), size.toNat ≤ i + f * ct.toNat → i ≤ size.toNat + ct.toNat →
      (startsAux size.toNat ct.toNat f i).length < fuel →
      ∃ i', Loop.whileM body fuel (X, bv i) =
        some ((startsAux size.toNat ct.toNat f i).foldl (fun X i => act i X) X, i') := by
  have hexit : ∀ (fuel i : Nat) (X : σ), size.toNat ≤ i → i < 2 ^ 64 →
      Loop.whileM body (fuel + 1) (X, bv i) = some (X, bv i) := by
    intro fuel i X hi hi64
    have hlt : ¬ (bv i < size) := by rw [BitVec.lt_def, bv_toNat i hi64]; omega
    exact Loop.whileM_stop _ _ _ _ (by rw [hbody, if_neg hlt])
  intro f
  induction f with
  | zero =>
    intro fuel i X h1 h2 hfu
    obtain ⟨fuel, rfl⟩ : ∃ g, fuel = g + 1 := ⟨fuel - 1, by omega⟩
    exact ⟨bv i, hexit fuel i X (by omega) (by omega)⟩
  | succ f ih =>
    intro fuel i X h1 h2 hfu
    unfold startsAux at hfu ⊢
    obtain ⟨fuel, rfl⟩ : ∃ g, fuel = g + 1 := ⟨fuel - 1, by omega⟩
    by_cases hi : i < size.toNat
    · rw [if_pos hi] at hfu ⊢
      have e0 : (bv i).toNat = i := bv_toNat i (by omega)
      have hlt : bv i < size := by rw [BitVec.lt_def, e0]; exact hi
      have enext : bv i + ct = bv (i + ct.toNat) := by
        apply BitVec.eq_of_toNat_eq
        rw [BitVec.toNat_add, BitVec.toNat_ofNat, BitVec.toNat_ofNat]
        omega
      rw [Loop.whileM_next _ _ _ _ (by rw [hbody, if_pos hlt, e0, enext]), List.foldl_cons]
      exact ih fuel (i + ct.toNat) _ (by rw [Nat.succ_mul] at h1; omega) (by omega)
        (by rw [List.length_cons] at hfu; omega)
    · rw [if_neg hi]
      exact ⟨bv i, hexit fuel i X (by omega) (by omega)⟩

theorem chunkBV_toNat (size : BitVec 64) (nt : Int) (hnt : nt < 2 ^ 63) (hs : size.toNat < 2 ^ 63) :
    (chunkBV size nt).toNat = chunk size.toNat nt := by
  have hT := threads_pos nt
  have hT' : threads nt < 2 ^ 63 := by unfold threads; split <;> omega
  have hbT : (bv (threads nt)).toNat = threads nt := bv_toNat _ (by omega)
  have hnum : (size + bv (threads nt) - 1#64).toNat = size.toNat + threads nt - 1 := by
    rw [BitVec.toNat_sub, BitVec.toNat_add, hbT, show (1#64 : BitVec 64).toNat = 1 from rfl]
    omega
  unfold chunkBV chunk
  rw [BitVec.toNat_udiv, hnum, hbT]

/-- the shape `parcpy_top`, `parSetZero_top` give the two functions; `act len i` is the action on the chunk of `len` words at `i` -/
theorem chunkFn_seq {σ : Type} (body : BitVec 64 → σ × BitVec 64 → Option (Bool × (σ × BitVec 64))) (act : Nat → Nat → σ → σ)
    (size : BitVec 64) (nt : Int) (hnt : nt < 2 ^ 63) (hs8 : size.toNat * 8 < 2 ^ 64)
    (hbody : ∀ ct : BitVec 64, ct.toNat ≤ size.toNat → ∀ X i, body ct (X, i) =
      if i < size then some (true, (act (min (size.toNat - i.toNat) ct.toNat) i.toNat X, i + ct)) else some (false, (X, i)))
    (fuel : Nat) (hfuel : (starts size.toNat nt).length < fuel) (X : σ) :
    (Loop.whileM (body (chunkBV size nt)) fuel (X, 0#64)).bind (fun st => some st.1) =
      some ((starts size.toNat nt).foldl (fun X i => act (len size.toNat nt i) i X) X) := by
  have hct := chunkBV_toNat size nt hnt (by omega)
  have hcl := chunk_le size.toNat nt
  have hinit : size.toNat ≤ 0 + size.toNat * (chunkBV size nt).toNat := by
    rw [hct, Nat.zero_add]
    rcases Nat.eq_zero_or_pos size.toNat with hz | hz
    · omega
    · exact Nat.le_mul_of_pos_right _ (chunk_pos _ _ hz)
  obtain ⟨i', hw⟩ := chunkLoop_seq (body (chunkBV size nt)) (fun i => act (min (size.toNat - i) (chunkBV size nt).toNat) i)
    size (chunkBV size nt) (by omega) (hbody _ (by omega)) size.toNat fuel 0 X hinit (by omega) (by rw [hct]; exact hfuel)
  have hact : (fun X i => act (min (size.toNat - i) (chunkBV size nt).toNat) i X)
      = (fun X i => act (len size.toNat nt i) i X) := by
    funext X i; rw [hct, len_eq_min]
  rw [hact, hct] at hw
  rw [show (0#64 : BitVec 64) = bv 0 from rfl, hw]
  rfl

theorem parcpy_heap_seq (fuel : Nat) (hp : Heap) (dst src : Ptr) (size : BitVec 64) (nt : Int) (hnt : nt < 2 ^ 63)
    (hs8 : size.toNat * 8 < 2 ^ 64) (hfuel : (starts size.toNat nt).length < fuel) :
    parcpy fuel hp dst src size nt =
      some ((starts size.toNat nt).foldl (fun X i => X.copy (dst.add i) (src.add i) (len size.toNat nt i)) hp) := by
  rw [parcpy_top]
  exact chunkFn_seq (parcpy_loop1 dst src size) (fun n i X => X.copy (dst.add i) (src.add i) n) size nt hnt hs8
    (fun ct hct X i => parcpy_step dst src size ct X i hs8 hct) fuel hfuel hp

end GoldilocksVerif.BridgeNtt
