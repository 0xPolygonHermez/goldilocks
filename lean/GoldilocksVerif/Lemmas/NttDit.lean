/-
  Code-independent mathematics of the radix-2 decimation-in-time FFT over `F = ZMod P`:
  the partial transforms `S` (what the buffer holds after `t` butterfly stages, in terms of the bit-reversed
  input), the butterfly recursion `S_succ`, the index reflection of the fused inverse pass (`dft_reflect`),
  the zero-extended coset transform (`dft_zero_ext`) and the scaled inverse transform (`idft_scaled`).
-/
import GoldilocksVerif.Lemmas.NttSpec
import GoldilocksVerif.Lemmas.NttBitrev

namespace GoldilocksVerif.NttSpec
open Finset
open GoldilocksVerif.Model.Ntt (bitrev inttIdx)

theorem sum_range_two_mul {M : Type} [AddCommMonoid M] (f : Nat → M) (n : Nat) :
    ∑ i ∈ range (2 * n), f i = ∑ i ∈ range n, (f (2 * i) + f (2 * i + 1)) := by
  induction n with
  | zero => simp
  | succ n ih =>
    have e : 2 * (n + 1) = 2 * n + 1 + 1 := by omega
    rw [e, sum_range_succ, sum_range_succ, ih, sum_range_succ, add_assoc]

section twiddle
variable {K : Type} [Field K]

theorem tw_even (w : K) (i h : Nat) : w ^ (2 * i * h) = (w ^ 2) ^ (i * h) := by
  rw [← pow_mul]; congr 1; ring

theorem tw_odd (w : K) (i h : Nat) : w ^ ((2 * i + 1) * h) = w ^ h * (w ^ 2) ^ (i * h) := by
  rw [← pow_mul, ← pow_add]; congr 1; ring

theorem tw_even' (w : K) (m i h : Nat) (hw : w ^ m = -1) :
    w ^ (2 * i * (m + h)) = (w ^ 2) ^ (i * h) := by
  have e : 2 * i * (m + h) = m * (2 * i) + 2 * i * h := by ring
  rw [e, pow_add, pow_mul, hw, pow_mul, neg_one_sq, one_pow, one_mul, tw_even]

theorem tw_odd' (w : K) (m i h : Nat) (hw : w ^ m = -1) :
    w ^ ((2 * i + 1) * (m + h)) = -(w ^ h * (w ^ 2) ^ (i * h)) := by
  have e : (2 * i + 1) * (m + h) = m * (2 * i) + m + (2 * i + 1) * h := by ring
  rw [e, pow_add, pow_add, pow_mul, hw, pow_mul, neg_one_sq, one_pow, one_mul, tw_odd]
  ring

end twiddle

/-- partial transform: the size-2^t DFT (output index `hi`) of the subsequence of `x` with offset
    `bitrev (d-t) lo` and stride 2^(d-t) -/
def S (d : Nat) (x : Nat → F) (t lo hi : Nat) : F :=
  ∑ i ∈ range (2 ^ t), x (bitrev (d - t) lo + i * 2 ^ (d - t)) * omega t ^ (i * hi)

theorem S_zero (d : Nat) (x : Nat → F) (lo : Nat) : S d x 0 lo 0 = x (bitrev d lo) := by
  simp [S]

theorem S_final (d : Nat) (x : Nat → F) (hi : Nat) : S d x d 0 hi = dft (omega d) (2 ^ d) x hi := by
  unfold S dft
  rw [Nat.sub_self]
  apply sum_congr rfl; intro i _
  rw [GoldilocksVerif.Model.Ntt.bitrev_zero, pow_zero, Nat.mul_one, Nat.zero_add]

theorem idx_even (e lo i : Nat) :
    bitrev e lo + 2 * i * 2 ^ e = bitrev (e + 1) (2 * lo) + i * 2 ^ (e + 1) := by
  rw [GoldilocksVerif.Model.Ntt.bitrev_even, pow_succ]; ring

theorem idx_odd (e lo i : Nat) :
    bitrev e lo + (2 * i + 1) * 2 ^ e = bitrev (e + 1) (2 * lo + 1) + i * 2 ^ (e + 1) := by
  rw [GoldilocksVerif.Model.Ntt.bitrev_odd, pow_succ]; ring

theorem S_succ (d : Nat) (x : Nat → F) (t lo h : Nat) (ht : t < d) (hd : d ≤ 32) :
    S d x (t + 1) lo h = S d x t (2 * lo) h + omega (t + 1) ^ h * S d x t (2 * lo + 1) h ∧
    S d x (t + 1) lo (2 ^ t + h) = S d x t (2 * lo) h - omega (t + 1) ^ h * S d x t (2 * lo + 1) h := by
  obtain ⟨e, rfl⟩ : ∃ e, d = t + 1 + e := ⟨d - (t + 1), by omega⟩
  have e1 : t + 1 + e - (t + 1) = e := by omega
  have e2 : t + 1 + e - t = e + 1 := by omega
  have hsq : omega (t + 1) ^ 2 = omega t := omega_sq t (by omega)
  have hhalf : omega (t + 1) ^ (2 ^ t) = -1 := omega_pow_half t (by omega)
  unfold S
  rw [e1, e2, pow_succ' 2 t, sum_range_two_mul, sum_range_two_mul]
  constructor
  · rw [mul_sum, ← sum_add_distrib]
    apply sum_congr rfl; intro i _
    rw [idx_even, idx_odd, tw_even, tw_odd, hsq]
    ring
  · rw [mul_sum, ← sum_sub_distrib]
    apply sum_congr rfl; intro i _
    rw [idx_even, idx_odd, tw_even' _ _ _ _ hhalf, tw_odd' _ _ _ _ hhalf, hsq]
    ring

theorem inttIdx_lt (k n : Nat) (hn : 0 < n) : inttIdx k n < n := by
  unfold inttIdx
  split <;> omega

theorem inttIdx_inttIdx (k n : Nat) (hk : k < n) : inttIdx (inttIdx k n) n = k := by
  unfold inttIdx
  by_cases h : n - k = n
  · rw [if_pos h, if_pos (Nat.sub_zero n)]; omega
  · rw [if_neg h]
    have h2 : ¬ (n - (n - k) = n) := by omega
    rw [if_neg h2]; omega

theorem inttIdx_zero (n : Nat) : inttIdx 0 n = 0 := by
  unfold inttIdx
  rw [if_pos (Nat.sub_zero n)]

theorem inttIdx_pos (k n : Nat) (h0 : 0 < k) (hk : k < n) : inttIdx k n = n - k := by
  unfold inttIdx
  rw [if_neg (by omega)]

/-- index reflection of the fused inverse pass -/
theorem dft_reflect (d : Nat) (hd : d ≤ 32) (x : Nat → F) (k : Nat) (hk : k < 2 ^ d) :
    dft (omega d) (2 ^ d) x (inttIdx k (2 ^ d)) = dft (omega d)⁻¹ (2 ^ d) x k := by
  have hn : omega d ^ (2 ^ d) = 1 := omega_pow_n d hd
  have hω : omega d ≠ 0 := (omega_prim d hd).ne_zero (Nat.pos_of_ne_zero (by positivity))
  generalize omega d = w at hn hω
  generalize 2 ^ d = n at hn hk
  unfold dft
  apply sum_congr rfl; intro j _
  congr 1
  rcases Nat.eq_zero_or_pos k with h0 | h0
  · subst h0
    rw [inttIdx_zero, Nat.mul_zero, pow_zero, pow_zero]
  · rw [inttIdx_pos k n h0 hk, inv_pow]
    have hne : w ^ (j * k) ≠ 0 := pow_ne_zero _ hω
    apply eq_inv_of_mul_eq_one_left
    rw [← pow_add]
    have : j * (n - k) + j * k = n * j := by
      rw [← Nat.mul_add, Nat.sub_add_cancel (Nat.le_of_lt hk), Nat.mul_comm]
    rw [this, pow_mul, hn, one_pow]

/-- the forward transform of the coset-scaled, zero-extended coefficient vector evaluates the polynomial
    on the coset -/
theorem dft_zero_ext (ωE g : F) (N nE : Nat) (hN : N ≤ nE) (c : Nat → F) (k : Nat) :
    dft ωE nE (fun j => if j < N then g ^ j * c j else 0) k = evalPoly N c (g * ωE ^ k) := by
  unfold dft evalPoly
  rw [← sum_subset (range_subset_range.mpr hN)]
  · apply sum_congr rfl; intro j hj
    beta_reduce
    rw [if_pos (mem_range.mp hj), mul_pow, ← pow_mul, Nat.mul_comm k j]
    ring
  · intro j _ hj
    rw [mem_range] at hj
    beta_reduce
    rw [if_neg hj, zero_mul]

theorem idft_scaled (ω : F) (n : Nat) (x : Nat → F) (k : Nat) (s : F) (hs : s * (n : F) = 1) :
    s * dft ω⁻¹ n x k = idft ω n x k := by
  rw [idft_eq_dft_inv, eq_inv_of_mul_eq_one_left hs]

end GoldilocksVerif.NttSpec
