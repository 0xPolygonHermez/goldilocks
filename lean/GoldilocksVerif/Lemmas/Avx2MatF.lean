/- AVX2 12-wide kernels (Gen/Avx2Mat.lean) in the field view. -/
import GoldilocksVerif.Gen.Avx2Mat
import GoldilocksVerif.Gen.PosAvx2
import GoldilocksVerif.Lemmas.Avx2Nat
import GoldilocksVerif.Lemmas.Field
import GoldilocksVerif.Lemmas.LoadStoreL
set_option linter.unusedSimpArgs false
namespace GoldilocksVerif
open Gen.Avx2 Gen.Avx2Mat Gen.VecConsts Lane

/-- `_al_c_a`: a call with the result aliasing the first operand has a generated definition of its own (printed where the
  pattern first occurs: `Gen/PosAvx2.lean`) -/
theorem add_al_eq (c b : V4) : Gen.PosAvx2.add_avx__vVV_al_c_a c b = add_avx__vVV c b := by
  simp only [Gen.PosAvx2.add_avx__vVV_al_c_a, add_avx__vVV]

theorem den_add_avx (a b : V4) (i : Fin 4) : den ((add_avx__vVV a b).get i) = den (a.get i) + den (b.get i) := by
  apply den_add_of; exact add_spec a b i
theorem den_mult_avx (a b : V4) (i : Fin 4) : den ((mult_avx a b).get i) = den (a.get i) * den (b.get i) := by
  apply den_mul_of; exact mult_spec a b i
theorem den_square_avx (a : V4) (i : Fin 4) : den ((square_avx a).get i) = den (a.get i) * den (a.get i) := by
  apply den_mul_of; exact square_spec a i
theorem den_add_b_small (a b : V4) (i : Fin 4) (hb : (b.get i).toNat ≤ 18446744069414584320) :
    den ((add_avx_b_small a b).get i) = den (a.get i) + den (b.get i) := by
  apply den_add_of; exact add_b_small_spec a b i hb

/-- the 12 products of one row: a_j[k] · M[off + 4j + k] -/
def dot12 (a0 a1 a2 : V4) (M : Region) (off : Nat) : F :=
  den a0.l0 * den (M off) + den a0.l1 * den (M (off + 1)) + den a0.l2 * den (M (off + 2)) + den a0.l3 * den (M (off + 3)) +
  (den a1.l0 * den (M (off + 4)) + den a1.l1 * den (M (off + 5)) + den a1.l2 * den (M (off + 6)) + den a1.l3 * den (M (off + 7))) +
  (den a2.l0 * den (M (off + 8)) + den a2.l1 * den (M (off + 9)) + den a2.l2 * den (M (off + 10)) + den a2.l3 * den (M (off + 11)))

theorem dot12_shift (a0 a1 a2 : V4) (M : Region) (off k : Nat) :
    dot12 a0 a1 a2 (Region.shift M off) k = dot12 a0 a1 a2 M (off + k) := by
  simp only [dot12, Region.shift_apply, Nat.add_assoc]

/-- `r` holds the sparse product of the state `(a0, a1, a2)` with the twelve coefficients `b[0 .. 11]`: lane `i` is
  `a0[i]·b[i] + a1[i]·b[4+i] + a2[i]·b[8+i]` (what `spmv_avx_4x12` and, per half, `spmv_avx512_4x12` compute) -/
def IsSpmv (a0 a1 a2 : V4) (b : Region) (r : V4) : Prop :=
  ∀ i : Fin 4, den (r.get i) =
    den (a0.get i) * den (b i.val) + den (a1.get i) * den (b (4 + i.val)) + den (a2.get i) * den (b (8 + i.val))

theorem spmv_den (a0 a1 a2 : V4) (b : Region) : IsSpmv a0 a1 a2 b (spmv_avx_4x12 a0 a1 a2 b) := by
  intro i
  simp only [spmv_avx_4x12, load_avx, den_add_avx, den_mult_avx, get_load, Region.shift_apply]

theorem row_sum_eq (a0 a1 a2 : V4) (b : Region) (r : V4) (h : IsSpmv a0 a1 a2 b r) :
    den r.l0 + den r.l1 + (den r.l2 + den r.l3) = dot12 a0 a1 a2 b 0 := by
  have h0 := h 0
  have h1 := h 1
  have h2 := h 2
  have h3 := h 3
  have e3 : ((3 : Fin 4).val) = 3 := rfl
  simp only [V4.get, Fin.val_zero, Fin.val_one, Fin.val_two, e3, Nat.add_zero] at h0 h1 h2 h3
  rw [h0, h1, h2, h3]
  simp only [dot12, Nat.zero_add]
  ring

/-- four sparse products against the rows `M[0..]`, `M[12..]`, `M[24..]`, `M[36..]`, transposed and summed (the result
  register `R` is only known through the field value of each lane: any association / order of the three additions),
  give the four row dot products -/
theorem rows_sum4 (a0 a1 a2 : V4) (M : Region) (r0 r1 r2 r3 : V4) (h0 : IsSpmv a0 a1 a2 M r0)
    (h1 : IsSpmv a0 a1 a2 (Region.shift M 12) r1) (h2 : IsSpmv a0 a1 a2 (Region.shift M 24) r2)
    (h3 : IsSpmv a0 a1 a2 (Region.shift M 36) r3) (R : V4)
    (hR : ∀ j : Fin 4, den (R.get j) =
      den ((⟨r0.l0, r1.l0, r2.l0, r3.l0⟩ : V4).get j) + den ((⟨r0.l1, r1.l1, r2.l1, r3.l1⟩ : V4).get j) +
      (den ((⟨r0.l2, r1.l2, r2.l2, r3.l2⟩ : V4).get j) + den ((⟨r0.l3, r1.l3, r2.l3, r3.l3⟩ : V4).get j)))
    (i : Fin 4) : den (R.get i) = dot12 a0 a1 a2 M (12 * i.val) := by
  have s0 := row_sum_eq _ _ _ _ _ h0
  have s1 := (row_sum_eq _ _ _ _ _ h1).trans (dot12_shift _ _ _ M 12 0)
  have s2 := (row_sum_eq _ _ _ _ _ h2).trans (dot12_shift _ _ _ M 24 0)
  have s3 := (row_sum_eq _ _ _ _ _ h3).trans (dot12_shift _ _ _ M 36 0)
  match i with
  | 0 => exact (hR 0).trans s0
  | 1 => exact (hR 1).trans s1
  | 2 => exact (hR 2).trans s2
  | 3 => exact (hR 3).trans s3

/-- the operand order of the lane products is free (`mult_avx_comm` is a permutation lemma: `simp` orders both sides) -/
theorem spmv_a_eq (a0 a1 a2 : V4) (b : Region) : spmv_avx_4x12_a a0 a1 a2 b = spmv_avx_4x12 a0 a1 a2 b := by
  simp only [spmv_avx_4x12_a, spmv_avx_4x12, load_avx, load_avx_a, mult_avx_comm]

theorem extract_get (v : V4) :
    Avx2.extract_epi64 v 0 = v.l0 ∧ Avx2.extract_epi64 v 1 = v.l1 ∧ Avx2.extract_epi64 v 2 = v.l2 ∧
    Avx2.extract_epi64 v 3 = v.l3 := by
  refine ⟨rfl, rfl, rfl, rfl⟩

set_option linter.unusedTactic false in
set_option linter.unreachableTactic false in
theorem dot_den (a0 a1 a2 : V4) (b : Region) : den (dot_avx a0 a1 a2 b) = dot12 a0 a1 a2 b 0 := by
  -- the four lanes, whether they go through a stored temporary or are extracted from the register
  simp only [dot_avx, store_avx, den_add_r, (store_get _ _).1, (store_get _ _).2.1, (store_get _ _).2.2.1,
    (store_get _ _).2.2.2, (extract_get _).1, (extract_get _).2.1, (extract_get _).2.2.1, (extract_get _).2.2.2]
  first
    | exact row_sum_eq a0 a1 a2 b _ (spmv_den a0 a1 a2 b)
    | (rw [← row_sum_eq a0 a1 a2 b _ (spmv_den a0 a1 a2 b)]; ring)

set_option linter.unusedTactic false in
set_option linter.unreachableTactic false in
theorem dot_a_eq (a0 a1 a2 : V4) (b : Region) : dot_avx_a a0 a1 a2 b = dot_avx a0 a1 a2 b := by
  -- (`store_avx_a` is only translated while some kernel calls it: the second alternative is for a text without it)
  first
    | simp only [dot_avx_a, dot_avx, spmv_a_eq, store_avx, store_avx_a, (store_get _ _).1, (store_get _ _).2.1,
        (store_get _ _).2.2.1, (store_get _ _).2.2.2, (extract_get _).1, (extract_get _).2.1, (extract_get _).2.2.1,
        (extract_get _).2.2.2]
    | simp only [dot_avx_a, dot_avx, spmv_a_eq, store_avx, (store_get _ _).1, (store_get _ _).2.1,
        (store_get _ _).2.2.1, (store_get _ _).2.2.2, (extract_get _).1, (extract_get _).2.1, (extract_get _).2.2.1,
        (extract_get _).2.2.2]

theorem permute_32 (a b : V4) : Avx2.permute2f128 a b 32 = ⟨a.l0, a.l1, b.l0, b.l1⟩ := rfl
theorem permute_49 (a b : V4) : Avx2.permute2f128 a b 49 = ⟨a.l2, a.l3, b.l2, b.l3⟩ := rfl

/-- the permute/unpack network is the 4x4 transpose.  (Documentation only: the proofs below evaluate the shuffles
  themselves — `permute_32`, `permute_49`, `unpacklo_pd`, `unpackhi_pd` on explicit lanes — so the two stages may come
  in either order, or be replaced by any other network of these intrinsics that yields the columns.) -/
theorem transpose4 (r0 r1 r2 r3 : V4) :
    Avx2.unpacklo_pd (Avx2.permute2f128 r0 r2 32) (Avx2.permute2f128 r1 r3 32) = ⟨r0.l0, r1.l0, r2.l0, r3.l0⟩ ∧
    Avx2.unpackhi_pd (Avx2.permute2f128 r0 r2 32) (Avx2.permute2f128 r1 r3 32) = ⟨r0.l1, r1.l1, r2.l1, r3.l1⟩ ∧
    Avx2.unpacklo_pd (Avx2.permute2f128 r0 r2 49) (Avx2.permute2f128 r1 r3 49) = ⟨r0.l2, r1.l2, r2.l2, r3.l2⟩ ∧
    Avx2.unpackhi_pd (Avx2.permute2f128 r0 r2 49) (Avx2.permute2f128 r1 r3 49) = ⟨r0.l3, r1.l3, r2.l3, r3.l3⟩ := by
  simp only [permute_32, permute_49, Avx2.unpacklo_pd, Avx2.unpackhi_pd, and_self]

theorem mmult_4x12_den (a0 a1 a2 : V4) (M : Region) (i : Fin 4) :
    den ((mmult_avx_4x12 a0 a1 a2 M).get i) = dot12 a0 a1 a2 M (12 * i.val) := by
  refine rows_sum4 a0 a1 a2 M _ _ _ _ (spmv_den a0 a1 a2 M) (spmv_den a0 a1 a2 _) (spmv_den a0 a1 a2 _)
    (spmv_den a0 a1 a2 _) _ (fun j => ?_) i
  simp only [mmult_avx_4x12, den_add_avx, permute_32, permute_49, Avx2.unpacklo_pd, Avx2.unpackhi_pd]
  try ring

theorem mmult_4x12_a_eq (a0 a1 a2 : V4) (M : Region) : mmult_avx_4x12_a a0 a1 a2 M = mmult_avx_4x12 a0 a1 a2 M := by
  simp only [mmult_avx_4x12_a, mmult_avx_4x12, spmv_a_eq, permute_32, permute_49, Avx2.unpacklo_pd, Avx2.unpackhi_pd]

theorem mmult_den (a0 a1 a2 : V4) (M : Region) (i : Fin 4) :
    den ((mmult_avx a0 a1 a2 M).1.get i) = dot12 a0 a1 a2 M (12 * i.val) ∧
    den ((mmult_avx a0 a1 a2 M).2.1.get i) = dot12 a0 a1 a2 M (48 + 12 * i.val) ∧
    den ((mmult_avx a0 a1 a2 M).2.2.get i) = dot12 a0 a1 a2 M (96 + 12 * i.val) := by
  have h1 := mmult_4x12_den a0 a1 a2 M i
  have h2 := mmult_4x12_den a0 a1 a2 (Region.shift M 48) i
  have h3 := mmult_4x12_den a0 a1 a2 (Region.shift M 96) i
  rw [dot12_shift] at h2 h3
  simp only [mmult_avx]
  exact ⟨h1, h2, h3⟩

theorem mmult_a_eq (a0 a1 a2 : V4) (M : Region) : mmult_avx_a a0 a1 a2 M = mmult_avx a0 a1 a2 M := by
  simp only [mmult_avx_a, mmult_avx, mmult_4x12_a_eq]

theorem den_mul72_of (h l a b : BitVec 64)
    (s : h.toNat * 18446744073709551616 + l.toNat = a.toNat * (b.toNat % 4294967296)) (hb : b.toNat < 256) :
    den l + ((h.toNat : Nat) : F) * (18446744073709551616 : F) = den a * den b ∧ h.toNat < 256 := by
  rw [Nat.mod_eq_of_lt (by omega)] at s
  constructor
  · unfold den
    have := congrArg (fun n : Nat => (n : F)) s
    simp only [Nat.cast_add, Nat.cast_mul] at this
    rw [← this]; push_cast; ring
  · have ha := a.isLt
    have hp : a.toNat * b.toNat < 18446744073709551616 * 256 := Nat.mul_lt_mul'' ha hb
    omega

theorem den_mult72 (a b : V4) (i : Fin 4) (hb : (b.get i).toNat < 256) :
    den ((mult_avx_72 a b).2.get i) + ((((mult_avx_72 a b).1.get i).toNat : Nat) : F) * (18446744073709551616 : F) =
      den (a.get i) * den (b.get i) ∧ ((mult_avx_72 a b).1.get i).toNat < 256 := by
  exact den_mul72_of _ _ _ _ (mult72_spec a b i).1 hb

theorem two64_F : (18446744073709551616 : F) = (4294967295 : F) := by
  have : ((18446744073709551616 : Nat) : F) = ((4294967295 : Nat) : F) :=
    natCast_eq_of_mod _ _ (by decide)
  exact_mod_cast this

theorem den_reduce96_of (r h l : BitVec 64) (t : Nat)
    (red : r.toNat % P = (h.toNat % 4294967296 * 18446744073709551616 + l.toNat) % P) (ht : h.toNat = t)
    (hlt : t < 4294967296) : den r = (t : F) * (18446744073709551616 : F) + den l := by
  rw [ht, Nat.mod_eq_of_lt hlt] at red
  rw [den_of_mod _ _ red]
  unfold den
  push_cast
  rfl

/-- reduce_avx_96_64 in the field view (the caller supplies the number the high word holds; how the register holding
  it was computed is left to unification) -/
theorem den_reduce96_sum (h l : V4) (i : Fin 4) (t : Nat) (ht : (h.get i).toNat = t) (hlt : t < 4294967296) :
    den ((reduce_avx_96_64 h l).get i) = (t : F) * (18446744073709551616 : F) + den (l.get i) :=
  den_reduce96_of _ _ _ t (reduce96_spec h l i) ht hlt

theorem spmv_8_den (a0 a1 a2 : V4) (b : Region) (hb : ∀ k, k < 12 → (b k).toNat < 256) :
    IsSpmv a0 a1 a2 b (spmv_avx_4x12_8 a0 a1 a2 b) := by
  intro i
  have hi := i.isLt
  have g0 : ((load_avx b).get i).toNat < 256 := by rw [load_avx, get_load]; exact hb _ (by omega)
  have g1 : ((load_avx (Region.shift b 4)).get i).toNat < 256 := by
    rw [load_avx, get_load, Region.shift_apply]; exact hb _ (by omega)
  have g2 : ((load_avx (Region.shift b 8)).get i).toNat < 256 := by
    rw [load_avx, get_load, Region.shift_apply]; exact hb _ (by omega)
  obtain ⟨m0, n0⟩ := den_mult72 a0 (load_avx b) i g0
  obtain ⟨m1, n1⟩ := den_mult72 a1 (load_avx (Region.shift b 4)) i g1
  obtain ⟨m2, n2⟩ := den_mult72 a2 (load_avx (Region.shift b 8)) i g2
  simp only [get_load, load_avx, Region.shift_apply] at m0 m1 m2
  -- the three 72-bit products: low parts added mod p (in any association), high parts (< 2^8 each) added as
  -- 64-bit integers (in any association and order), then one 96-bit reduction
  simp only [spmv_avx_4x12_8]
  rw [den_reduce96_sum _ _ i
    (((mult_avx_72 a0 (load_avx b)).1.get i).toNat + ((mult_avx_72 a1 (load_avx (Region.shift b 4))).1.get i).toNat +
      ((mult_avx_72 a2 (load_avx (Region.shift b 8))).1.get i).toNat)
    (by simp only [lane_get, BitVec.toNat_add]; omega) (by omega)]
  simp only [den_add_avx, load_avx]
  simp only [load_avx] at n0 n1 n2
  push_cast
  rw [← m0, ← m1, ← m2]
  ring


theorem mmult_4x12_8_den (a0 a1 a2 : V4) (M : Region) (i : Fin 4) (hb : ∀ k, k < 48 → (M k).toNat < 256) :
    den ((mmult_avx_4x12_8 a0 a1 a2 M).get i) = dot12 a0 a1 a2 M (12 * i.val) := by
  refine rows_sum4 a0 a1 a2 M _ _ _ _ (spmv_8_den a0 a1 a2 M (fun k hk => hb k (by omega)))
    (spmv_8_den a0 a1 a2 _ (fun k hk => hb (12 + k) (by omega))) (spmv_8_den a0 a1 a2 _ (fun k hk => hb (24 + k) (by omega)))
    (spmv_8_den a0 a1 a2 _ (fun k hk => hb (36 + k) (by omega))) _ (fun j => ?_) i
  simp only [mmult_avx_4x12_8, den_add_avx, permute_32, permute_49, Avx2.unpacklo_pd, Avx2.unpackhi_pd]
  try ring

theorem mmult_8_den (a0 a1 a2 : V4) (M : Region) (i : Fin 4) (hb : ∀ k, k < 144 → (M k).toNat < 256) :
    den ((mmult_avx_8 a0 a1 a2 M).1.get i) = dot12 a0 a1 a2 M (12 * i.val) ∧
    den ((mmult_avx_8 a0 a1 a2 M).2.1.get i) = dot12 a0 a1 a2 M (48 + 12 * i.val) ∧
    den ((mmult_avx_8 a0 a1 a2 M).2.2.get i) = dot12 a0 a1 a2 M (96 + 12 * i.val) := by
  have h1 := mmult_4x12_8_den a0 a1 a2 M i (fun k hk => hb _ (by omega))
  have h2 := mmult_4x12_8_den a0 a1 a2 (Region.shift M 48) i (fun k hk => by
    rw [Region.shift_apply]; exact hb _ (by omega))
  have h3 := mmult_4x12_8_den a0 a1 a2 (Region.shift M 96) i (fun k hk => by
    rw [Region.shift_apply]; exact hb _ (by omega))
  rw [dot12_shift] at h2 h3
  simp only [mmult_avx_8]
  exact ⟨h1, h2, h3⟩

end GoldilocksVerif
