/-
  P = 2^64 - 2^32 + 1 is prime (Lucas test with witness 7, P - 1 = 2^32·3·5·17·257·65537).
  Modular powers are evaluated in the kernel through a square-and-multiply function (`decide +kernel`, no axioms).
-/
import Mathlib.NumberTheory.LucasPrimality
import Mathlib.Tactic.NormNum.Prime
import GoldilocksVerif.Lemmas.Field

namespace GoldilocksVerif

/-- Square-and-multiply over an arbitrary product, structurally recursive on the fuel so that the kernel evaluates it. -/
def sqMul {α : Type} (mul : α → α → α) : Nat → α → Nat → α → α
  | 0, _, _, acc => acc
  | fuel + 1, b, e, acc =>
    if e = 0 then acc
    else sqMul mul fuel (mul b b) (e / 2) (if e % 2 = 1 then mul acc b else acc)

theorem sqMul_hom {α : Type} {M : Type*} [CommSemiring M] (mul : α → α → α) (φ : α → M)
    (hφ : ∀ a b, φ (mul a b) = φ a * φ b) : ∀ (fuel : Nat) (b : α) (e : Nat) (acc : α),
    e < 2 ^ fuel → φ (sqMul mul fuel b e acc) = φ acc * φ b ^ e := by
  intro fuel
  induction fuel with
  | zero =>
    intro b e acc h
    have : e = 0 := by omega
    rw [this, pow_zero, mul_one]
    rfl
  | succ n ih =>
    intro b e acc h
    unfold sqMul
    split
    · rename_i he
      rw [he, pow_zero, mul_one]
    · have h2 : e / 2 < 2 ^ n := by
        rw [Nat.pow_succ] at h; omega
      have hdecomp : e = 2 * (e / 2) + e % 2 := by omega
      rw [ih _ _ _ h2, hφ]
      conv => rhs; rw [hdecomp, pow_add, pow_mul, pow_two]
      split
      · rename_i hodd
        rw [hφ, hodd, pow_one]; ring
      · have h0 : e % 2 = 0 := by omega
        rw [h0, pow_zero, mul_one]

def powMod (b e : Nat) : Nat := sqMul (fun x y => x * y % P) 128 b e 1

theorem pow_eq_powMod (b e : Nat) (he : e < 2 ^ 128) : ((b : F) ^ e) = ((powMod b e : Nat) : F) := by
  have h := sqMul_hom (fun x y => x * y % P) (Nat.cast : Nat → F)
    (fun x y => by rw [ZMod.natCast_mod, Nat.cast_mul]) 128 b e 1 he
  rw [Nat.cast_one, one_mul] at h
  exact h.symm

theorem P_sub_one_factors : P - 1 = 2 ^ 32 * 3 * 5 * 17 * 257 * 65537 := by decide

theorem P_prime : Nat.Prime P := by
  apply lucas_primality P (7 : F)
  · have : ((7 : Nat) : F) ^ (P - 1) = 1 := by
      rw [pow_eq_powMod 7 (P - 1) (by decide)]
      have : powMod 7 (P - 1) = 1 := by decide +kernel
      rw [this]; simp
    exact_mod_cast this
  · intro q hq hdvd
    rw [P_sub_one_factors] at hdvd
    have key : ∀ e : Nat, e < 2 ^ 128 → powMod 7 e ≠ 1 → powMod 7 e < P → ((7 : F) ^ e) ≠ 1 := by
      intro e he hne hlt h1
      have : ((7 : Nat) : F) ^ e = 1 := by exact_mod_cast h1
      rw [pow_eq_powMod 7 e he] at this
      have h2 : ((powMod 7 e : Nat) : F) = ((1 : Nat) : F) := by rw [this]; simp
      have h3 := (ZMod.natCast_eq_natCast_iff' _ _ _).mp h2
      rw [Nat.mod_eq_of_lt hlt] at h3
      exact hne h3
    have step : ∀ {a p : Nat}, p.Prime → q ∣ a * p → q ∣ a ∨ q = p := fun hp h =>
      ((Nat.Prime.dvd_mul hq).mp h).imp id (Nat.prime_dvd_prime_iff_eq hq hp).mp
    obtain h | rfl := step (by norm_num) hdvd
    obtain h | rfl := step (by norm_num) h
    obtain h | rfl := step (by norm_num) h
    obtain h | rfl := step (by norm_num) h
    obtain h | rfl := step (by norm_num) h
    obtain rfl := (Nat.prime_dvd_prime_iff_eq hq Nat.prime_two).mp (hq.dvd_of_dvd_pow h)
    all_goals exact key _ (by decide) (by decide +kernel) (by decide +kernel)

instance : Fact (Nat.Prime P) := ⟨P_prime⟩

end GoldilocksVerif
