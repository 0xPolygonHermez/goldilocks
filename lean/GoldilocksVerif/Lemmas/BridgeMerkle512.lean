/-
  Bridge: the TRANSLATED AVX512 Merkle builders `merkletree_avx512`, `merkletree_batch_avx512` and the two default wrappers
  `merkletree`, `merkletree_batch` (Gen/MerkleGen.lean, regenerated from poseidon_goldilocks.cpp on every run).

  The AVX512 builders hash TWO rows per iteration of the leaf loop (`for (i = 0; i < num_rows; i += 2)`) through
  `linear_hash_avx512`, which writes the two digests side by side (8 words at tree + 4·i); an odd last row (for rows = 2^k
  only rows = 1) goes through the one-state `linear_hash`.  The level loop is the AVX2 one (`hash`), i.e. `mtLevelG`.

    * `mt512_generic`, `mtb512_generic`, `mt_default_generic`, `mtb_default_generic`: the generated builders EQUAL the
      reference texts `mt512GenG LH2 LH1 H`, `mtb512GenG LH2 LH1 H` instantiated with the translated hashes they call
      (extensionally, `gen_equiv` of Lemmas/BridgeEquiv.lean: e.g. the leaf loop may test `i + 1 >= num_rows` first);
      the wrappers call the AVX512 builders.
    * `mt512GenG_spec`: for rows = 2^k the first 4·(2·rows − 1) tree words are `treeOfLeaves node rows (leaves512 ..)`,
      where `leaves512` = the pair digests `leaf2 (row_2m ++ row_2m+1)` in order (for rows = 1: `leaf1 row_0`).
    * `leaves512_rows`: if `leaf2 (a ++ b) |a| = leaf1 a ++ leaf1 b` for equally long a, b (C07_avx512: follows from the
      interleaving property of the two-state permutation), `leaves512` are the row digests, so the buffer is
      `Model.merkleTree leaf1 node rows`.
-/
import GoldilocksVerif.Lemmas.BridgeMerkleBatch
import GoldilocksVerif.Lemmas.BridgePermAvx
set_option linter.unusedVariables false
set_option linter.unusedSimpArgs false

namespace GoldilocksVerif
open Model Gen.MerkleGen

theorem rangeMAux_reindex {σ : Type} (step : Nat) (f : Nat → σ → Option σ) :
    ∀ (n m : Nat) (s : σ), Loop.rangeMAux step f n (step * m) s = Loop.rangeMAux 1 (fun m => f (step * m)) n m s := by
  intro n
  induction n with
  | zero => intro m s; rfl
  | succ n ih =>
    intro m s
    rw [Loop.rangeMAux_succ, Loop.rangeMAux_succ]
    cases h : f (step * m) s with
    | none => rfl
    | some s' =>
      simp only [Option.bind_some]
      have e : step * m + step = step * (m + 1) := (Nat.mul_succ step m).symm
      rw [e, ih (m + 1) s']

theorem rangeM_zero_two {σ : Type} (R : Nat) (s : σ) (f : Nat → σ → Option σ) :
    Loop.rangeM 0 R 2 s f = Loop.rangeMAux 1 (fun m => f (2 * m)) ((R + 1) / 2) 0 s := by
  unfold Loop.rangeM
  have e : (R - 0 + 2 - 1) / 2 = (R + 1) / 2 := by simp
  rw [e]
  exact rangeMAux_reindex 2 f ((R + 1) / 2) 0 s

/-- a loop with step 2 over 2^(k+1) rows runs the iterations `m ↦ f (2·m)`, m < 2^k -/
theorem rangeM_zero_two_pow {σ : Type} (k : Nat) (s : σ) (f : Nat → σ → Option σ) :
    Loop.rangeM 0 (2 ^ (k + 1)) 2 s f = Loop.rangeMAux 1 (fun m => f (2 * m)) (2 ^ k) 0 s := by
  have hN : (2 ^ (k + 1) + 1) / 2 = 2 ^ k := by rw [Nat.pow_succ]; omega
  rw [rangeM_zero_two, hN]

theorem rangeM_one_row {σ : Type} (s : σ) (f g : Nat → σ → Option σ) (h : f 0 s = g 0 s) :
    Loop.rangeM 0 1 2 s f = Loop.rangeM 0 1 1 s g := by
  unfold Loop.rangeM
  show Loop.rangeMAux 2 f 1 0 s = Loop.rangeMAux 1 g 1 0 s
  rw [Loop.rangeMAux_succ, Loop.rangeMAux_succ, h]
  rfl

/-- the leaf level of the AVX512 builders for 2^k rows of w words: pair digests (`leaf2` of two consecutive rows, 8 words),
    for one row its one-state digest -/
def leaves512 (leaf1 : List Wd → List Wd) (leaf2 : List Wd → Nat → List Wd) (input : Region) (w k : Nat) : List Wd :=
  if k = 0 then leaf1 (rowOf input w 0)
  else (List.range (2 ^ (k - 1))).flatMap (fun m => leaf2 (rowOf input w (2 * m) ++ rowOf input w (2 * m + 1)) w)

theorem flatMap_pairs (g : Nat → List Wd) : ∀ n,
    (List.range n).flatMap (fun m => g (2 * m) ++ g (2 * m + 1)) = (List.range (2 * n)).flatMap g := by
  intro n
  induction n with
  | zero => rfl
  | succ n ih =>
    have e : 2 * (n + 1) = 2 * n + 1 + 1 := by omega
    rw [List.range_succ, List.flatMap_append, ih, e, List.range_succ, List.range_succ, List.flatMap_append,
      List.flatMap_append, List.append_assoc]
    simp

/-- with the two-at-a-time hash being two one-at-a-time hashes, the AVX512 leaf level is the level of row digests -/
theorem leaves512_rows (leaf1 : List Wd → List Wd) (leaf2 : List Wd → Nat → List Wd)
    (hpair : ∀ a b : List Wd, a.length = b.length → leaf2 (a ++ b) a.length = leaf1 a ++ leaf1 b)
    (input : Region) (w k : Nat) :
    leaves512 leaf1 leaf2 input w k = (List.range (2 ^ k)).flatMap (fun i => leaf1 (rowOf input w i)) := by
  unfold leaves512
  cases k with
  | zero => simp
  | succ k =>
    have h2 : (2 : Nat) ^ (k + 1) = 2 * 2 ^ k := by rw [Nat.pow_succ]; omega
    rw [if_neg (by omega), h2, ← flatMap_pairs, Nat.add_sub_cancel]
    congr 1
    funext m
    have hl : (rowOf input w (2 * m)).length = (rowOf input w (2 * m + 1)).length := by
      unfold rowOf; rw [Region.length_toList, Region.length_toList]
    have := hpair _ _ hl
    have hw : (rowOf input w (2 * m)).length = w := by unfold rowOf; rw [Region.length_toList]
    rw [hw] at this
    exact this

theorem two_rows (input : Region) (w m : Nat) :
    Region.toList (Region.shift input (2 * m * w)) (2 * w) = rowOf input w (2 * m) ++ rowOf input w (2 * m + 1) := by
  unfold rowOf
  have e : 2 * m * w + w = (2 * m + 1) * w := (Nat.succ_mul _ _).symm
  rw [toList_two_inputs, Region.shift_shift, e]

/-! ### `merkletree_avx512` -/

def mt512LeafG (LH2 LH1 : Nat → Region → Region → BitVec 64 → Option Region) (fuel : Nat) (input : Region)
    (num_cols num_rows dim : BitVec 64) (i : Nat) (st__ : Region) : Option Region :=
  let tree := st__
  (if (decide ((BitVec.ofNat 64 (i + 1)) < num_rows)) then
      (LH2 fuel (Region.shift tree (4 * i)) (Region.shift input ((((BitVec.ofNat 64 i) * num_cols) * dim)).toNat) (num_cols * dim)).bind fun r_1 =>
      let tree := (Region.unshift tree (4 * i) r_1)
      some tree
    else
      (LH1 fuel (Region.shift tree (4 * i)) (Region.shift input ((((BitVec.ofNat 64 i) * num_cols) * dim)).toNat) (num_cols * dim)).bind fun r_2 =>
      let tree := (Region.unshift tree (4 * i) r_2)
      some tree
    ).bind fun j_3 =>
  let tree := j_3
  some tree

def mt512GenG (LH2 LH1 : Nat → Region → Region → BitVec 64 → Option Region) (H : Region → Region → Region) (fuel : Nat)
    (tree input : Region) (num_cols num_rows : BitVec 64) (dim : BitVec 64) : Option Region :=
  if (num_rows == 0#64) then
    some tree
  else
    mtTailG H fuel (Loop.rangeM 0 (num_rows).toNat 2 tree (mt512LeafG LH2 LH1 fuel input num_cols num_rows dim)) num_rows

theorem mt512_generic (fuel : Nat) (tree input : Region) (num_cols num_rows : BitVec 64) (nThreads : Int) (dim : BitVec 64) :
    Pos_merkletree_avx512 fuel tree input num_cols num_rows nThreads dim =
      mt512GenG Gen.LinearHashGen.Pos_linear_hash_avx512 Gen.LinearHashGen.Pos_linear_hash Gen.PosAvx2.Pos_hash
        fuel tree input num_cols num_rows dim := by
  delta mt512GenG mtTailG mt512LeafG mtLevelG mtNodeG
  delta_prefix "Gen.MerkleGen."
  gen_equiv

/-- the condition `i + 1 < num_rows` of the leaf loop, for i = 2·m -/
theorem pair_cond (num_rows : BitVec 64) (R m : Nat) (hR : num_rows.toNat = R) (hlt : 2 * m + 1 < 2 ^ 64) :
    (decide ((BitVec.ofNat 64 (2 * m + 1)) < num_rows)) = decide (2 * m + 1 < R) := by
  by_cases h : 2 * m + 1 < R
  · rw [decide_eq_true h, decide_eq_true_iff, BitVec.lt_def, ofNat_toNat_lt _ hlt, hR]
    exact h
  · rw [decide_eq_false h, decide_eq_false_iff_not, BitVec.lt_def, ofNat_toNat_lt _ hlt, hR]
    exact h

/-! `merkletree_avx512` (c = 8): the loop has step 2, iteration `m` handles the rows `2m`, `2m+1`; the two-state hash
    writes 8 words; an odd last row goes through the one-state hash (4 words). -/

section avx512
variable (LH2 LH1 : Nat → Region → Region → BitVec 64 → Option Region) (fuel : Nat) (input : Region)
variable (num_cols num_rows dim : BitVec 64)

def pairG (m : Nat) (out : Region) : Option Region :=
  if (decide ((BitVec.ofNat 64 (2 * m + 1)) < num_rows)) then
    LH2 fuel out (Region.shift input ((((BitVec.ofNat 64 (2 * m)) * num_cols) * dim)).toNat) (num_cols * dim)
  else
    LH1 fuel out (Region.shift input ((((BitVec.ofNat 64 (2 * m)) * num_cols) * dim)).toNat) (num_cols * dim)

def pairW (m : Nat) : Nat := if (decide ((BitVec.ofNat 64 (2 * m + 1)) < num_rows)) then 8 else 4

theorem pairW_le (m : Nat) : pairW num_rows m ≤ 4 * 2 := by
  unfold pairW; split <;> omega

theorem mt512LeafG_fill (m : Nat) (t : Region) :
    mt512LeafG LH2 LH1 fuel input num_cols num_rows dim (2 * m) t =
      (pairG LH2 LH1 fuel input num_cols num_rows dim m (Region.shift t (4 * 2 * m))).bind fun r =>
        some (Region.unshift t (4 * 2 * m) r) := by
  have e8 : 4 * (2 * m) = 4 * 2 * m := by omega
  unfold mt512LeafG pairG
  dsimp only
  rw [e8]
  by_cases hc : decide ((BitVec.ofNat 64 (2 * m + 1)) < num_rows) = true
  · rw [if_pos hc, if_pos hc]
    cases (LH2 fuel (Region.shift t (4 * 2 * m))
      (Region.shift input ((((BitVec.ofNat 64 (2 * m)) * num_cols) * dim)).toNat) (num_cols * dim)) <;> rfl
  · rw [if_neg hc, if_neg hc]
    cases (LH1 fuel (Region.shift t (4 * 2 * m))
      (Region.shift input ((((BitVec.ofNat 64 (2 * m)) * num_cols) * dim)).toNat) (num_cols * dim)) <;> rfl

theorem mt512LeafG_writer (leaf1 : List Wd → List Wd) (leaf2 : List Wd → Nat → List Wd) (hLH1 : LeafHash LH1 leaf1)
    (hLH2 : PairHash LH2 leaf2) (hfu : (num_cols * dim).toNat < fuel) (m : Nat) :
    DigestWriter (pairW num_rows m) (pairG LH2 LH1 fuel input num_cols num_rows dim m)
      (if (decide ((BitVec.ofNat 64 (2 * m + 1)) < num_rows)) then
        leaf2 (Region.toList (Region.shift input ((((BitVec.ofNat 64 (2 * m)) * num_cols) * dim)).toNat)
          (2 * (num_cols * dim).toNat)) (num_cols * dim).toNat
       else leaf1 (Region.toList (Region.shift input ((((BitVec.ofNat 64 (2 * m)) * num_cols) * dim)).toNat)
          (num_cols * dim).toNat)) := by
  intro out
  unfold pairW pairG
  by_cases hc : decide ((BitVec.ofNat 64 (2 * m + 1)) < num_rows) = true
  · rw [if_pos hc, if_pos hc, if_pos hc]
    exact hLH2 fuel out _ _ hfu
  · rw [if_neg hc, if_neg hc, if_neg hc]
    exact hLH1 fuel out _ _ hfu

end avx512


theorem mt512_leaves (LH2 LH1 : Nat → Region → Region → BitVec 64 → Option Region)
    (leaf1 : List Wd → List Wd) (leaf2 : List Wd → Nat → List Wd) (hLH1 : LeafHash LH1 leaf1) (hLH2 : PairHash LH2 leaf2)
    (fuel : Nat) (input tree : Region) (num_cols num_rows dim : BitVec 64) (k w : Nat)
    (hR : num_rows.toNat = 2 ^ k)
    (hw : (num_cols * dim).toNat = w) (hidx : ∀ i, i < 2 ^ k → (((BitVec.ofNat 64 i) * num_cols) * dim).toNat = i * w)
    (hf : w < fuel) :
    ∃ t, Loop.rangeM 0 (2 ^ k) 2 tree (mt512LeafG LH2 LH1 fuel input num_cols num_rows dim) = some t ∧
      Region.toList t (4 * 2 ^ k) = leaves512 leaf1 leaf2 input w k ∧ ∀ j, 4 * 2 ^ k ≤ j → t j = tree j := by
  unfold leaves512
  cases k with
  | zero =>
    -- one row: the odd-last-row branch, i.e. the leaf loop of `merkletree_avx` on one row
    have hc : decide ((BitVec.ofNat 64 (0 + 1)) < num_rows) = false := by
      rw [pair_cond num_rows (2 ^ 0) 0 hR (by decide)]; decide
    have e : mt512LeafG LH2 LH1 fuel input num_cols num_rows dim 0 tree = mtLeafG LH1 fuel input num_cols dim 0 tree := by
      unfold mt512LeafG mtLeafG
      dsimp only
      rw [hc]
      simp only [Bool.false_eq_true, if_false]
      cases (LH1 fuel (Region.shift tree (4 * 0))
        (Region.shift input ((((BitVec.ofNat 64 0) * num_cols) * dim)).toNat) (num_cols * dim)) <;> rfl
    rw [if_pos rfl, Nat.pow_zero, rangeM_one_row tree _ _ e]
    simpa [rowsOf] using mt_leaves LH1 leaf1 hLH1 fuel input tree num_cols dim 1 w hw (fun i hi => hidx i (by simpa using hi)) hf
  | succ k =>
    have h2p : (2 : Nat) ^ (k + 1) = 2 * 2 ^ k := by rw [Nat.pow_succ]; omega
    rw [rangeM_zero_two_pow, if_neg (by omega), Nat.add_sub_cancel]
    obtain ⟨t, h1, h2, h3⟩ := fill_spec (4 * 2) _ _ _ (2 ^ k)
      (fun m _ t => mt512LeafG_fill LH2 LH1 fuel input num_cols num_rows dim m t)
      (fun m hm => by
        -- 2^(k+1) rows: every iteration takes the two-row branch
        have hc : decide ((BitVec.ofNat 64 (2 * m + 1)) < num_rows) = true := by
          rw [pair_cond num_rows (2 ^ (k + 1)) m hR (by have := num_rows.isLt; omega), decide_eq_true_iff]; omega
        have h := mt512LeafG_writer LH2 LH1 fuel input num_cols num_rows dim leaf1 leaf2 hLH1 hLH2 (by rw [hw]; exact hf) m
        rw [pairW, hc, if_pos rfl, if_pos rfl, hw, hidx (2 * m) (by omega), two_rows] at h
        exact h)
      tree
    have e : 4 * 2 ^ (k + 1) = 4 * 2 * 2 ^ k := by omega
    rw [e]
    exact ⟨t, h1, h2, h3⟩

theorem mt512GenG_spec (LH2 LH1 : Nat → Region → Region → BitVec 64 → Option Region)
    (leaf1 : List Wd → List Wd) (leaf2 : List Wd → Nat → List Wd) (hLH1 : LeafHash LH1 leaf1) (hLH2 : PairHash LH2 leaf2)
    (H : Region → Region → Region) (nodeF : List Wd → List Wd) (hH : NodeHash H nodeF)
    (fuel : Nat) (tree input : Region) (num_cols num_rows : BitVec 64) (dim : BitVec 64) (k : Nat)
    (hR : num_rows.toNat = 2 ^ k) (hk : k ≤ 48) (hprod : 2 ^ k * (num_cols.toNat * dim.toNat) < 2 ^ 64)
    (hf1 : num_cols.toNat * dim.toNat < fuel) (hf2 : 2 ^ k < fuel) :
    ∃ t, mt512GenG LH2 LH1 H fuel tree input num_cols num_rows dim = some t ∧
      Region.toList t (4 * (2 * 2 ^ k - 1)) =
        treeOfLeaves (fun x => nodeF (x ++ zeros 4)) (2 ^ k)
          (leaves512 leaf1 leaf2 input (num_cols.toNat * dim.toNat) k) ∧
      ∀ i, 4 * (2 * 2 ^ k - 1) ≤ i → t i = tree i := by
  have hkpos : 0 < 2 ^ k := Nat.two_pow_pos k
  have hw := row_width num_cols dim k hprod
  have hne := rows_ne_zero num_rows k hR
  unfold mt512GenG
  rw [if_neg hne]
  refine mtTailG_spec H nodeF hH fuel tree num_rows k hR hk hf2 _ _ ?_
  rw [hR]
  exact mt512_leaves LH2 LH1 leaf1 leaf2 hLH1 hLH2 fuel input tree num_cols num_rows dim k _ hR hw
    (fun i hi => row_index num_cols dim (2 ^ k) i hi hprod) hf1

/-! ### `merkletree_batch_avx512` -/

def mtb512InnerG (LH2 : Nat → Region → Region → BitVec 64 → Option Region) (fuel : Nat) (input : Region)
    (num_cols batch_size dim nbatches nlastb : BitVec 64) (i j : Nat) (st__ : Region) : Option Region :=
  let buff0 := st__
  let nn : BitVec 64 := batch_size
  let nn := if ((BitVec.ofNat 64 j) == (nbatches - 1#64)) then
      let nn := nlastb
      nn
    else
      nn
  let nbuff1 : BitVec 64 := ((2#64 * nn) * dim)
  let buff1 : Region := Region.zero
  let buff2 : Region := Region.zero
  let buff1 := (Region.copyN buff1 (Region.shift input (((((BitVec.ofNat 64 i) * num_cols) * dim) + (((BitVec.ofNat 64 j) * batch_size) * dim))).toNat) ((((dim * nn) * 8#64)).toNat / 8))
  let buff1 := (Region.unshift buff1 ((nn * dim)).toNat (Region.copyN (Region.shift buff1 ((nn * dim)).toNat) (Region.shift input (((((BitVec.ofNat 64 (i + 1)) * num_cols) * dim) + (((BitVec.ofNat 64 j) * batch_size) * dim))).toNat) ((((dim * nn) * 8#64)).toNat / 8)))
  (LH2 fuel buff2 buff1 (nn * dim)).bind fun r_4 =>
  let buff2 := r_4
  let buff0 := (Region.unshift buff0 (4 * j) (Region.copyN (Region.shift buff0 (4 * j)) buff2 4))
  let buff0 := (Region.unshift buff0 ((((BitVec.ofNat 64 j) + nbatches) * 4#64)).toNat (Region.copyN (Region.shift buff0 ((((BitVec.ofNat 64 j) + nbatches) * 4#64)).toNat) (Region.shift buff2 4) 4))
  some buff0

def mtb512LeafG (LH2 LH1 : Nat → Region → Region → BitVec 64 → Option Region) (fuel : Nat) (input : Region)
    (num_cols num_rows batch_size dim nbatches nlastb : BitVec 64) (i : Nat) (st__ : Region) : Option Region :=
  let tree := st__
  let buff0 : Region := Region.zero
  if (decide ((BitVec.ofNat 64 (i + 1)) ≥ num_rows)) then
    (Loop.rangeM 0 (nbatches).toNat 1 buff0 (mtbInnerG LH1 fuel input num_cols batch_size dim nbatches nlastb i)).bind fun st_2 =>
    let buff0 := st_2
    (LH1 fuel (Region.shift tree (4 * i)) buff0 (nbatches * 4#64)).bind fun r_3 =>
    let tree := (Region.unshift tree (4 * i) r_3)
    some tree
  else
    (Loop.rangeM 0 (nbatches).toNat 1 buff0 (mtb512InnerG LH2 fuel input num_cols batch_size dim nbatches nlastb i)).bind fun st_5 =>
    let buff0 := st_5
    (LH2 fuel (Region.shift tree (4 * i)) buff0 (nbatches * 4#64)).bind fun r_6 =>
    let tree := (Region.unshift tree (4 * i) r_6)
    some tree

def mtb512GenG (LH2 LH1 : Nat → Region → Region → BitVec 64 → Option Region) (H : Region → Region → Region) (fuel : Nat)
    (tree input : Region) (num_cols num_rows batch_size : BitVec 64) (dim : BitVec 64) : Option Region :=
  if (num_rows == 0#64) then
    some tree
  else
    mtTailG H fuel (Loop.rangeM 0 (num_rows).toNat 2 tree
      (mtb512LeafG LH2 LH1 fuel input num_cols num_rows batch_size dim (nbBV num_cols batch_size)
        (nlastBV num_cols batch_size))) num_rows

theorem mtb512_generic (fuel : Nat) (tree input : Region) (num_cols num_rows batch_size : BitVec 64) (nThreads : Int)
    (dim : BitVec 64) (hb : 1 ≤ batch_size.toNat) (hcb : num_cols.toNat + batch_size.toNat < 2 ^ 61) :
    Pos_merkletree_batch_avx512 fuel tree input num_cols num_rows batch_size nThreads dim =
      mtb512GenG Gen.LinearHashGen.Pos_linear_hash_avx512 Gen.LinearHashGen.Pos_linear_hash Gen.PosAvx2.Pos_hash
        fuel tree input num_cols num_rows batch_size dim := by
  -- the batch count does not wrap (buff0 has 8·nbatches words): the order of the two digest copies to buff0[4j..) and
  -- buff0[4(nbatches + j)..), j < nbatches, is then immaterial; `gen_equiv` reads the bound from the context
  have hq : ((num_cols + batch_size - 1#64) / batch_size).toNat < 2 ^ 61 := by
    have h1 : (1#64 : BitVec 64).toNat = 1 := rfl
    rw [BitVec.toNat_udiv]
    refine Nat.lt_of_le_of_lt (Nat.div_le_self _ _) ?_
    rw [BitVec.toNat_sub, BitVec.toNat_add, h1]
    omega
  clear hb hcb
  delta mtb512GenG mtTailG mtb512LeafG mtb512InnerG mtbInnerG mtLevelG mtNodeG nlastBV nbBV
  delta_prefix "Gen.MerkleGen."
  gen_equiv

theorem mt_default_generic (fuel : Nat) (tree input : Region) (num_cols num_rows : BitVec 64) (nThreads : Int)
    (dim : BitVec 64) :
    Pos_merkletree fuel tree input num_cols num_rows nThreads dim =
      Pos_merkletree_avx512 fuel tree input num_cols num_rows nThreads dim := by
  unfold Pos_merkletree
  cases (Pos_merkletree_avx512 fuel tree input num_cols num_rows nThreads dim) <;>
    simp only [Option.bind_some, Option.bind_none]

theorem mtb_default_generic (fuel : Nat) (tree input : Region) (num_cols num_rows batch_size : BitVec 64) (nThreads : Int)
    (dim : BitVec 64) :
    Pos_merkletree_batch fuel tree input num_cols num_rows batch_size nThreads dim =
      Pos_merkletree_batch_avx512 fuel tree input num_cols num_rows batch_size nThreads dim := by
  unfold Pos_merkletree_batch
  cases (Pos_merkletree_batch_avx512 fuel tree input num_cols num_rows batch_size nThreads dim) <;>
    simp only [Option.bind_some, Option.bind_none]

def batchOf (c b d j : Nat) (row : List Wd) : List Wd := (row.drop (j * b * d)).take (nnOf c b j * d)

/-- the pair digest of batch j of two rows -/
def pairPart (leaf2 : List Wd → Nat → List Wd) (c d b : Nat) (rowA rowB : List Wd) (j : Nat) : List Wd :=
  leaf2 (batchOf c b d j rowA ++ batchOf c b d j rowB) (nnOf c b j * d)

/-- the two leaf digests of two consecutive rows as `merkletree_batch_avx512` computes them: per batch one two-at-a-time hash
    of the two row slices; the first halves are collected in buff0[0 .. 4·nbatches), the second halves in
    buff0[4·nbatches .. 8·nbatches); one two-at-a-time hash of the two halves of buff0 -/
def batchLeaf512 (leaf2 : List Wd → Nat → List Wd) (c d b : Nat) (rowA rowB : List Wd) : List Wd :=
  leaf2 ((List.range (nbOf c b)).flatMap (fun j => (pairPart leaf2 c d b rowA rowB j).take 4) ++
         (List.range (nbOf c b)).flatMap (fun j => (pairPart leaf2 c d b rowA rowB j).drop 4)) (4 * nbOf c b)

/-- leaf level of `merkletree_batch_avx512` for 2^k rows -/
def leavesB512 (leaf1 : List Wd → List Wd) (leaf2 : List Wd → Nat → List Wd) (input : Region) (c d b k : Nat) : List Wd :=
  if k = 0 then batchLeaf leaf1 c d b (rowOf input (c * d) 0)
  else (List.range (2 ^ (k - 1))).flatMap
    (fun m => batchLeaf512 leaf2 c d b (rowOf input (c * d) (2 * m)) (rowOf input (c * d) (2 * m + 1)))

theorem batchOf_length (c b d j : Nat) (row : List Wd) (hb : 1 ≤ b) (hj : j < nbOf c b) (hrow : row.length = c * d) :
    (batchOf c b d j row).length = nnOf c b j * d := by
  have := batch_in_row c b d j hb hj
  unfold batchOf
  rw [List.length_take, List.length_drop, hrow]
  omega

/-- with the two-at-a-time hash being two one-at-a-time hashes, the AVX512 batched pair digest is the two batched leaves -/
theorem batchLeaf512_rows (leaf1 : List Wd → List Wd) (leaf2 : List Wd → Nat → List Wd)
    (hpair : ∀ a b : List Wd, a.length = b.length → leaf2 (a ++ b) a.length = leaf1 a ++ leaf1 b)
    (hlen : ∀ a, (leaf1 a).length = 4)
    (c d b : Nat) (hb : 1 ≤ b) (rowA rowB : List Wd) (hA : rowA.length = c * d) (hB : rowB.length = c * d) :
    batchLeaf512 leaf2 c d b rowA rowB = batchLeaf leaf1 c d b rowA ++ batchLeaf leaf1 c d b rowB := by
  have hP : ∀ j, j < nbOf c b →
      pairPart leaf2 c d b rowA rowB j = leaf1 (batchOf c b d j rowA) ++ leaf1 (batchOf c b d j rowB) := by
    intro j hj
    have lA := batchOf_length c b d j rowA hb hj hA
    have lB := batchOf_length c b d j rowB hb hj hB
    have := hpair (batchOf c b d j rowA) (batchOf c b d j rowB) (by rw [lA, lB])
    rw [lA] at this
    exact this
  have e1 : (List.range (nbOf c b)).flatMap (fun j => (pairPart leaf2 c d b rowA rowB j).take 4) =
      (List.range (nbOf c b)).flatMap (fun j => leaf1 (batchOf c b d j rowA)) :=
    flatMap_congr_range _ _ _ (fun j hj => by
      show (pairPart leaf2 c d b rowA rowB j).take 4 = _
      rw [hP j hj, List.take_left' (hlen _)])
  have e2 : (List.range (nbOf c b)).flatMap (fun j => (pairPart leaf2 c d b rowA rowB j).drop 4) =
      (List.range (nbOf c b)).flatMap (fun j => leaf1 (batchOf c b d j rowB)) :=
    flatMap_congr_range _ _ _ (fun j hj => by
      show (pairPart leaf2 c d b rowA rowB j).drop 4 = _
      rw [hP j hj, List.drop_left' (hlen _)])
  have l1 : ((List.range (nbOf c b)).flatMap fun j => leaf1 (batchOf c b d j rowA)).length = 4 * nbOf c b := by
    rw [flatMap_length4 _ (fun j => hlen _), List.length_range]
  have l2 : ((List.range (nbOf c b)).flatMap fun j => leaf1 (batchOf c b d j rowB)).length = 4 * nbOf c b := by
    rw [flatMap_length4 _ (fun j => hlen _), List.length_range]
  unfold batchLeaf512
  rw [e1, e2]
  have := hpair _ _ (l1.trans l2.symm)
  rw [l1] at this
  rw [this, batchLeaf_eq, batchLeaf_eq]
  rfl

theorem leavesB512_rows (leaf1 : List Wd → List Wd) (leaf2 : List Wd → Nat → List Wd)
    (hpair : ∀ a b : List Wd, a.length = b.length → leaf2 (a ++ b) a.length = leaf1 a ++ leaf1 b)
    (hlen : ∀ a, (leaf1 a).length = 4) (input : Region) (c d b k : Nat) (hb : 1 ≤ b) :
    leavesB512 leaf1 leaf2 input c d b k =
      (List.range (2 ^ k)).flatMap (fun i => batchLeaf leaf1 c d b (rowOf input (c * d) i)) := by
  unfold leavesB512
  cases k with
  | zero => simp
  | succ k =>
    have h2 : (2 : Nat) ^ (k + 1) = 2 * 2 ^ k := by rw [Nat.pow_succ]; omega
    rw [if_neg (by omega), h2, ← flatMap_pairs, Nat.add_sub_cancel]
    congr 1
    funext m
    exact batchLeaf512_rows leaf1 leaf2 hpair hlen c d b hb _ _ (by unfold rowOf; rw [Region.length_toList])
      (by unfold rowOf; rw [Region.length_toList])

theorem take4_toList8 (r : Region) : (Region.toList r 8).take 4 = Region.toList r 4 := Region.toList_take r 8 4

theorem drop4_toList8 (r : Region) : (Region.toList r 8).drop 4 = Region.toList (Region.shift r 4) 4 :=
  Region.toList_drop r 8 4

/-- `buff1`: the two row slices back to back (two memcpy's into a fresh array) -/
def buff1Of (srcA srcB : Region) (n p : Nat) : Region :=
  Region.unshift (Region.copyN Region.zero srcA n) p (Region.copyN (Region.shift (Region.copyN Region.zero srcA n) p) srcB n)

theorem buff1_list (srcA srcB : Region) (n : Nat) :
    Region.toList (buff1Of srcA srcB n n) (2 * n) = Region.toList srcA n ++ Region.toList srcB n := by
  rw [toList_two_inputs]
  unfold buff1Of
  congr 1
  · exact Region.toList_congr (fun x hx => by
      rw [Region.unshift_apply, if_neg (by omega), Region.copyN_apply, if_pos hx])
  · exact Region.toList_congr (fun x hx => by
      rw [Region.shift_apply, Region.unshift_apply, if_pos (by omega), Region.copyN_apply, if_pos (by omega)]
      congr 1; omega)

/-- `buff0` after the two memcpy's of the digest halves -/
def buff0Upd (b0 : Region) (j q : Nat) (r : Region) : Region :=
  Region.unshift (Region.unshift b0 (4 * j) (Region.copyN (Region.shift b0 (4 * j)) r 4)) q
    (Region.copyN (Region.shift (Region.unshift b0 (4 * j) (Region.copyN (Region.shift b0 (4 * j)) r 4)) q) (Region.shift r 4) 4)

theorem buff0Upd_apply (b0 r : Region) (j q x : Nat) (hq : 4 * j + 4 ≤ q) :
    (buff0Upd b0 j q r) x =
      if 4 * j ≤ x ∧ x < 4 * j + 4 then r (x - 4 * j) else if q ≤ x ∧ x < q + 4 then r (4 + (x - q)) else b0 x := by
  unfold buff0Upd
  rw [GenEquiv.pt_unshift_copyN, GenEquiv.pt_unshift_copyN]
  by_cases h2 : q ≤ x ∧ x < q + 4
  · rw [if_pos h2, if_neg (by omega), if_pos h2, Region.shift_apply]
  · rw [if_neg h2, if_neg h2]

def nnSel (batch_size nbatches nlastb : BitVec 64) (j : Nat) : BitVec 64 :=
  if ((BitVec.ofNat 64 j) == (nbatches - 1#64)) then nlastb else batch_size

def offBV (num_cols batch_size dim : BitVec 64) (i j : Nat) : BitVec 64 :=
  ((((BitVec.ofNat 64 i) * num_cols) * dim) + (((BitVec.ofNat 64 j) * batch_size) * dim))

theorem mtb512InnerG_eq (LH2 : Nat → Region → Region → BitVec 64 → Option Region) (fuel : Nat) (input : Region)
    (num_cols batch_size dim nbatches nlastb : BitVec 64) (i j : Nat) (b0 : Region) :
    mtb512InnerG LH2 fuel input num_cols batch_size dim nbatches nlastb i j b0 =
      (LH2 fuel Region.zero
        (buff1Of (Region.shift input (offBV num_cols batch_size dim i j).toNat)
          (Region.shift input (offBV num_cols batch_size dim (i + 1) j).toNat)
          ((((dim * nnSel batch_size nbatches nlastb j) * 8#64)).toNat / 8) ((nnSel batch_size nbatches nlastb j * dim)).toNat)
        (nnSel batch_size nbatches nlastb j * dim)).bind fun r =>
      some (buff0Upd b0 j ((((BitVec.ofNat 64 j) + nbatches) * 4#64)).toNat r) := rfl

theorem mtb512_inner (LH2 : Nat → Region → Region → BitVec 64 → Option Region) (leaf2 : List Wd → Nat → List Wd)
    (hLH2 : PairHash LH2 leaf2) (fuel : Nat) (input : Region) (num_cols batch_size dim nbatches nlastb : BitVec 64)
    (c b d R i : Nat) (hc : num_cols.toNat = c) (hbv : batch_size.toNat = b) (hd : dim.toNat = d) (hb : 1 ≤ b)
    (hi : i + 1 < R) (hprod : R * (c * d) < 2 ^ 64) (h61 : c * d < 2 ^ 61) (hcb : c + b < 2 ^ 61)
    (hnb : nbatches.toNat = nbOf c b) (hnl : nlastb.toNat = nlastOf c b) (hf1 : c * d < fuel) :
    ∃ b0, Loop.rangeM 0 nbatches.toNat 1 Region.zero
        (mtb512InnerG LH2 fuel input num_cols batch_size dim nbatches nlastb i) = some b0 ∧
      Region.toList b0 (2 * (4 * nbOf c b)) =
        (List.range (nbOf c b)).flatMap
          (fun j => (pairPart leaf2 c d b (rowOf input (c * d) i) (rowOf input (c * d) (i + 1)) j).take 4) ++
        (List.range (nbOf c b)).flatMap
          (fun j => (pairPart leaf2 c d b (rowOf input (c * d) i) (rowOf input (c * d) (i + 1)) j).drop 4) := by
  have hnble := nbOf_le c b hb
  rw [hnb]
  obtain ⟨b0, hr, h1, h2⟩ := Loop.rangeM_inv (mtb512InnerG LH2 fuel input num_cols batch_size dim nbatches nlastb i)
    (fun j b0 =>
      Region.toList b0 (4 * j) = (List.range j).flatMap
        (fun j => (pairPart leaf2 c d b (rowOf input (c * d) i) (rowOf input (c * d) (i + 1)) j).take 4) ∧
      Region.toList (Region.shift b0 (4 * nbOf c b)) (4 * j) = (List.range j).flatMap
        (fun j => (pairPart leaf2 c d b (rowOf input (c * d) i) (rowOf input (c * d) (i + 1)) j).drop 4))
    0 (nbOf c b) (Nat.zero_le _)
    (by
      intro j b0 _ hj ⟨hl1, hl2⟩
      have hrow := batch_in_row c b d j hb hj
      have ew : (nnSel batch_size nbatches nlastb j * dim).toNat = nnOf c b j * d :=
        batch_width batch_size dim nbatches nlastb c b d j hbv hd hb (by omega) hnb hnl hj
      have eoA : (offBV num_cols batch_size dim i j).toNat = i * (c * d) + j * b * d :=
        batch_offset num_cols batch_size dim c b d R i j hc hbv hd hb (by omega) hj hprod
      have eoB : (offBV num_cols batch_size dim (i + 1) j).toNat = (i + 1) * (c * d) + j * b * d :=
        batch_offset num_cols batch_size dim c b d R (i + 1) j hc hbv hd hb hi hj hprod
      have en : (((dim * nnSel batch_size nbatches nlastb j) * 8#64)).toNat / 8 = nnOf c b j * d := by
        have h8 : (8#64 : BitVec 64).toNat = 8 := rfl
        rw [BitVec.mul_comm dim, BitVec.toNat_mul, ew, h8]
        omega
      have eq : ((((BitVec.ofNat 64 j) + nbatches) * 4#64)).toNat = 4 * nbOf c b + 4 * j := by
        have h4 : (4#64 : BitVec 64).toNat = 4 := rfl
        rw [BitVec.toNat_mul, BitVec.toNat_add, ofNat_toNat_lt j (by omega), hnb, h4]
        omega
      obtain ⟨r4, ho, hdg, _⟩ := hLH2 fuel Region.zero
        (buff1Of (Region.shift input (i * (c * d) + j * b * d)) (Region.shift input ((i + 1) * (c * d) + j * b * d))
          (nnOf c b j * d) (nnOf c b j * d))
        (nnSel batch_size nbatches nlastb j * dim) (by rw [ew]; omega)
      have hP : Region.toList r4 8 = pairPart leaf2 c d b (rowOf input (c * d) i) (rowOf input (c * d) (i + 1)) j := by
        rw [hdg, ew, buff1_list]
        unfold pairPart batchOf rowOf
        rw [Region.toList_drop_take _ hrow, Region.toList_drop_take _ hrow, Region.shift_shift, Region.shift_shift]
      have e4 : 4 * (j + 1) = 4 * j + 4 := by omega
      have es : ∀ g : Nat → List Wd, ([j] : List Nat).flatMap g = g j := fun g => by simp
      refine ⟨buff0Upd b0 j (4 * nbOf c b + 4 * j) r4, by rw [mtb512InnerG_eq, en, ew, eq, eoA, eoB, ho]; rfl, ?_, ?_⟩
      · rw [e4, Region.toList_add, List.range_succ, List.flatMap_append, ← hl1, es, ← hP, take4_toList8]
        congr 1
        · exact Region.toList_congr (fun x hx => by
            rw [buff0Upd_apply _ _ _ _ _ (by omega), if_neg (by omega), if_neg (by omega)])
        · exact Region.toList_congr (fun x hx => by
            rw [Region.shift_apply, buff0Upd_apply _ _ _ _ _ (by omega), if_pos (by omega)]
            congr 1; omega)
      · rw [e4, Region.toList_add, List.range_succ, List.flatMap_append, ← hl2, es, ← hP, drop4_toList8]
        congr 1
        · exact Region.toList_congr (fun x hx => by
            rw [Region.shift_apply, Region.shift_apply, buff0Upd_apply _ _ _ _ _ (by omega), if_neg (by omega),
              if_neg (by omega)])
        · exact Region.toList_congr (fun x hx => by
            rw [Region.shift_apply, Region.shift_apply, Region.shift_apply, buff0Upd_apply _ _ _ _ _ (by omega),
              if_neg (by omega), if_pos (by omega)]
            congr 1; omega))
    Region.zero ⟨by simp [Region.toList], by simp [Region.toList]⟩
  exact ⟨b0, hr, by rw [toList_two_inputs, h1, h2]⟩

/-- the condition `i + 1 >= num_rows` of the batched leaf loop, for i = 2·m -/
theorem pair_cond_ge (num_rows : BitVec 64) (R m : Nat) (hR : num_rows.toNat = R) (hlt : 2 * m + 1 < 2 ^ 64) :
    (decide ((BitVec.ofNat 64 (2 * m + 1)) ≥ num_rows)) = decide (R ≤ 2 * m + 1) := by
  by_cases h : R ≤ 2 * m + 1
  · rw [decide_eq_true h, decide_eq_true_iff, ge_iff_le, BitVec.le_def, ofNat_toNat_lt _ hlt, hR]
    exact h
  · rw [decide_eq_false h, decide_eq_false_iff_not, ge_iff_le, BitVec.le_def, ofNat_toNat_lt _ hlt, hR]
    exact h

/-! `merkletree_batch_avx512` (c = 8), for an even number of rows `2^(k+1)`: every iteration takes the two-row branch. -/

section batch512
variable (LH2 LH1 : Nat → Region → Region → BitVec 64 → Option Region) (fuel : Nat) (input : Region)
variable (num_cols num_rows batch_size dim nbatches nlastb : BitVec 64)

theorem mtb512LeafG_fill (k : Nat) (hR : num_rows.toNat = 2 ^ (k + 1)) (m : Nat) (hm : m < 2 ^ k) (t : Region) :
    mtb512LeafG LH2 LH1 fuel input num_cols num_rows batch_size dim nbatches nlastb (2 * m) t =
      ((fun m out => (Loop.rangeM 0 nbatches.toNat 1 Region.zero
          (mtb512InnerG LH2 fuel input num_cols batch_size dim nbatches nlastb (2 * m))).bind fun st_5 =>
        LH2 fuel out st_5 (nbatches * 4#64)) m (Region.shift t (4 * 2 * m))).bind fun r =>
          some (Region.unshift t (4 * 2 * m) r) := by
  have h2p : (2 : Nat) ^ (k + 1) = 2 * 2 ^ k := by rw [Nat.pow_succ]; omega
  have hcnd : decide ((BitVec.ofNat 64 (2 * m + 1)) ≥ num_rows) = false := by
    rw [pair_cond_ge num_rows (2 ^ (k + 1)) m hR (by have := num_rows.isLt; omega), decide_eq_false_iff_not]
    omega
  have e8 : 4 * (2 * m) = 4 * 2 * m := by omega
  unfold mtb512LeafG
  dsimp only
  rw [hcnd, e8]
  simp only [Bool.false_eq_true, if_false]
  cases (Loop.rangeM 0 nbatches.toNat 1 Region.zero
    (mtb512InnerG LH2 fuel input num_cols batch_size dim nbatches nlastb (2 * m))) <;> rfl

theorem mtb512LeafG_writer (leaf2 : List Wd → Nat → List Wd) (hLH2 : PairHash LH2 leaf2)
    (c b d k : Nat) (hc : num_cols.toNat = c) (hbv : batch_size.toNat = b) (hd : dim.toNat = d) (hb : 1 ≤ b)
    (hprod : 2 ^ (k + 1) * (c * d) < 2 ^ 64) (h61 : c * d < 2 ^ 61) (hcb : c + b < 2 ^ 61)
    (hnb : nbatches.toNat = nbOf c b) (hnl : nlastb.toNat = nlastOf c b) (hf1 : c * d < fuel) (hf3 : 4 * (c + 1) < fuel)
    (m : Nat) (hm : m < 2 ^ k) :
    DigestWriter 8 (fun out => (Loop.rangeM 0 nbatches.toNat 1 Region.zero
        (mtb512InnerG LH2 fuel input num_cols batch_size dim nbatches nlastb (2 * m))).bind fun st_5 =>
      LH2 fuel out st_5 (nbatches * 4#64))
      (batchLeaf512 leaf2 c d b (rowOf input (c * d) (2 * m)) (rowOf input (c * d) (2 * m + 1))) := by
  have h2p : (2 : Nat) ^ (k + 1) = 2 * 2 ^ k := by rw [Nat.pow_succ]; omega
  have hnble := nbOf_le c b hb
  have e4 : (nbatches * 4#64).toNat = 4 * nbOf c b := by
    have h4 : (4#64 : BitVec 64).toNat = 4 := rfl
    rw [BitVec.toNat_mul, hnb, h4]
    omega
  intro out
  obtain ⟨b0, hb0, hl0⟩ := mtb512_inner LH2 leaf2 hLH2 fuel input num_cols batch_size dim nbatches nlastb c b d
    (2 ^ (k + 1)) (2 * m) hc hbv hd hb (by omega) hprod h61 hcb hnb hnl hf1
  obtain ⟨out', ho, hdg, hofr⟩ := hLH2 fuel out b0 (nbatches * 4#64) (by rw [e4]; omega)
  refine ⟨out', by rw [hb0]; exact ho, ?_, hofr⟩
  rw [hdg, e4, hl0]
  rfl

end batch512

theorem mtb512_leaves (LH2 LH1 : Nat → Region → Region → BitVec 64 → Option Region)
    (leaf1 : List Wd → List Wd) (leaf2 : List Wd → Nat → List Wd) (hLH1 : LeafHash LH1 leaf1) (hLH2 : PairHash LH2 leaf2)
    (fuel : Nat) (input tree : Region) (num_cols num_rows batch_size dim nbatches nlastb : BitVec 64)
    (c b d k : Nat) (hR : num_rows.toNat = 2 ^ k)
    (hc : num_cols.toNat = c) (hbv : batch_size.toNat = b) (hd : dim.toNat = d) (hb : 1 ≤ b)
    (hprod : 2 ^ k * (c * d) < 2 ^ 64) (h61 : c * d < 2 ^ 61) (hcb : c + b < 2 ^ 61)
    (hnb : nbatches.toNat = nbOf c b) (hnl : nlastb.toNat = nlastOf c b) (hf1 : c * d < fuel) (hf3 : 4 * (c + 1) < fuel) :
    ∃ t, Loop.rangeM 0 (2 ^ k) 2 tree
        (mtb512LeafG LH2 LH1 fuel input num_cols num_rows batch_size dim nbatches nlastb) = some t ∧
      Region.toList t (4 * 2 ^ k) = leavesB512 leaf1 leaf2 input c d b k ∧ ∀ j, 4 * 2 ^ k ≤ j → t j = tree j := by
  have hnble := nbOf_le c b hb
  have e4 := buff0_len nbatches c b hb (by omega) hnb
  unfold leavesB512
  cases k with
  | zero =>
    -- one row: the odd-last-row branch, i.e. the leaf loop of `merkletree_batch_avx` on one row
    have hcnd : decide ((BitVec.ofNat 64 (0 + 1)) ≥ num_rows) = true := by
      rw [pair_cond_ge num_rows (2 ^ 0) 0 hR (by decide)]; decide
    have e : mtb512LeafG LH2 LH1 fuel input num_cols num_rows batch_size dim nbatches nlastb 0 tree =
        mtbLeafG LH1 fuel input num_cols batch_size dim nbatches nlastb 0 tree := by
      unfold mtb512LeafG mtbLeafG
      dsimp only
      rw [hcnd]
      rfl
    rw [if_pos rfl, Nat.pow_zero, rangeM_one_row tree _ _ e]
    simpa using mtb_leaves LH1 leaf1 hLH1 fuel input tree num_cols batch_size dim nbatches nlastb c b d 1 hc hbv hd hb
      (by simpa using hprod) (by omega) hnb hnl hf1 hf3
  | succ k =>
    have h2p : (2 : Nat) ^ (k + 1) = 2 * 2 ^ k := by rw [Nat.pow_succ]; omega
    rw [rangeM_zero_two_pow, if_neg (by omega), Nat.add_sub_cancel]
    obtain ⟨t, h1, h2, h3⟩ := fill_spec (4 * 2) _ _ _ (2 ^ k)
      (fun m hm t => mtb512LeafG_fill LH2 LH1 fuel input num_cols num_rows batch_size dim nbatches nlastb k hR m hm t)
      (fun m hm => mtb512LeafG_writer LH2 fuel input num_cols batch_size dim nbatches nlastb leaf2 hLH2 c b d k hc hbv hd hb
        hprod h61 hcb hnb hnl hf1 hf3 m hm)
      tree
    have e : 4 * 2 ^ (k + 1) = 4 * 2 * 2 ^ k := by omega
    rw [e]
    exact ⟨t, h1, h2, h3⟩

theorem mtb512GenG_spec (LH2 LH1 : Nat → Region → Region → BitVec 64 → Option Region)
    (leaf1 : List Wd → List Wd) (leaf2 : List Wd → Nat → List Wd) (hLH1 : LeafHash LH1 leaf1) (hLH2 : PairHash LH2 leaf2)
    (H : Region → Region → Region) (nodeF : List Wd → List Wd) (hH : NodeHash H nodeF)
    (fuel : Nat) (tree input : Region) (num_cols num_rows batch_size : BitVec 64) (dim : BitVec 64) (k : Nat)
    (hR : num_rows.toNat = 2 ^ k) (hk : k ≤ 48) (hprod : 2 ^ k * (num_cols.toNat * dim.toNat) < 2 ^ 64)
    (h61 : num_cols.toNat * dim.toNat < 2 ^ 61)
    (hb : 1 ≤ batch_size.toNat) (hcb : num_cols.toNat + batch_size.toNat < 2 ^ 61)
    (hf1 : num_cols.toNat * dim.toNat < fuel) (hf2 : 2 ^ k < fuel) (hf3 : 4 * (num_cols.toNat + 1) < fuel) :
    ∃ t, mtb512GenG LH2 LH1 H fuel tree input num_cols num_rows batch_size dim = some t ∧
      Region.toList t (4 * (2 * 2 ^ k - 1)) =
        treeOfLeaves (fun x => nodeF (x ++ zeros 4)) (2 ^ k)
          (leavesB512 leaf1 leaf2 input num_cols.toNat dim.toNat batch_size.toNat k) ∧
      ∀ i, 4 * (2 * 2 ^ k - 1) ≤ i → t i = tree i := by
  have hkpos : 0 < 2 ^ k := Nat.two_pow_pos k
  have hne := rows_ne_zero num_rows k hR
  unfold mtb512GenG
  rw [if_neg hne]
  refine mtTailG_spec H nodeF hH fuel tree num_rows k hR hk hf2 _ _ ?_
  rw [hR]
  exact mtb512_leaves LH2 LH1 leaf1 leaf2 hLH1 hLH2 fuel input tree num_cols num_rows batch_size dim _ _ _ _ _ k hR
    rfl rfl rfl hb hprod h61 hcb (nbBV_toNat num_cols batch_size hb (by omega))
    (nlastBV_toNat num_cols batch_size hb (by omega)) hf1 hf3

end GoldilocksVerif
