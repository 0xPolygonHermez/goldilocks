/-
  Proof rules for the in-bounds predicates (`f.Safe`, Lemmas/HeapSafeVC.lean / HeapSafeDefs.lean):
  the loops of the generated NTT code keep the SHAPE of the heap (Lemmas/HeapSafeBal.lean), so what has to be shown for
  the state a loop reaches is an arithmetic fact about the extents the heap had before the loop (`RangeAll.of_same`; with an
  invariant of one's own: `RangeAll.of_inv`, `WhileAll.of_inv`; what `step s = some (true, s')` says of a translated `while`:
  `guard_true`, `guard_bind_true`).  `zeta_goal` puts an unfolded `f.Safe` into the form these
  rules are applied to.
-/
import GoldilocksVerif.Lemmas.HeapSafeVC
import GoldilocksVerif.Lemmas.HeapSafeBal

namespace GoldilocksVerif

namespace Heap

theorem InB.same {a b : Heap} (h : Same a b) {p : Ptr} {i : Nat} (x : InB a p i) : InB b p i := by
  unfold InB at *; rw [h.2]; exact x
theorem RangeOK.same {a b : Heap} (h : Same a b) {p : Ptr} {n : Nat} (x : RangeOK a p n) : RangeOK b p n := by
  unfold RangeOK at *; rw [h.2]; exact x
theorem CopyOK.same {a b : Heap} (h : Same a b) {d s : Ptr} {n : Nat} (x : CopyOK a d s n) : CopyOK b d s n :=
  ⟨x.1.same h, x.2.1.same h, x.2.2⟩
theorem FreeOK.same {a b : Heap} (h : Same a b) {p : Ptr} (x : FreeOK a p) : FreeOK b p := by
  unfold FreeOK at *; rw [h.2]; exact x

end Heap

namespace HeapSafe

theorem InB_base {h : Heap} {p : Ptr} {i : Nat} (x : p.off + i < h.ext p.blk) : h.InB p i := x
theorem RangeOK_add {h : Heap} {p : Ptr} {o n : Nat} (x : p.off + o + n ≤ h.ext p.blk) : h.RangeOK (p.add o) n := x
theorem RangeOK_base {h : Heap} {p : Ptr} {n : Nat} (x : p.off + n ≤ h.ext p.blk) : h.RangeOK p n := x

end HeapSafe

namespace Loop

theorem RangeAll.of_same {lo hi : Nat} {init : Heap} {f : Nat → Heap → Option Heap} {S : Nat → Heap → Prop}
    (hf : ∀ i s, Heap.Same init s → OInv (Heap.Same s) (f i s))
    (hS : ∀ i st, lo ≤ i → i < hi → Heap.Same init st → S i st) : RangeAll lo hi init f S := by
  intro i st h1 h2 hr
  refine hS i st h1 h2 ?_
  exact OInv.rangeM (P := Heap.Same init) lo i 1 init f (Heap.Same.refl _)
    (fun j s hs => OInv.of_same hs (hf j s hs)) st hr

theorem RangeAll.of_same_fst {τ : Type} {lo hi : Nat} {h0 : Heap} {init : Heap × τ} {f : Nat → Heap × τ → Option (Heap × τ)}
    {S : Nat → Heap × τ → Prop} (h0i : Heap.Same h0 init.1)
    (hf : ∀ i s, Heap.Same h0 s.1 → OInv (fun r => Heap.Same h0 r.1) (f i s))
    (hS : ∀ i st, lo ≤ i → i < hi → Heap.Same h0 st.1 → S i st) : RangeAll lo hi init f S := by
  intro i st h1 h2 hr
  refine hS i st h1 h2 ?_
  exact OInv.rangeM (P := fun r => Heap.Same h0 r.1) lo i 1 init f h0i (fun j s hs => hf j s hs) st hr

theorem RangeAll.of_inv {σ : Type} {lo hi : Nat} {init : σ} {f : Nat → σ → Option σ} {S : Nat → σ → Prop}
    (Inv : Nat → σ → Prop) (h0 : Inv lo init)
    (hstep : ∀ i s s', lo ≤ i → i < hi → Inv i s → f i s = some s' → Inv (i + 1) s')
    (hS : ∀ i s, lo ≤ i → i < hi → Inv i s → S i s) : RangeAll lo hi init f S := by
  have key : ∀ n st, lo + n ≤ hi → rangeM lo (lo + n) 1 init f = some st → Inv (lo + n) st := by
    intro n
    induction n with
    | zero =>
      intro st _ h
      have : rangeM lo (lo + 0) 1 init f = some init := by
        unfold rangeM; simp [rangeMAux_zero]
      rw [this] at h; cases h; exact h0
    | succ n ih =>
      intro st hle h
      rw [show lo + (n + 1) = (lo + n) + 1 from rfl, rangeM_succ_right f lo (lo + n) init (by omega)] at h
      cases hr : rangeM lo (lo + n) 1 init f with
      | none => rw [hr] at h; cases h
      | some s1 =>
        rw [hr] at h
        exact hstep (lo + n) s1 st (by omega) (by omega) (ih s1 (by omega) hr) h
  intro i st h1 h2 hr
  have : i = lo + (i - lo) := by omega
  rw [this] at hr ⊢
  exact hS _ st (by omega) (by omega) (key (i - lo) st (by omega) hr)

/-- a translated `while (c) body`: the step is `if c then some (true, a) else some (false, b)`; it continues only under `c` -/
theorem guard_true {σ : Type} {c : Prop} [Decidable c] {a b s' : σ}
    (h : (if c then some (true, a) else some (false, b)) = some (true, s')) : c ∧ s' = a := by
  by_cases hc : c
  · rw [if_pos hc] at h; injection h with h; injection h with _ h; exact ⟨hc, h.symm⟩
  · rw [if_neg hc] at h; injection h with h; injection h with hb _; exact absurd hb (by decide)

/-- the same with a body that may fail -/
theorem guard_bind_true {σ τ : Type} {c : Prop} [Decidable c] {x : Option τ} {g : τ → σ} {b s' : σ}
    (h : (if c then x.bind (fun y => some (true, g y)) else some (false, b)) = some (true, s')) :
    c ∧ ∃ y, x = some y ∧ s' = g y := by
  by_cases hc : c
  · rw [if_pos hc, Option.bind_eq_some_iff] at h
    obtain ⟨y, hy, h⟩ := h
    injection h with h; injection h with _ h; exact ⟨hc, y, hy, h.symm⟩
  · rw [if_neg hc] at h; injection h with h; injection h with hb _; exact absurd hb (by decide)

theorem WhileAll.of_inv {σ : Type} {step : σ → Option (Bool × σ)} {init : σ} {S : σ → Prop} (Inv : σ → Prop)
    (h0 : Inv init) (hstep : ∀ s s', Inv s → step s = some (true, s') → Inv s') (hS : ∀ s, Inv s → S s) :
    WhileAll step init S := by
  intro st hr
  apply hS
  induction hr with
  | init => exact h0
  | next _ hs ih => exact hstep _ _ ih hs

end Loop

open Lean Meta Elab Tactic in
/-- substitute every `let` of the goal, reduce projections of literal tuples / structures -/
elab "zeta_goal" : tactic => withMainContext do
  let g ← getMainGoal
  let t ← instantiateMVars (← g.getType)
  let t' ← reduceProjs (← zetaReduce t)
  let g' ← g.change t' (checkDefEq := false)
  replaceMainGoal [g']

end GoldilocksVerif
