/-
  Specification of the transforms (C03, C04, C05) over a field, and the code-independent theory:
  `dft`, `idft`, `lde`; orthogonality of the powers of a primitive root, hence `idft ∘ dft = id = dft ∘ idft`;
  the interpolant is well defined (`lde_welldef`).
  Then the library's roots of unity: `omega d = den (W[d])` from the GENERATED table `Gen.Scalar.c_W_list`
  (`decide +kernel` facts: W[0] = 1, W[1] = -1, W[k+1]^2 = W[k]), hence `omega d` is a primitive 2^d-th root of unity
  for every d ≤ 32; `2 * powTwoInv = 1`; `SHIFT = 7`.
-/
import Mathlib.Algebra.BigOperators.Group.Finset.Basic
import Mathlib.Algebra.BigOperators.Ring.Finset
import Mathlib.Algebra.BigOperators.Group.Finset.Sigma
import Mathlib.Algebra.Ring.GeomSum
import Mathlib.Tactic.Ring
import Mathlib.Tactic.FieldSimp
import GoldilocksVerif.Lemmas.InvF

namespace GoldilocksVerif.NttSpec
open Finset

section generic
variable {K : Type} [Field K]

def dft (ω : K) (n : Nat) (x : Nat → K) (k : Nat) : K := ∑ j ∈ range n, x j * ω ^ (j * k)

def idft (ω : K) (n : Nat) (y : Nat → K) (k : Nat) : K := (n : K)⁻¹ * ∑ j ∈ range n, y j * ω⁻¹ ^ (j * k)

def evalPoly (n : Nat) (c : Nat → K) (z : K) : K := ∑ i ∈ range n, c i * z ^ i

/-- low-degree extension: the interpolant of `x` on the powers of `ωN` (its coefficients are `idft ωN N x`),
    evaluated on the coset `g·ωE^k` -/
def lde (g ωN ωE : K) (N : Nat) (x : Nat → K) (k : Nat) : K := evalPoly N (idft ωN N x) (g * ωE ^ k)

structure IsPrimRoot (ω : K) (n : Nat) : Prop where
  pow_n : ω ^ n = 1
  ne_one : ∀ m, 0 < m → m < n → ω ^ m ≠ 1

theorem IsPrimRoot.ne_zero {ω : K} {n : Nat} (h : IsPrimRoot ω n) (hn : 0 < n) : ω ≠ 0 := by
  intro h0
  have := h.pow_n
  rw [h0, zero_pow (by omega)] at this
  exact zero_ne_one this

theorem IsPrimRoot.inv {ω : K} {n : Nat} (h : IsPrimRoot ω n) : IsPrimRoot ω⁻¹ n := by
  constructor
  · rw [inv_pow, h.pow_n, inv_one]
  · intro m h0 h1 hm
    apply h.ne_one m h0 h1
    rw [inv_pow, inv_eq_one] at hm
    exact hm

theorem IsPrimRoot.pow_ne_of_lt {ω : K} {n : Nat} (h : IsPrimRoot ω n) {i k : Nat} (hik : i < k) (hk : k < n) :
    ω ^ i ≠ ω ^ k := by
  intro e
  apply h.ne_one (k - i) (by omega) (by omega)
  have : ω ^ k = ω ^ i * ω ^ (k - i) := by rw [← pow_add]; congr 1; omega
  rw [this] at e
  have h2 : ω ^ i ≠ 0 := pow_ne_zero _ (h.ne_zero (by omega))
  field_simp at e
  exact e.symm

theorem IsPrimRoot.pow_inj {ω : K} {n : Nat} (h : IsPrimRoot ω n) {i k : Nat} (hi : i < n) (hk : k < n)
    (e : ω ^ i = ω ^ k) : i = k := by
  rcases Nat.lt_trichotomy i k with hlt | heq | hgt
  · exact absurd e (h.pow_ne_of_lt hlt hk)
  · exact heq
  · exact absurd e.symm (h.pow_ne_of_lt hgt hi)

theorem orthogonality {ω : K} {n : Nat} (h : IsPrimRoot ω n) {i k : Nat} (hi : i < n) (hk : k < n) :
    ∑ j ∈ range n, ω ^ (i * j) * ω⁻¹ ^ (j * k) = if i = k then (n : K) else 0 := by
  have hω : ω ≠ 0 := h.ne_zero (by omega)
  have e1 : ∀ j, ω ^ (i * j) * ω⁻¹ ^ (j * k) = (ω ^ i * ω⁻¹ ^ k) ^ j := by
    intro j
    rw [mul_pow, ← pow_mul, ← pow_mul, Nat.mul_comm k j]
  simp only [e1]
  by_cases hik : i = k
  · subst hik
    have : ω ^ i * ω⁻¹ ^ i = 1 := by rw [← mul_pow, mul_inv_cancel₀ hω, one_pow]
    rw [this, if_pos rfl]
    simp
  · rw [if_neg hik]
    have hz : ω ^ i * ω⁻¹ ^ k ≠ 1 := by
      intro e
      apply hik
      apply h.pow_inj hi hk
      rw [inv_pow] at e
      have h2 : ω ^ k ≠ 0 := pow_ne_zero _ hω
      field_simp at e
      exact e
    have hzn : (ω ^ i * ω⁻¹ ^ k) ^ n = 1 := by
      rw [mul_pow, ← pow_mul, ← pow_mul, Nat.mul_comm i n, Nat.mul_comm k n, pow_mul, pow_mul, h.pow_n, inv_pow, h.pow_n]
      simp
    have g := geom_sum_mul (ω ^ i * ω⁻¹ ^ k) n
    rw [hzn, sub_self] at g
    rcases mul_eq_zero.mp g with g | g
    · exact g
    · exact absurd (sub_eq_zero.mp g) hz

/-- C04 (code-independent half): the inverse transform undoes the forward transform -/
theorem idft_dft {ω : K} {n : Nat} (h : IsPrimRoot ω n) (hn : (n : K) ≠ 0) (x : Nat → K) {k : Nat} (hk : k < n) :
    idft ω n (dft ω n x) k = x k := by
  unfold idft dft
  have e1 : ∑ j ∈ range n, (∑ i ∈ range n, x i * ω ^ (i * j)) * ω⁻¹ ^ (j * k)
      = ∑ i ∈ range n, x i * ∑ j ∈ range n, ω ^ (i * j) * ω⁻¹ ^ (j * k) := by
    simp only [sum_mul, mul_sum]
    rw [sum_comm]
    apply sum_congr rfl; intro i _
    apply sum_congr rfl; intro j _
    ring
  rw [e1]
  have e2 : ∑ i ∈ range n, x i * ∑ j ∈ range n, ω ^ (i * j) * ω⁻¹ ^ (j * k)
      = ∑ i ∈ range n, if i = k then x k * (n : K) else 0 := by
    apply sum_congr rfl; intro i hi
    rw [orthogonality h (mem_range.mp hi) hk]
    by_cases hik : i = k
    · subst hik; simp
    · simp [hik]
  rw [e2, sum_ite_eq' (range n) k (fun _ => x k * (n : K)), if_pos (mem_range.mpr hk)]
  field_simp

theorem idft_eq_dft_inv (ω : K) (n : Nat) (y : Nat → K) (k : Nat) :
    idft ω n y k = (n : K)⁻¹ * dft ω⁻¹ n y k := rfl

theorem dft_smul (ω c : K) (n : Nat) (y : Nat → K) (k : Nat) :
    dft ω n (fun j => c * y j) k = c * dft ω n y k := by
  unfold dft
  rw [mul_sum]
  apply sum_congr rfl; intro j _; ring

theorem dft_congr (ω : K) (n : Nat) (x y : Nat → K) (k : Nat) (h : ∀ j < n, x j = y j) : dft ω n x k = dft ω n y k := by
  unfold dft
  apply sum_congr rfl; intro j hj; rw [h j (mem_range.mp hj)]

theorem idft_congr (ω : K) (n : Nat) (x y : Nat → K) (k : Nat) (h : ∀ j < n, x j = y j) : idft ω n x k = idft ω n y k := by
  unfold idft
  congr 1
  apply sum_congr rfl; intro j hj; rw [h j (mem_range.mp hj)]

/-- C04 (code-independent half): the forward transform undoes the inverse transform -/
theorem dft_idft {ω : K} {n : Nat} (h : IsPrimRoot ω n) (hn : (n : K) ≠ 0) (y : Nat → K) {k : Nat} (hk : k < n) :
    dft ω n (idft ω n y) k = y k := by
  have e : dft ω n (idft ω n y) k = idft ω⁻¹ n (dft ω⁻¹ n y) k := by
    have : idft ω n y = fun j => (n : K)⁻¹ * dft ω⁻¹ n y j := by funext j; rfl
    rw [this, dft_smul, idft_eq_dft_inv, inv_inv]
  rw [e, idft_dft h.inv hn y hk]

theorem evalPoly_pow (ω : K) (n : Nat) (c : Nat → K) (j : Nat) : evalPoly n c (ω ^ j) = dft ω n c j := by
  unfold evalPoly dft
  apply sum_congr rfl; intro i _
  rw [← pow_mul, Nat.mul_comm j i]

/-- C05 (code-independent half): a coefficient vector `c` (degree < N) interpolates `x` on the powers of `ω`
    iff it is `idft ω N x`: the interpolant exists and is unique, so `lde` is well defined. -/
theorem lde_welldef {ω : K} {N : Nat} (h : IsPrimRoot ω N) (hn : (N : K) ≠ 0) (x c : Nat → K) :
    (∀ j < N, evalPoly N c (ω ^ j) = x j) ↔ (∀ i < N, c i = idft ω N x i) := by
  constructor
  · intro hc i hi
    have : idft ω N x i = idft ω N (dft ω N c) i := by
      apply idft_congr; intro j hj; rw [← evalPoly_pow, hc j hj]
    rw [this, idft_dft h hn c hi]
  · intro hc j hj
    rw [evalPoly_pow, dft_congr ω N c (idft ω N x) j hc, dft_idft h hn x hj]

end generic

/-- `Goldilocks::W[d]` -/
def wtab (d : Nat) : BitVec 64 := Gen.Scalar.c_W_list.getD d 0#64

/-- the library's primitive 2^d-th root of unity, as a field element -/
def omega (d : Nat) : F := den (wtab d)

def wtabOk : Bool :=
  (wtab 0).toNat % P == 1 && (wtab 1).toNat % P == P - 1 &&
  (List.range 32).all (fun d => ((wtab (d + 1)).toNat * (wtab (d + 1)).toNat) % P == (wtab d).toNat % P)

theorem wtabOk_true : wtabOk = true := by decide +kernel

theorem wtab_facts : (wtab 0).toNat % P = 1 ∧ (wtab 1).toNat % P = P - 1 ∧
    ∀ d < 32, ((wtab (d + 1)).toNat * (wtab (d + 1)).toNat) % P = (wtab d).toNat % P := by
  have h := wtabOk_true
  unfold wtabOk at h
  simp only [Bool.and_eq_true, beq_iff_eq, List.all_eq_true, List.mem_range] at h
  exact ⟨h.1.1, h.1.2, h.2⟩

theorem omega_zero : omega 0 = 1 := by
  unfold omega
  rw [den_of_mod _ 1 (by rw [wtab_facts.1]; decide)]
  simp

theorem omega_one : omega 1 = -1 := by
  unfold omega
  rw [den_of_mod _ (P - 1) (by rw [wtab_facts.2.1]; decide)]
  have : ((P - 1 : Nat) : F) + 1 = 0 := by
    have : ((P - 1 + 1 : Nat) : F) = 0 := by
      have : P - 1 + 1 = P := by decide
      rw [this]; exact ZMod.natCast_self P
    push_cast at this
    exact this
  exact eq_neg_of_add_eq_zero_left this

theorem omega_sq (d : Nat) (h : d < 32) : omega (d + 1) ^ 2 = omega d := by
  unfold omega den
  have := natCast_eq_of_mod _ _ (wtab_facts.2.2 d h)
  push_cast at this
  rw [pow_two]; exact this

theorem omega_pow_two_pow (d e : Nat) (h : d + e ≤ 32) : omega (d + e) ^ (2 ^ e) = omega d := by
  induction e with
  | zero => simp
  | succ e ih =>
    rw [← Nat.add_assoc, pow_succ', pow_mul, omega_sq _ (by omega), ih (by omega)]

theorem omega_pow_n (d : Nat) (h : d ≤ 32) : omega d ^ (2 ^ d) = 1 := by
  have := omega_pow_two_pow 0 d (by omega)
  rw [Nat.zero_add, omega_zero] at this
  exact this

theorem omega_pow_half (d : Nat) (h : d < 32) : omega (d + 1) ^ (2 ^ d) = -1 := by
  have := omega_pow_two_pow 1 d (by omega)
  rw [omega_one, Nat.add_comm] at this
  exact this

theorem neg_one_ne_one : (-1 : F) ≠ 1 := by
  intro h
  have h2 : ((2 : Nat) : F) = 0 := by
    push_cast
    have : (1 : F) + 1 = 0 := by nth_rewrite 1 [← h]; ring
    rw [← this]; ring
  rw [ZMod.natCast_eq_zero_iff] at h2
  have : P ≤ 2 := Nat.le_of_dvd (by decide) h2
  exact absurd this (by decide)

theorem two_ne_zero' : (2 : F) ≠ 0 := by
  intro h
  apply neg_one_ne_one
  have : (1 : F) + 1 = 0 := by rw [← h]; ring
  exact (eq_neg_of_add_eq_zero_left this).symm

theorem two_pow_ne_zero (d : Nat) : ((2 ^ d : Nat) : F) ≠ 0 := by
  push_cast
  exact pow_ne_zero _ two_ne_zero'

theorem omega_ne_one : ∀ (d : Nat), d ≤ 32 → ∀ m, 0 < m → m < 2 ^ d → omega d ^ m ≠ 1 := by
  intro d
  induction d with
  | zero => intro _ m h0 h1; simp at h1; omega
  | succ d ih =>
    intro hd m h0 h1 e
    rcases Nat.even_or_odd' m with ⟨m', hm | hm⟩
    · subst hm
      rw [pow_mul, omega_sq _ (by omega)] at e
      exact ih (by omega) m' (by omega) (by rw [pow_succ] at h1; omega) e
    · have e2 : (omega (d + 1) ^ m) ^ (2 ^ d) = 1 := by rw [e, one_pow]
      rw [← pow_mul, Nat.mul_comm, pow_mul, omega_pow_half _ (by omega), hm, pow_succ, pow_mul] at e2
      simp at e2
      exact neg_one_ne_one e2

theorem omega_prim (d : Nat) (h : d ≤ 32) : IsPrimRoot (omega d) (2 ^ d) :=
  ⟨omega_pow_n d h, omega_ne_one d h⟩

theorem omega_pow_half' (d : Nat) (h1 : 1 ≤ d) (h : d ≤ 32) : omega d ^ (2 ^ d / 2) = -1 := by
  obtain ⟨e, rfl⟩ : ∃ e, d = e + 1 := ⟨d - 1, by omega⟩
  have : 2 ^ (e + 1) / 2 = 2 ^ e := by rw [pow_succ]; omega
  rw [this, omega_pow_half e (by omega)]

/-- the constant is `(p+1)/2`, the `half` of `mkObj` (`mpz_invert(2, p)` in the constructor) -/
theorem den_half : den 9223372034707292161#64 * 2 = 1 := by
  unfold den
  have : (9223372034707292161#64).toNat = 9223372034707292161 := by decide
  rw [this]
  have h : ((9223372034707292161 * 2 : Nat) : F) = ((1 : Nat) : F) := natCast_eq_of_mod _ _ (by decide)
  push_cast at h
  exact h

theorem den_shift : den Gen.Scalar.shift__r = 7 := by
  have : Gen.Scalar.shift__r = 7#64 := by decide +kernel
  rw [this]
  unfold den
  have : (7#64).toNat = 7 := by decide
  rw [this]; norm_cast

end GoldilocksVerif.NttSpec
