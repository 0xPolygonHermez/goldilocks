/-
  Poseidon (C06): the AVX2 backend (Gen/PosAvx2.lean) in the field view.  The AVX512 backend (PosAvx512F.lean) reuses
  the state views `vF` / `pF` and the table lemmas `dot12_transp`, `vF_of_dot12` on each half of its registers.
-/
import GoldilocksVerif.Gen.PosAvx2
import GoldilocksVerif.Lemmas.Avx2MatF
import GoldilocksVerif.Lemmas.PosSpecL
import GoldilocksVerif.Lemmas.PosTables
import GoldilocksVerif.Lemmas.PosScalarF
set_option linter.unusedSimpArgs false
set_option linter.unusedTactic false
set_option linter.unreachableTactic false
namespace GoldilocksVerif
open PoseidonSpec Gen.PosAvx2 Gen.PosConsts Gen.Avx2 Gen.Avx2Mat

/-- element `k` of the state held in three 4-lane registers -/
def lane12 (a0 a1 a2 : V4) : Nat → BitVec 64
  | 0 => a0.l0 | 1 => a0.l1 | 2 => a0.l2 | 3 => a0.l3
  | 4 => a1.l0 | 5 => a1.l1 | 6 => a1.l2 | 7 => a1.l3
  | 8 => a2.l0 | 9 => a2.l1 | 10 => a2.l2 | 11 => a2.l3
  | _ => 0#64

def vF (a0 a1 a2 : V4) : State := fun i => den (lane12 a0 a1 a2 i.val)

theorem vF_lit (a0 a1 a2 : V4) :
    (vF a0 a1 a2 0 = den a0.l0 ∧ vF a0 a1 a2 1 = den a0.l1 ∧ vF a0 a1 a2 2 = den a0.l2 ∧ vF a0 a1 a2 3 = den a0.l3) ∧
    (vF a0 a1 a2 4 = den a1.l0 ∧ vF a0 a1 a2 5 = den a1.l1 ∧ vF a0 a1 a2 6 = den a1.l2 ∧ vF a0 a1 a2 7 = den a1.l3) ∧
    (vF a0 a1 a2 8 = den a2.l0 ∧ vF a0 a1 a2 9 = den a2.l1 ∧ vF a0 a1 a2 10 = den a2.l2 ∧ vF a0 a1 a2 11 = den a2.l3) :=
  ⟨⟨rfl, rfl, rfl, rfl⟩, ⟨rfl, rfl, rfl, rfl⟩, ⟨rfl, rfl, rfl, rfl⟩⟩

theorem vF_get (a0 a1 a2 : V4) (i : Fin 4) :
    vF a0 a1 a2 ⟨i.val, by omega⟩ = den (a0.get i) ∧ vF a0 a1 a2 ⟨4 + i.val, by omega⟩ = den (a1.get i) ∧
    vF a0 a1 a2 ⟨8 + i.val, by omega⟩ = den (a2.get i) := by
  match i with
  | 0 => exact ⟨rfl, rfl, rfl⟩ | 1 => exact ⟨rfl, rfl, rfl⟩ | 2 => exact ⟨rfl, rfl, rfl⟩ | 3 => exact ⟨rfl, rfl, rfl⟩

theorem vF_ext (b0 b1 b2 : V4) (t : State)
    (h0 : ∀ i : Fin 4, den (b0.get i) = t ⟨i.val, by omega⟩)
    (h1 : ∀ i : Fin 4, den (b1.get i) = t ⟨4 + i.val, by omega⟩)
    (h2 : ∀ i : Fin 4, den (b2.get i) = t ⟨8 + i.val, by omega⟩) : vF b0 b1 b2 = t :=
  state_ext _ _ (forall_lt_12' _ (h0 0) (h0 1) (h0 2) (h0 3) (h1 0) (h1 1) (h1 2) (h1 3) (h2 0) (h2 1) (h2 2) (h2 3))

theorem add_b_small_al_eq (c b : V4) : add_avx_b_small_al_c_a c b = add_avx_b_small c b := by
  simp only [add_avx_b_small_al_c_a, add_avx_b_small]

theorem and_ones64 (x : BitVec 64) : x &&& 18446744073709551615#64 = x := by
  have e : (18446744073709551615#64 : BitVec 64) = BitVec.allOnes 64 := by decide
  rw [e, BitVec.and_allOnes]

theorem vF_load (s : Region) : vF (load_avx s) (load_avx (Region.shift s 4)) (load_avx (Region.shift s 8)) = stF s := by
  apply vF_ext <;> intro i <;> simp only [load_avx, get_load, Region.shift_apply, stF_apply]

theorem vF_add_small (a0 a1 a2 : V4) (c : Region) (hc : ∀ k, k < 12 → (c k).toNat ≤ 18446744069414584320) :
    vF (Pos_add_avx_small a0 a1 a2 c).1 (Pos_add_avx_small a0 a1 a2 c).2.1 (Pos_add_avx_small a0 a1 a2 c).2.2 =
      fun i => vF a0 a1 a2 i + den (c i.val) := by
  apply vF_ext <;> intro i
  · have h : ((Avx2.load c).get i).toNat ≤ 18446744069414584320 := by
      rw [get_load]; exact hc _ (by omega)
    simp only [Pos_add_avx_small, add_b_small_al_eq, den_add_b_small _ _ i h, (vF_get a0 a1 a2 i).1, load_avx, get_load]
  · have h : ((Avx2.load (Region.shift c 4)).get i).toNat ≤ 18446744069414584320 := by
      rw [get_load, Region.shift_apply]; exact hc _ (by omega)
    simp only [Pos_add_avx_small, add_b_small_al_eq, den_add_b_small _ _ i h, (vF_get a0 a1 a2 i).2.1, load_avx, get_load,
      Region.shift_apply]
  · have h : ((Avx2.load (Region.shift c 8)).get i).toNat ≤ 18446744069414584320 := by
      rw [get_load, Region.shift_apply]; exact hc _ (by omega)
    simp only [Pos_add_avx_small, add_b_small_al_eq, den_add_b_small _ _ i h, (vF_get a0 a1 a2 i).2.2, load_avx, get_load,
      Region.shift_apply]

theorem posC_small (off : Nat) (h : off + 12 ≤ 118) (k : Nat) (hk : k < 12) :
    ((Region.shift c_Pos_C off) k).toNat ≤ 18446744069414584320 := by
  have := posC_canon (off + k) (by omega)
  rw [Region.shift_apply]
  unfold P at this
  omega

theorem vF_add_small_C (a0 a1 a2 : V4) (off : Nat) (h : off + 12 ≤ 118) :
    vF (Pos_add_avx_small a0 a1 a2 (Region.shift c_Pos_C off)).1 (Pos_add_avx_small a0 a1 a2 (Region.shift c_Pos_C off)).2.1
      (Pos_add_avx_small a0 a1 a2 (Region.shift c_Pos_C off)).2.2 = addC off (vF a0 a1 a2) := by
  rw [vF_add_small _ _ _ _ (posC_small off h)]
  funext i
  simp only [addC, C, Region.shift_apply]

theorem vF_add_small_C0 (a0 a1 a2 : V4) :
    vF (Pos_add_avx_small a0 a1 a2 c_Pos_C).1 (Pos_add_avx_small a0 a1 a2 c_Pos_C).2.1
      (Pos_add_avx_small a0 a1 a2 c_Pos_C).2.2 = addC 0 (vF a0 a1 a2) := by
  have := vF_add_small_C a0 a1 a2 0 (by omega)
  rw [Region.shift_zero] at this
  exact this

theorem vF_add_C (a0 a1 a2 : V4) (off : Nat) :
    vF (Pos_add_avx a0 a1 a2 (Region.shift c_Pos_C off)).1 (Pos_add_avx a0 a1 a2 (Region.shift c_Pos_C off)).2.1
      (Pos_add_avx a0 a1 a2 (Region.shift c_Pos_C off)).2.2 = addC off (vF a0 a1 a2) := by
  apply vF_ext <;> intro i <;>
    simp only [Pos_add_avx, add_al_eq, den_add_avx, (vF_get a0 a1 a2 i).1, (vF_get a0 a1 a2 i).2.1, (vF_get a0 a1 a2 i).2.2,
      load_avx, get_load, Region.shift_apply, addC, C, Nat.add_assoc]

theorem vF_pow7 (a0 a1 a2 : V4) :
    vF (Pos_pow7_avx a0 a1 a2).1 (Pos_pow7_avx a0 a1 a2).2.1 (Pos_pow7_avx a0 a1 a2).2.2 = sbox (vF a0 a1 a2) := by
  apply vF_ext <;> intro i <;>
    (simp only [Pos_pow7_avx, den_mult_avx, den_square_avx, sbox, (vF_get a0 a1 a2 i).1, (vF_get a0 a1 a2 i).2.1,
      (vF_get a0 a1 a2 i).2.2]; ring)

/-- a row of the transposed table against the state = a column of the table against the state -/
theorem dot12_transp (a0 a1 a2 : V4) (Mt M : Region) (htr : ∀ k, k < 144 → Mt k = M (12 * (k % 12) + k / 12)) :
    ∀ e (he : e < 12), dot12 a0 a1 a2 Mt (12 * e) =
      mulMat (fun j i => den (M (12 * j.val + i.val))) (vF a0 a1 a2) ⟨e, he⟩ := by
  intro e he
  obtain ⟨⟨v0, v1, v2, v3⟩, ⟨v4, v5, v6, v7⟩, ⟨v8, v9, v10, v11⟩⟩ := fin12_val
  obtain ⟨⟨f0, f1, f2, f3⟩, ⟨f4, f5, f6, f7⟩, ⟨f8, f9, f10, f11⟩⟩ := vF_lit a0 a1 a2
  have h : ∀ j, j < 12 → Mt (12 * e + j) = M (12 * j + e) := fun j hj => by
    rw [htr _ (by omega)]; congr 1; omega
  have h0 := h 0 (by omega)
  rw [Nat.add_zero] at h0
  rw [mulMat_apply]
  simp only [dot12, h0, h 1 (by omega), h 2 (by omega), h 3 (by omega), h 4 (by omega), h 5 (by omega),
    h 6 (by omega), h 7 (by omega), h 8 (by omega), h 9 (by omega), h 10 (by omega), h 11 (by omega),
    v0, v1, v2, v3, v4, v5, v6, v7, v8, v9, v10, v11, f0, f1, f2, f3, f4, f5, f6, f7, f8, f9, f10, f11]
  ring

theorem vF_of_dot12 (b0 b1 b2 a0 a1 a2 : V4) (Mt M : Region) (htr : ∀ k, k < 144 → Mt k = M (12 * (k % 12) + k / 12))
    (h : ∀ i : Fin 4, den (b0.get i) = dot12 a0 a1 a2 Mt (12 * i.val) ∧ den (b1.get i) = dot12 a0 a1 a2 Mt (48 + 12 * i.val) ∧
      den (b2.get i) = dot12 a0 a1 a2 Mt (96 + 12 * i.val)) :
    vF b0 b1 b2 = mulMat (fun j i => den (M (12 * j.val + i.val))) (vF a0 a1 a2) := by
  apply vF_ext <;> intro i
  · rw [(h i).1]
    exact dot12_transp a0 a1 a2 Mt M htr i.val (by omega)
  · rw [(h i).2.1, show 48 + 12 * i.val = 12 * (4 + i.val) by omega]
    exact dot12_transp a0 a1 a2 Mt M htr (4 + i.val) (by omega)
  · rw [(h i).2.2, show 96 + 12 * i.val = 12 * (8 + i.val) by omega]
    exact dot12_transp a0 a1 a2 Mt M htr (8 + i.val) (by omega)

theorem vF_mmult8_M (a0 a1 a2 : V4) :
    vF (mmult_avx_8 a0 a1 a2 c_Pos_M_).1 (mmult_avx_8 a0 a1 a2 c_Pos_M_).2.1 (mmult_avx_8 a0 a1 a2 c_Pos_M_).2.2 =
      mulMat M (vF a0 a1 a2) :=
  vF_of_dot12 _ _ _ a0 a1 a2 c_Pos_M_ c_Pos_M posM__transp (fun i => mmult_8_den a0 a1 a2 c_Pos_M_ i posM__8bit)

theorem vF_mmult_P (a0 a1 a2 : V4) :
    vF (mmult_avx a0 a1 a2 c_Pos_P_).1 (mmult_avx a0 a1 a2 c_Pos_P_).2.1 (mmult_avx a0 a1 a2 c_Pos_P_).2.2 =
      mulMat Pm (vF a0 a1 a2) :=
  vF_of_dot12 _ _ _ a0 a1 a2 c_Pos_P_ c_Pos_P posP__transp (fun i => mmult_den a0 a1 a2 c_Pos_P_ i)

/-- the lane mask of the partial rounds: lane 0 cleared, lanes 1..3 kept -/
abbrev posMask : V4 :=
  Avx2.set_epi64x 18446744073709551615#64 18446744073709551615#64 18446744073709551615#64 0#64

/-- the state during the partial rounds: element 0 lives in the scalar `state0_`, lane 0 of st0 is dead -/
def pF (y : BitVec 64) (a0 a1 a2 : V4) : State := vF ⟨y, a0.l1, a0.l2, a0.l3⟩ a1 a2

theorem pF_lit (y : BitVec 64) (a0 a1 a2 : V4) : pF y a0 a1 a2 0 = den y := rfl

theorem pF_get (y : BitVec 64) (a0 a1 a2 : V4) (i : Fin 4) :
    (i ≠ 0 → pF y a0 a1 a2 ⟨i.val, by omega⟩ = den (a0.get i)) ∧
    pF y a0 a1 a2 ⟨4 + i.val, by omega⟩ = den (a1.get i) ∧ pF y a0 a1 a2 ⟨8 + i.val, by omega⟩ = den (a2.get i) := by
  match i with
  | 0 => exact ⟨fun h => absurd rfl h, rfl, rfl⟩
  | 1 => exact ⟨fun _ => rfl, rfl, rfl⟩
  | 2 => exact ⟨fun _ => rfl, rfl, rfl⟩
  | 3 => exact ⟨fun _ => rfl, rfl, rfl⟩

theorem pF_ext (y : BitVec 64) (b0 b1 b2 : V4) (t : State) (hy : den y = t 0)
    (h0 : ∀ i : Fin 4, i ≠ 0 → den (b0.get i) = t ⟨i.val, by omega⟩)
    (h1 : ∀ i : Fin 4, den (b1.get i) = t ⟨4 + i.val, by omega⟩)
    (h2 : ∀ i : Fin 4, den (b2.get i) = t ⟨8 + i.val, by omega⟩) : pF y b0 b1 b2 = t := by
  refine vF_ext _ b1 b2 t (fun i => ?_) h1 h2
  match i with
  | 0 => exact hy
  | 1 => exact h0 1 (by decide)
  | 2 => exact h0 2 (by decide)
  | 3 => exact h0 3 (by decide)

theorem vloop_y (r : Nat) (x y : BitVec 64) (a0 a1 a2 : V4) :
    den (Pos_hash_full_result_loop1 posMask r (x, y, a0, a1, a2)).2.1 = partialRound r (pF y a0 a1 a2) 0 := by
  obtain ⟨⟨_, f1, f2, f3⟩, ⟨f4, f5, f6, f7⟩, ⟨f8, f9, f10, f11⟩⟩ := vF_lit ⟨y, a0.l1, a0.l2, a0.l3⟩ a1 a2
  rw [partialRound_zero, pF_lit]
  simp only [pF, f1, f2, f3, f4, f5, f6, f7, f8, f9, f10, f11]
  simp only [Pos_hash_full_result_loop1, posMask, den_add_r, den_mul_r, den_pow7, dot_den, dot12, Avx2.and_si256,
    Avx2.set_epi64x, V4.map2, Region.shift_apply, BitVec.and_zero, and_ones64, den_zero64, Nat.add_zero, C, S,
    Nat.add_comm 60 r]
  ring

theorem and_mask_get (a0 : V4) (i : Fin 4) (hi : i ≠ 0) : (Avx2.and_si256 a0 posMask).get i = a0.get i := by
  match i with
  | 0 => exact absurd rfl hi
  | 1 => exact and_ones64 _
  | 2 => exact and_ones64 _
  | 3 => exact and_ones64 _

theorem vloop_lane (r : Nat) (x y : BitVec 64) (a0 a1 a2 : V4) (i : Fin 4) :
    (i ≠ 0 → den ((Pos_hash_full_result_loop1 posMask r (x, y, a0, a1, a2)).2.2.1.get i) =
      partialRound r (pF y a0 a1 a2) ⟨i.val, by omega⟩) ∧
    den ((Pos_hash_full_result_loop1 posMask r (x, y, a0, a1, a2)).2.2.2.1.get i) =
      partialRound r (pF y a0 a1 a2) ⟨4 + i.val, by omega⟩ ∧
    den ((Pos_hash_full_result_loop1 posMask r (x, y, a0, a1, a2)).2.2.2.2.get i) =
      partialRound r (pF y a0 a1 a2) ⟨8 + i.val, by omega⟩ := by
  obtain ⟨g0, g1, g2⟩ := pF_get y a0 a1 a2 i
  have n0 : i ≠ 0 → (⟨i.val, by omega⟩ : Fin 12) ≠ 0 := fun hi h => hi (Fin.ext (Fin.val_eq_of_eq h : i.val = 0))
  have n1 : (⟨4 + i.val, by omega⟩ : Fin 12) ≠ 0 := Fin.ne_of_val_ne (by show 4 + i.val ≠ 0; omega)
  have n2 : (⟨8 + i.val, by omega⟩ : Fin 12) ≠ 0 := Fin.ne_of_val_ne (by show 8 + i.val ≠ 0; omega)
  -- the specification's side, in terms of the lanes before the loop body
  refine ⟨fun hi => ?_, ?_, ?_⟩
  on_goal 1 => rw [partialRound_succ r _ _ (n0 hi), g0 hi, pF_lit, ← and_mask_get a0 i hi]
  on_goal 2 => rw [partialRound_succ r _ _ n1, g1, pF_lit]
  on_goal 3 => rw [partialRound_succ r _ _ n2, g2, pF_lit]
  -- the code's side: the index arithmetic of the constants (`&S[23 r + 11 + 4]` or `&Sr[11 + 4]` with `Sr = &S[23 r]`
  -- hoisted) and the operand order of the exact lane operations are left to `ring_nf`.  The call pattern
  -- `add_avx(st, w, st)` (result aliasing the SECOND operand) has a generated definition only when the code uses it:
  -- its equation is tried first.
  all_goals first
    | (have eb : ∀ c a : V4, add_avx__vVV_al_c_b c a = add_avx__vVV a c := by
         intro c a; simp only [add_avx__vVV_al_c_b, add_avx__vVV, add_avx_a_sc_al_c_b, add_avx_a_sc]
       simp only [Pos_hash_full_result_loop1, add_al_eq, eb, den_add_avx, den_mult_avx, V4.get_set1, load_avx, get_load,
         Region.shift_apply, den_add_r, den_pow7, C, S, Nat.add_comm 60 r] <;> ring_nf)
    | (simp only [Pos_hash_full_result_loop1, add_al_eq, den_add_avx, den_mult_avx, V4.get_set1, load_avx, get_load,
         Region.shift_apply, den_add_r, den_pow7, C, S, Nat.add_comm 60 r] <;> ring_nf)

theorem vloop (r : Nat) (x y : BitVec 64) (a0 a1 a2 : V4) :
    pF (Pos_hash_full_result_loop1 posMask r (x, y, a0, a1, a2)).2.1
       (Pos_hash_full_result_loop1 posMask r (x, y, a0, a1, a2)).2.2.1
       (Pos_hash_full_result_loop1 posMask r (x, y, a0, a1, a2)).2.2.2.1
       (Pos_hash_full_result_loop1 posMask r (x, y, a0, a1, a2)).2.2.2.2 = partialRound r (pF y a0 a1 a2) :=
  pF_ext _ _ _ _ _ (vloop_y r x y a0 a1 a2) (fun i hi => (vloop_lane r x y a0 a1 a2 i).1 hi)
    (fun i => (vloop_lane r x y a0 a1 a2 i).2.1) (fun i => (vloop_lane r x y a0 a1 a2 i).2.2)

theorem vloops (n : Nat) (x y : BitVec 64) (a0 a1 a2 : V4) :
    pF (Loop.range 0 n 1 (x, y, a0, a1, a2) (Pos_hash_full_result_loop1 posMask)).2.1
       (Loop.range 0 n 1 (x, y, a0, a1, a2) (Pos_hash_full_result_loop1 posMask)).2.2.1
       (Loop.range 0 n 1 (x, y, a0, a1, a2) (Pos_hash_full_result_loop1 posMask)).2.2.2.1
       (Loop.range 0 n 1 (x, y, a0, a1, a2) (Pos_hash_full_result_loop1 posMask)).2.2.2.2 =
      partialRounds n (pF y a0 a1 a2) := by
  refine Loop.range_inv (fun k (t : BitVec 64 × BitVec 64 × V4 × V4 × V4) =>
    pF t.2.1 t.2.2.1 t.2.2.2.1 t.2.2.2.2 = partialRounds k (pF y a0 a1 a2)) _ n _ rfl ?_
  intro r t _ h
  obtain ⟨x', y', b0, b1, b2⟩ := t
  show pF _ _ _ _ = partialRound r (partialRounds r (pF y a0 a1 a2))
  rw [vloop, h]

theorem vF_reload (S : Region) (a0 a1 a2 : V4) (y : BitVec 64) :
    vF (load_avx (Region.set (store_avx S a0) 0 y)) a1 a2 = pF y a0 a1 a2 := by
  rw [reload_eq]; rfl

theorem pF_spill (S : Region) (a0 a1 a2 : V4) : pF ((store_avx S a0) 0) a0 a1 a2 = vF a0 a1 a2 := by
  have : (store_avx S a0) 0 = a0.l0 := (store_get S a0).1
  rw [this]; rfl

theorem stores_den (S : Region) (b0 b1 b2 : V4) :
    stF (Region.unshift (Region.unshift (store_avx S b0) 4 (store_avx (Region.shift (store_avx S b0) 4) b1)) 8
      (store_avx (Region.shift (Region.unshift (store_avx S b0) 4 (store_avx (Region.shift (store_avx S b0) 4) b1)) 8) b2)) =
      vF b0 b1 b2 := by
  obtain ⟨h0, h1, h2, _⟩ := stores3_read 4 8 rfl store_avx V4.get store_avx_get store_frame S b0 b1 b2
  symm
  apply vF_ext <;> intro i
  · rw [stF_apply, h0 i]
  · rw [stF_apply, h1 i]
  · rw [stF_apply, h2 i]

theorem stores_frame (S : Region) (b0 b1 b2 : V4) (i : Nat) (hi : 12 ≤ i) :
    (Region.unshift (Region.unshift (store_avx S b0) 4 (store_avx (Region.shift (store_avx S b0) 4) b1)) 8
      (store_avx (Region.shift (Region.unshift (store_avx S b0) 4 (store_avx (Region.shift (store_avx S b0) 4) b1)) 8) b2)) i =
      S i :=
  (stores3_read 4 8 rfl store_avx V4.get store_avx_get store_frame S b0 b1 b2).2.2.2 i hi

theorem avx2_spec (state input : Region) :
    stF (Pos_hash_full_result state input) = permutation (stF input) ∧
    ∀ i, 12 ≤ i → (Pos_hash_full_result state input) i = state i := by
  refine ⟨?_, fun i hi => ?_⟩
  · simp only [Pos_hash_full_result, stores_den, vF_mmult8_M, vF_pow7, vF_add_small_C _ _ _ 12 (by omega),
      vF_add_small_C _ _ _ 24 (by omega), vF_add_small_C _ _ _ 36 (by omega), vF_add_small_C _ _ _ 82 (by omega),
      vF_add_small_C _ _ _ 94 (by omega), vF_add_small_C _ _ _ 106 (by omega), vF_add_small_C0, vF_add_C, vF_mmult_P,
      vF_reload, vloops, pF_spill, vF_load, stF_copyN, permutation, fullRound]
  · have hlt : ¬ i < 12 := by omega
    have h0 : i ≠ 0 := by omega
    simp only [Pos_hash_full_result, stores_frame _ _ _ _ i hi, store_frame _ _ i (by omega : 4 ≤ i), Region.set_apply, h0,
      Region.copyN_apply, hlt, ↓reduceIte]

end GoldilocksVerif
