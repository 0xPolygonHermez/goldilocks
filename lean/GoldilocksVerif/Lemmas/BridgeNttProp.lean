/-
  Between the bridge (`generated = hand model`, bit for bit) and the property files: what a TRANSLATED function delivers at field
  level on an object the constructor built — the model's theorem (Lemmas/NttTop.lean) composed with the bridge theorem, caller
  buffer or not, every `nblock`, every size.  Props/C05 and C19 instantiate these.
-/
import GoldilocksVerif.Lemmas.NttShapes
import GoldilocksVerif.Lemmas.BridgeNttHistBuf

namespace GoldilocksVerif.BridgeNtt
open GoldilocksVerif Gen.NttGen GoldilocksVerif.Model.Ntt GoldilocksVerif.NttSpec Finset

theorem ScratchOk.none {hp : Heap} {self : NTT_Goldilocks} {D Sx n : Nat} : ScratchOk hp self none D Sx n :=
  fun _ h => nomatch h

/-- **`extendPol` on the generated function** — buffer or not, every `nblock`, `1 ≤ 2^dn ≤ 2^de ≤ 2^30`, any reachable object
    state: it returns; the output block keeps its size and holds, column by column, the low-degree extension of the input
    column; the returned state represents a reachable state of the same object -/
theorem extendPol_gen_lde {m e dn : Nat} {o : Obj} (hB : Built m e o dn) (fuel : Nat) (hf : 64 ≤ fuel) (hp : Heap)
    (self : NTT_Goldilocks) (hrep : ObjRep hp self o) (hin : ObjIn hp self) (hdisj : ObjDisj self)
    (Out In : Nat) (buf : Option Nat) (hOut : Out < hp.size) (hIn : In < hp.size) (hOut0 : Out ≠ 0)
    (hfrOut : ObjFrame self Out) (hfrIn : ObjFrame self In)
    (de nc : Nat) (hne : dn ≤ de) (hde : de ≤ 30) (hnc : 1 ≤ nc) (hbound : 2 ^ de * nc * 8 < 2 ^ 64) (nphase nblock : BitVec 64)
    (hout : 2 ^ de * nc ≤ (hp.block Out).size) (hf1 : dn = 0 → nc < fuel) (hbuf : ScratchOk hp self buf Out In (2 ^ de * nc)) :
    ∃ hp' self' o', NTT_extendPol fuel hp self ⟨Out, 0⟩ ⟨In, 0⟩ (bv (2 ^ de)) (bv (2 ^ dn)) (bv nc) (optPtr buf) nphase nblock =
        some (hp', self') ∧ (hp'.block Out).size = (hp.block Out).size ∧
      (∀ B, buf = some B → (hp'.block B).size = (hp.block B).size) ∧
      ObjRep hp' self' o' ∧ o'.wf ∧ o'.base = o.base ∧
      ∀ k c, k < 2 ^ de → c < nc →
        cell (hp'.block Out) nc k c = lde 7 (omega dn) (omega de) (2 ^ dn) (fun j => cell (hp.block In) nc j c) k := by
  obtain ⟨hds, hs32, hext31⟩ := hB.bounds
  have hsame := sel_same hp.block Out In
  obtain ⟨o', out, e, hosz, hwf', hbase', c⟩ := extendPol_spec o _ hB.ok (decide (Out = In)) (hp.block Out) (hp.block In) dn de nc
    nphase.toNat nblock.toNat (Nat.le_refl _) hne (by omega) hnc (by rw [hsame]; exact hout)
  have hg := extendPol_gen_opt fuel hf hp self o hrep hin hdisj hs32 hext31 Out In buf hOut hIn hOut0 hfrOut hfrIn
    dn de nc hne hde hds hnc hbound nphase nblock hout hf1 hbuf
  rw [e] at hg
  obtain ⟨hp', self', hrun, hblk, hrep', _, _, _, hbsz, _⟩ := hg
  exact ⟨hp', self', o', hrun, by rw [hblk, hosz, hsame], hbsz, hrep', hwf', hbase', by rw [hblk]; exact c⟩

/-- **a forward transform after any history** (any state satisfying the invariant), `dst == NULL` or not, buffer or not: it returns
    and its destination block holds the DFT of every column of the block that is its source at that moment -/
theorem gcallB_ntt_dft (m e : Nat) (o0 : Obj) (hobj : mkObj m e = some o0) (he : e ≤ 1) (fuel : Nat) (hf : 64 ≤ fuel) (n0 : Nat)
    (U : Nat → Prop) (sz : Nat → Nat) (st : Heap × NTT_Goldilocks) (hinv : GInv o0 n0 U sz st) (dst : Option Nat) (Sx d nc : Nat)
    (buf : Option Nat) (np nb : BitVec 64) (hok : (GCallB.ntt dst Sx d nc buf np nb).ok m fuel U sz) :
    ∃ st', (GCallB.ntt dst Sx d nc buf np nb).run fuel st = some st' ∧
      ∀ k c, k < 2 ^ d → c < nc →
        cell (st'.1.block (dst.getD Sx)) nc k c = dft (omega d) (2 ^ d) (fun j => cell (st.1.block Sx) nc j c) k := by
  obtain ⟨st', out, src, h1, h2, h3, _, _⟩ := gcallB_step m e o0 hobj he fuel hf n0 U sz st hinv _ hok
  obtain ⟨uD, _, _, hdm, hnc, _, hszD, _, _⟩ := hok
  obtain ⟨_, hD0, _, zD⟩ := hinv.user _ uD
  obtain ⟨out', eo, _, hdft⟩ := ntt_forward o0 _ (mkObj_ok_le m e o0 hobj he d hdm) (dstMode dst Sx) (st.1.block (dst.getD Sx))
    (st.1.block Sx) d nc np.toNat nb.toNat (Nat.le_refl _) hnc (by rw [sel_dst st.1 _ _ _ (dst_facts dst Sx hD0).1, zD]; exact hszD)
  have h2' : ntt o0 (dstMode dst Sx) (st.1.block (dst.getD Sx)) (st.1.block Sx) (2 ^ d) nc np.toNat nb.toNat false false
      = .ok (out, src) := h2
  rw [eo] at h2'
  obtain ⟨rfl, _⟩ := Prod.mk.inj (Except.ok.inj h2')
  have h3' : st'.1.block (dst.getD Sx) = out' := h3
  exact ⟨st', h1, by rw [h3']; exact hdft⟩

end GoldilocksVerif.BridgeNtt
