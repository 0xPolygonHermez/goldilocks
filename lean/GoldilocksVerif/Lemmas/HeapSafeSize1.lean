/-
  IN-BOUNDS ACCESSES, SIZE 1: `Goldilocks::parcpy` (the chunk loop: every `memcpy` of every state the `while` reaches lies
  inside the two blocks, which are distinct) and `NTT_iters` for `size == 1` (domainPow = 0: one phase, `reversePermutation`
  into `aux`, the pass loop is not entered, `parcpy(dst_, aux, ncols, nThreads)`).  Hence `NTT_iters` for every size
  1 ≤ 2^K ≤ 2^30 (`NTT_iters_safe_all`).
-/
import GoldilocksVerif.Lemmas.HeapSafeIters
import GoldilocksVerif.Lemmas.BridgeParcpy
import GoldilocksVerif.Lemmas.BridgeNttSize1
open GoldilocksVerif Gen.NttGen GoldilocksVerif.BridgeNtt
namespace GoldilocksVerif.HeapSafe

/-- **`parcpy(dst, src, n, nt)`**: two distinct blocks with n words from the pointers; any `int` thread count.
    The text of the function and of its lifted loop body is read through Lemmas/BridgeParcpyStep.lean (`chunk_top`, `parcpy_step`,
    `chunk_len_simp`): no dependence on how the source spells the clamp of the thread count or the chunk length. -/
theorem parcpy_safe (fuel : Nat) (hp : Heap) (dst src : Ptr) (n : Nat) (nt : Int) (hn8 : n * 8 < 2 ^ 64) (hnt : nt < 2 ^ 63)
    (hd : dst.off + n ≤ hp.ext dst.blk) (hsr : src.off + n ≤ hp.ext src.blk) (hne : dst.blk ≠ src.blk) :
    parcpy.Safe fuel hp dst src (bv n) nt := by
  have ht1 : 1 ≤ ParCopy.threads nt := ParCopy.threads_pos nt
  have ht63 : ParCopy.threads nt < 2 ^ 63 := by
    unfold ParCopy.threads
    by_cases h : nt < 1
    · rw [if_pos h]; omega
    · rw [if_neg h]; omega
  have hchunk : chunkBV (bv n) nt = bv ((n + ParCopy.threads nt - 1) / ParCopy.threads nt) := by
    unfold chunkBV
    rw [bv_add, bv_one, bv_sub _ _ (by omega) (by omega), bv_div _ _ (by omega) (by omega)]
  generalize hc : (n + ParCopy.threads nt - 1) / ParCopy.threads nt = ct at hchunk
  have hctn : ct ≤ n := by rw [← hc]; exact ParCopy.chunk_le n nt
  have hn8' : (bv n).toNat * 8 < 2 ^ 64 := by rw [bv_toNat n (by omega)]; exact hn8
  have hct' : (bv ct).toNat ≤ (bv n).toNat := by rw [bv_toNat n (by omega), bv_toNat ct (by omega)]; exact hctn
  have hloop : Loop.WhileAll (parcpy_loop1 dst src (bv n) (bv ct)) (hp, 0#64)
      (fun st => parcpy_loop1.Safe dst src (bv n) (bv ct) st) := by
    refine Loop.WhileAll.of_inv (fun st => Heap.Same hp st.1 ∧ ∃ i, st.2 = bv i ∧ i ≤ n + ct)
      ⟨Heap.Same.refl _, 0, rfl, by omega⟩ ?_ ?_
    · rintro ⟨X, iv⟩ s' ⟨hsame, i, hi, hile⟩ hstep
      simp only at hi hsame
      subst hi
      rw [parcpy_step _ _ _ _ _ _ hn8' hct'] at hstep
      obtain ⟨hlt, rfl⟩ := Loop.guard_true hstep
      have hin : i < n := by rwa [lt_bv _ _ (by omega) (by omega)] at hlt
      exact ⟨hsame.trans (Heap.Same.copy _ _ _ _), i + ct, bv_add _ _, by omega⟩
    · rintro ⟨X, iv⟩ ⟨hsame, i, hi, hile⟩
      simp only at hi hsame
      subst hi
      unfold parcpy_loop1.Safe
      zeta_goal
      by_cases hlt : bv i < bv n
      · have hin : i < n := by rwa [lt_bv _ _ (by omega) (by omega)] at hlt
        have hgoal : X.CopyOK (dst.add (bv i).toNat) (src.add (bv i).toNat) (min ((bv n).toNat - (bv i).toNat) (bv ct).toNat) := by
          rw [bv_toNat n (by omega), bv_toNat i (by omega), bv_toNat ct (by omega)]
          have hL : i + min (n - i) ct ≤ n := by omega
          exact ⟨RangeOK_add (by rw [hsame.2]; omega), RangeOK_add (by rw [hsame.2]; omega), Or.inr (Or.inl hne)⟩
        chunk_len_simp (bv n) (bv i) (bv ct) hn8' hct' hlt <;> exact hgoal
      · chunk_exit_simp (bv n) (bv i) hlt
  unfold parcpy.Safe
  zeta_goal
  -- the chunk length the function computes is `chunkBV`, whatever the spelling of the clamp
  have hloop' := hloop
  rw [← hchunk] at hloop'
  unfold chunkBV at hloop'
  revert hloop'
  chunk_top nt <;> exact fun h => h

theorem WhileAll_stop {σ : Type} (step : σ → Option (Bool × σ)) (init : σ) (S : σ → Prop)
    (hstop : step init = some (false, init)) (h : S init) : Loop.WhileAll step init S := by
  refine Loop.WhileAll.of_inv (fun st => st = init) rfl ?_ (fun s hs => hs ▸ h)
  intro s s' hs hstep
  rw [hs, hstop] at hstep
  injection hstep with hstep
  injection hstep with hb _
  exact absurd hb (by decide)

theorem whileM_stop_eq {σ : Type} (step : σ → Option (Bool × σ)) (init : σ) (hstop : step init = some (false, init))
    (fuel : Nat) (y : σ) (h : Loop.whileM step fuel init = some y) : y = init := by
  cases fuel with
  | zero => cases h
  | succ f => rw [Loop.whileM_stop _ _ _ _ hstop] at h; exact (Option.some.inj h).symm

/-- the pass loop with `domainPow = 0` stops at its first test (`s = 1 ≤ 0` fails) -/
theorem loop10_stop (size ncols : BitVec 64) (inverse extend : Bool) (self : NTT_Goldilocks) (res m : BitVec 64) (X : Heap)
    (t a2 a : Ptr) (c : BitVec 64) :
    NTT_NTT_iters_loop10 size ncols inverse extend self 0#64 res (m, X, t, a2, a, 1#64, c) =
      some (false, (m, X, t, a2, a, 1#64, c)) := by
  unfold NTT_NTT_iters_loop10
  dsimp only
  have : decide ((1#64 : BitVec 64) ≤ 0#64) = false := by decide
  rw [this]
  rfl

/-- **in-bounds accesses of `NTT_iters` for `size == 1`** -/
theorem NTT_iters_safe0 (fuel : Nat) (hf : 64 ≤ fuel) (hp : Heap) (self : NTT_Goldilocks) (dst src aux : Ptr) (NC : Nat)
    (oc nca nphase : BitVec 64) (inverse extend : Bool) (hs : 0 < hp.size)
    (sh : IShape hp self (if (dst != Ptr.null) = true then dst else src) aux 1 NC 0 extend)
    (hNC : 0 < NC) (hcols : oc.toNat + NC ≤ nca.toNat) (hbytes : 1 * nca.toNat * 8 < 2 ^ 64)
    (hsrc : src.off + srcRows self (bv 1) * nca.toNat ≤ hp.ext src.blk)
    (_hd1 : (if (dst != Ptr.null) = true then dst else src) ≠ src → (if (dst != Ptr.null) = true then dst else src).blk ≠ src.blk)
    (hd2 : aux.blk ≠ src.blk) :
    NTT_NTT_iters.Safe fuel hp self dst src (bv 1) oc (bv NC) nca nphase aux inverse extend := by
  have hNt : (bv 1).toNat = 1 := bv_toNat 1 (by omega)
  have hNne : bv 1 ≠ 0#64 := by decide
  have hlog := log2_gen_eq fuel (by unfold log2Fuel; omega) (bv 1) hNne
  rw [hNt] at hlog
  have hl0 : Model.Ntt.log2 1 = 0 := by decide
  rw [hl0] at hlog
  have hNCt : (bv NC).toNat = NC := bv_toNat _ (by have := sh.hbytes; omega)
  unfold NTT_NTT_iters.Safe
  zeta_goal
  intro y hy
  rw [hlog] at hy
  cases hy
  have hw : BitVec.setWidth 64 (0#32 : BitVec 32) = 0#64 := rfl
  have hc : (decide (nphase < 1#64) || (0#64 : BitVec 64) == 0#64) = true := by rw [beq_self_eq_true, Bool.or_true]
  have h1 : (0#64 : BitVec 64) % 1#64 = 0#64 := by decide
  have h2 : (0#64 : BitVec 64) / 1#64 = 0#64 := by decide
  have h3 : decide ((0#64 : BitVec 64) > 0#64) = false := by decide
  have h4 : ((1#64 : BitVec 64) % 2#64 == 1#64) = true := by decide
  have h5 : ((false == false) = true) = True := by simp
  simp only [hw, hc, h1, h2, h3, h4, h5, if_true, Bool.false_eq_true, if_false]
  intro _
  generalize hD : (if (dst != Ptr.null) = true then dst else src) = D at *
  obtain ⟨_, _, hb8, ha, ha2, hne, _, _, _, _, _⟩ := sh
  refine ⟨reversePermutation_safe fuel (by unfold log2Fuel; omega) hp self aux src (bv 1) oc (bv NC) nca 0 hs
    ⟨by omega, by rw [hNt]; rfl, by rw [hNCt]; exact hNC, by rw [hNCt]; exact hcols, by rw [hNt]; exact hbytes,
      by rw [hNt, hNCt]; exact ha2, hsrc, fun _ => hd2⟩, fun y hy => ⟨?_, fun y1 hy1 _ _ => ?_⟩⟩
  · refine WhileAll_stop _ _ _ (loop10_stop _ _ _ _ _ _ _ _ _ _ _ _) ?_
    unfold NTT_NTT_iters_loop10.Safe
    zeta_goal
    intro hle
    exact absurd hle (by decide)
  · have hsame := reversePermutation_same fuel hp self aux src (bv 1) oc (bv NC) nca hs y hy
    have e := whileM_stop_eq _ _ (loop10_stop _ _ _ _ _ _ _ _ _ _ _ _) fuel y1 hy1
    rw [e]
    show parcpy.Safe fuel y D aux (bv 1 * bv NC) (I32.ofU32 self.nThreads)
    rw [bv_mul]
    exact parcpy_safe fuel y D aux (1 * NC) _ hb8 (ofU32_lt _) (by rw [hsame.2]; exact ha) (by rw [hsame.2]; exact ha2) hne

/-- **in-bounds accesses of `NTT_iters`, every size 1 ≤ 2^K ≤ 2^30** -/
theorem NTT_iters_safe_all (fuel : Nat) (hf : 64 ≤ fuel) (hp : Heap) (self : NTT_Goldilocks) (dst src aux : Ptr) (N NC K : Nat)
    (oc nca nphase : BitVec 64) (inverse extend : Bool) (hs : 0 < hp.size)
    (sh : IShape hp self (if (dst != Ptr.null) = true then dst else src) aux N NC K extend)
    (hNC : 0 < NC) (hcols : oc.toNat + NC ≤ nca.toNat) (hbytes : N * nca.toNat * 8 < 2 ^ 64)
    (hsrc : src.off + srcRows self (bv N) * nca.toNat ≤ hp.ext src.blk)
    (hd1 : (if (dst != Ptr.null) = true then dst else src) ≠ src → (if (dst != Ptr.null) = true then dst else src).blk ≠ src.blk)
    (hd2 : aux.blk ≠ src.blk) :
    NTT_NTT_iters.Safe fuel hp self dst src (bv N) oc (bv NC) nca nphase aux inverse extend := by
  rcases Nat.eq_zero_or_pos K with hK0 | hK1
  · have hN1 : N = 1 := by rw [sh.hN, hK0]; rfl
    subst hK0
    subst hN1
    exact NTT_iters_safe0 fuel hf hp self dst src aux NC oc nca nphase inverse extend hs sh hNC hcols hbytes hsrc hd1 hd2
  · exact NTT_iters_safe fuel hf hp self dst src aux N NC K oc nca nphase inverse extend hK1 hs sh hNC hcols hbytes hsrc hd1 hd2

end GoldilocksVerif.HeapSafe
