/-
  Allocation balance of the GENERATED NTT model (Gen/NttGen.lean, translated from ntt_goldilocks.cpp/.hpp on every run),
  part 1: the functions that give back a heap of the SAME SHAPE (`Heap.Same`: same number of blocks, same extent of every
  block) — `reversePermutation` (the run-time sized row temporary is allocated and released in every iteration),
  `parcpy`, `NTT_iters`, `NTT` and `INTT` (scratch `aux` and block destination `dst_` allocated with malloc and freed,
  with or without a caller buffer, any block count), for EVERY argument value and every fuel, whenever they return.
  The only hypothesis is that the heap has its NULL block (`0 < hp.size`; otherwise `Heap.alloc` would hand out NULL).
-/
import GoldilocksVerif.Lemmas.HeapSafeTac
import GoldilocksVerif.Lemmas.BridgeNttTac
import GoldilocksVerif.Gen.NttGen

namespace GoldilocksVerif.HeapSafe
open GoldilocksVerif Gen.NttGen GoldilocksVerif.BridgeNtt

/-- `OInv (Heap.Same s) (<lifted loop body> … s)`: the body of a counted loop gives back a heap of the same shape.  Proved
    by unfolding whatever the body is (no statement names a lifted loop body or its parameter list: a hoisted
    sub-expression or a reordered local changes that list) -/
macro "loop_same" : tactic => `(tactic| (intros; unfold_loops; (repeat heap_step); done))

-- lowest priority alternative of `same_lemmas`: a lifted loop body is unfolded in place
macro_rules | `(tactic| same_lemmas) => `(tactic| loop_same)

theorem reversePermutation_same (fuel : Nat) (hp : Heap) (self : NTT_Goldilocks) (dst src : Ptr) (size oc nc nca : BitVec 64)
    (hs : 0 < hp.size) : OInv (Heap.Same hp) (NTT_reversePermutation fuel hp self dst src size oc nc nca) := by
  unfold NTT_reversePermutation
  repeat heap_step
macro_rules | `(tactic| same_lemmas) => `(tactic| (apply reversePermutation_same; heap_pos))

theorem parcpy_same (fuel : Nat) (hp : Heap) (dst src : Ptr) (size : BitVec 64) (nt : Int) :
    OInv (Heap.Same hp) (parcpy fuel hp dst src size nt) := by
  unfold parcpy
  repeat heap_step
  oinv_bind (fun (y : Heap × BitVec 64) => Heap.Same hp y.1)
  · heap_step
    · exact Heap.Same.refl _
    · intro s hs
      unfold_loops
      repeat heap_step
  · repeat heap_step
macro_rules | `(tactic| same_lemmas) => `(tactic| apply parcpy_same)

theorem NTT_iters_same (fuel : Nat) (hp : Heap) (self : NTT_Goldilocks) (dst src : Ptr) (size oc nc nca nphase : BitVec 64) (aux : Ptr)
    (inverse extend : Bool) (hs : 0 < hp.size) :
    OInv (Heap.Same hp) (NTT_NTT_iters fuel hp self dst src size oc nc nca nphase aux inverse extend) := by
  unfold NTT_NTT_iters
  repeat heap_step
  oinv_bind (fun (y : BitVec 64 × Heap × Ptr × Ptr × Ptr × BitVec 64 × BitVec 64) => Heap.Same hp y.2.1)
  · heap_step
    · assumption
    · intro s hs
      unfold_loops
      repeat heap_step
      · oinv_bind_same hp
        · repeat heap_step
        · repeat heap_step
      · repeat heap_step
  all_goals repeat heap_step
macro_rules | `(tactic| same_lemmas) => `(tactic| (apply NTT_iters_same; heap_pos))

/-- the body of the block loop of `NTT` keeps the shape of `h0` (first component of its state) -/
macro "ntt_block_same " h0:term : tactic => `(tactic| (
  unfold_loops
  repeat heap_step
  oinv_bind_same $h0
  · repeat heap_step
  · repeat heap_step
    oinv_bind_same $h0
    · repeat heap_step
    · repeat heap_step))

/-- the block loop body of `NTT` by name (also used by the in-bounds proofs of `NTT`); the parameters of the lifted body are
    left to unification -/
theorem NTT_loop2_same {fuel : Nat} {dst src : Ptr} {size ncols nphase nblock : BitVec 64} {inverse extend : Bool}
    {self : NTT_Goldilocks} {ncb ncr : BitVec 64} {dst_ aux : Ptr} {ib : Nat} {h0 : Heap} (st : Heap × BitVec 64)
    (hs : 0 < h0.size) (h : Heap.Same h0 st.1) :
    OInv (fun r => Heap.Same h0 r.1) (NTT_NTT_loop2 fuel dst src size ncols nphase nblock inverse extend self ncb ncr dst_ aux ib st) := by
  ntt_block_same h0

theorem block_loop_same (body : Nat → Heap × BitVec 64 → Option (Heap × BitVec 64)) (h0 : Heap) (oc : BitVec 64) (lo hi : Nat)
    (hbody : ∀ i (st : Heap × BitVec 64), Heap.Same h0 st.1 → OInv (fun r => Heap.Same h0 r.1) (body i st)) :
    OInv (fun y => Heap.Same h0 y.1) (Loop.rangeM lo hi 1 (h0, oc) body) :=
  OInv.rangeM (P := fun y => Heap.Same h0 y.1) lo hi 1 (h0, oc) body (Heap.Same.refl _) hbody

theorem NTT_same (fuel : Nat) (hp : Heap) (self : NTT_Goldilocks) (dst src : Ptr) (size ncols : BitVec 64) (buffer : Ptr)
    (nphase nblock : BitVec 64) (inverse extend : Bool) (hs : 0 < hp.size) :
    OInv (Heap.Same hp) (NTT_NTT fuel hp self dst src size ncols buffer nphase nblock inverse extend) := by
  unfold NTT_NTT
  repeat heap_step
  -- the two allocations (scratch `aux` when no buffer is given, `dst_` for more than one block) are case-split on their
  -- conditions as they stand in the goal: no local of the function is named here
  by_cases hb : (buffer == Ptr.null) = true
  · simp only [if_pos hb]
    split
    all_goals (
      refine OInv.bind (fun (y : Heap × BitVec 64) => Heap.Same _ y.1) _ _ (block_loop_same _ _ _ _ _ ?_) (fun _ _ => ?_)
      · intro i s hs'
        exact NTT_loop2_same s (by heap_pos) hs'
      · repeat heap_step)
  · simp only [if_neg hb]
    split
    all_goals (
      refine OInv.bind (fun (y : Heap × BitVec 64) => Heap.Same _ y.1) _ _ (block_loop_same _ _ _ _ _ ?_) (fun _ _ => ?_)
      · intro i s hs'
        exact NTT_loop2_same s (by heap_pos) hs'
      · repeat heap_step)
macro_rules | `(tactic| same_lemmas) => `(tactic| (apply NTT_same; heap_pos))

theorem INTT_same (fuel : Nat) (hp : Heap) (self : NTT_Goldilocks) (dst src : Ptr) (size ncols : BitVec 64) (buffer : Ptr)
    (nphase nblock : BitVec 64) (extend : Bool) (hs : 0 < hp.size) :
    OInv (Heap.Same hp) (NTT_INTT fuel hp self dst src size ncols buffer nphase nblock extend) := by
  unfold NTT_INTT
  repeat heap_step
macro_rules | `(tactic| same_lemmas) => `(tactic| (apply INTT_same; heap_pos))

end GoldilocksVerif.HeapSafe
