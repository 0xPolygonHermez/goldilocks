/-
  Loop and array lemmas for the transform model (Model/Ntt.lean): the `iter` fold with its invariant rule, the row loops
  (`copyRow`, `zeroRow`, `scaleRow` are one fill loop) characterised pointwise through `getD` and by row and column, and the
  arithmetic of rows, mixed radix and powers of two that the layout proofs share.
-/
import GoldilocksVerif.Model.Ntt

namespace GoldilocksVerif.Model.Ntt

theorem rangeAux_succ {σ : Type} (f : Nat → σ → σ) : ∀ (n i : Nat) (s : σ),
    Loop.rangeAux 1 f (n + 1) i s = f (i + n) (Loop.rangeAux 1 f n i s) := by
  intro n
  induction n with
  | zero => intro i s; rfl
  | succ n ih =>
    intro i s
    show Loop.rangeAux 1 f (n + 1) (i + 1) (f i s) = _
    rw [ih (i + 1) (f i s)]
    have : i + 1 + n = i + (n + 1) := by omega
    rw [this]
    rfl

theorem iter_zero {σ : Type} (s : σ) (f : Nat → σ → σ) : iter 0 s f = s := rfl

theorem iter_succ {σ : Type} (n : Nat) (s : σ) (f : Nat → σ → σ) : iter (n + 1) s f = f n (iter n s f) := by
  unfold iter Loop.range
  have e1 : (n + 1 - 0 + 1 - 1) / 1 = n + 1 := by simp
  have e2 : (n - 0 + 1 - 1) / 1 = n := by simp
  rw [e1, e2, rangeAux_succ, Nat.zero_add]

theorem iter_ind {σ : Type} (P : Nat → σ → Prop) (n : Nat) (s : σ) (f : Nat → σ → σ)
    (h0 : P 0 s) (hs : ∀ i, i < n → ∀ s, P i s → P (i + 1) (f i s)) : P n (iter n s f) := by
  induction n with
  | zero => exact h0
  | succ n ih =>
    rw [iter_succ]
    exact hs n (by omega) _ (ih (fun i hi => hs i (by omega)))

theorem iter_size {n : Nat} (a : Buf) (f : Nat → Buf → Buf) (h : ∀ i b, (f i b).size = b.size) : (iter n a f).size = a.size :=
  iter_ind (fun _ b => b.size = a.size) n a f rfl (fun i _ b hb => by rw [h, hb])

theorem iter_congr {σ : Type} (n : Nat) (s : σ) (f g : Nat → σ → σ) (h : ∀ i, i < n → ∀ s, f i s = g i s) :
    iter n s f = iter n s g := by
  induction n with
  | zero => rfl
  | succ n ih => rw [iter_succ, iter_succ, ih (fun i hi => h i (by omega)), h n (by omega)]

theorem getD_set (a : Buf) (i j : Nat) (v : W) :
    (a.setIfInBounds i v).getD j 0#64 = if j = i ∧ i < a.size then v else a.getD j 0#64 := by
  rw [Array.getD_eq_getD_getElem?, Array.getD_eq_getD_getElem?, Array.getElem?_setIfInBounds]
  by_cases h : i = j
  · subst h
    by_cases h2 : i < a.size
    · simp [h2]
    · simp [h2]
  · have h' : ¬ j = i := fun e => h e.symm
    simp [h, h']

theorem getD_set_ne (a : Buf) (i j : Nat) (v : W) (h : j ≠ i) : (a.setIfInBounds i v).getD j 0#64 = a.getD j 0#64 := by
  rw [getD_set, if_neg (fun c => h c.1)]

theorem getD_set_eq (a : Buf) (i : Nat) (v : W) (h : i < a.size) : (a.setIfInBounds i v).getD i 0#64 = v := by
  rw [getD_set, if_pos ⟨rfl, h⟩]

theorem getD_ge (a : Buf) (j : Nat) (h : a.size ≤ j) : a.getD j 0#64 = 0#64 := by
  rw [Array.getD_eq_getD_getElem?]
  have : a[j]? = none := by simp; omega
  rw [this]; rfl

theorem getD_replicate (n j : Nat) (v : W) : (Array.replicate n v).getD j 0#64 = if j < n then v else 0#64 := by
  rw [Array.getD_eq_getD_getElem?, Array.getElem?_replicate]
  by_cases h : j < n <;> simp [h]

theorem buf_ext (a b : Buf) (hs : a.size = b.size) (h : ∀ j, j < a.size → a.getD j 0#64 = b.getD j 0#64) : a = b := by
  apply Array.ext hs
  intro i h1 h2
  have := h i h1
  rw [Array.getD_eq_getD_getElem?, Array.getD_eq_getD_getElem?] at this
  simpa [h1, h2] using this

/-- `for (k = 0; k < n; k++) dst[d0 + k] = g k`: the shape of `copyRow`, `zeroRow` and `scaleRow` -/
theorem fill_size (dst : Buf) (d0 n : Nat) (g : Nat → W) :
    (iter n dst (fun k d => d.setIfInBounds (d0 + k) (g k))).size = dst.size := by
  induction n with
  | zero => rfl
  | succ n ih => rw [iter_succ, Array.size_setIfInBounds, ih]

theorem fill_getD (dst : Buf) (d0 n : Nat) (g : Nat → W) (j : Nat) :
    (iter n dst (fun k d => d.setIfInBounds (d0 + k) (g k))).getD j 0#64
      = if d0 ≤ j ∧ j < d0 + n ∧ j < dst.size then g (j - d0) else dst.getD j 0#64 := by
  induction n with
  | zero => rw [iter_zero, if_neg (by omega)]
  | succ n ih =>
    rw [iter_succ, getD_set, fill_size, ih]
    by_cases h1 : j = d0 + n ∧ d0 + n < dst.size
    · rw [if_pos h1, if_pos (by omega)]
      have : j - d0 = n := by omega
      rw [this]
    · rw [if_neg h1]
      by_cases h2 : d0 ≤ j ∧ j < d0 + n ∧ j < dst.size
      · rw [if_pos h2, if_pos (by omega)]
      · rw [if_neg h2, if_neg (by omega)]

theorem copyRow_size (dst : Buf) (d0 : Nat) (src : Buf) (so n : Nat) : (copyRow dst d0 src so n).size = dst.size :=
  fill_size dst d0 n _

theorem copyRow_getD (dst : Buf) (d0 : Nat) (src : Buf) (so n j : Nat) :
    (copyRow dst d0 src so n).getD j 0#64
      = if d0 ≤ j ∧ j < d0 + n ∧ j < dst.size then src.getD (so + (j - d0)) 0#64 else dst.getD j 0#64 :=
  fill_getD dst d0 n _ j

theorem zeroRow_size (dst : Buf) (d0 n : Nat) : (zeroRow dst d0 n).size = dst.size :=
  fill_size dst d0 n _

theorem zeroRow_getD (dst : Buf) (d0 n j : Nat) :
    (zeroRow dst d0 n).getD j 0#64 = if d0 ≤ j ∧ j < d0 + n ∧ j < dst.size then 0#64 else dst.getD j 0#64 :=
  fill_getD dst d0 n _ j

theorem scaleRow_size (a2 a : Buf) (d0 s0 n : Nat) (f : W) : (scaleRow a2 a d0 s0 n f).size = a2.size :=
  fill_size a2 d0 n _

theorem scaleRow_getD (a2 a : Buf) (d0 s0 n : Nat) (f : W) (j : Nat) :
    (scaleRow a2 a d0 s0 n f).getD j 0#64
      = if d0 ≤ j ∧ j < d0 + n ∧ j < a2.size then Gen.Scalar.mul__eEE (a.getD (s0 + (j - d0)) 0#64) f else a2.getD j 0#64 :=
  fill_getD a2 d0 n _ j

theorem rowcol_inj (nc r k r' k' : Nat) (hk : k < nc) (hk' : k' < nc) (h : r * nc + k = r' * nc + k') : r = r' ∧ k = k' := by
  have h1 : (r * nc + k) / nc = r := by
    rw [Nat.mul_comm, Nat.mul_add_div (by omega), Nat.div_eq_of_lt hk, Nat.add_zero]
  have h2 : (r' * nc + k') / nc = r' := by
    rw [Nat.mul_comm, Nat.mul_add_div (by omega), Nat.div_eq_of_lt hk', Nat.add_zero]
  have h3 : r = r' := by rw [← h1, ← h2, h]
  subst h3
  exact ⟨rfl, by omega⟩

theorem mr_div (a r U : Nat) (hr : r < U) : (a * U + r) / U = a := by
  rw [Nat.add_comm, Nat.add_mul_div_right _ _ (by omega), Nat.div_eq_of_lt hr, Nat.zero_add]

theorem mr_mod (a r U : Nat) (hr : r < U) : (a * U + r) % U = r := by
  rw [Nat.add_comm, Nat.add_mul_mod_self_right, Nat.mod_eq_of_lt hr]

/-- the digits of `q` in radix `G` from its digits in radix `G * T` -/
theorem mr_refine (q G T : Nat) : q % (G * T) % G = q % G ∧ q / (G * T) * T + q % (G * T) / G = q / G :=
  ⟨Nat.mod_mul_right_mod q G T, by rw [← Nat.div_div_eq_div_mul, Nat.mod_mul_right_div_self, Nat.div_add_mod']⟩

theorem row_fits (nc n r : Nat) (sz : Nat) (hr : r < n) (h : n * nc ≤ sz) : (r + 1) * nc ≤ sz :=
  Nat.le_trans (Nat.mul_le_mul_right nc (by omega)) h

theorem row_fit (nc N r : Nat) (hr : r < N) : r * nc + nc ≤ N * nc := by
  have := row_fits nc N r (N * nc) hr (Nat.le_refl _)
  rw [Nat.add_mul, Nat.one_mul] at this
  exact this

theorem mr_lt (a r U M : Nat) (ha : a < M) (hr : r < U) : a * U + r < M * U := by
  have := row_fit U M a ha
  omega

theorem rowcol_lt (nc n r k : Nat) (hr : r < n) (hk : k < nc) : r * nc + k < n * nc :=
  mr_lt r k nc n hr hk

theorem row_mem (nc i p k : Nat) (hk : k < nc) : (i * nc ≤ p * nc + k ∧ p * nc + k < i * nc + nc) ↔ p = i := by
  constructor
  · intro ⟨h1, h2⟩
    have e : p * nc + k = i * nc + (p * nc + k - i * nc) := by omega
    exact (rowcol_inj nc p k i _ hk (by omega) e).1
  · intro h; subst h; omega

theorem fill_row (dst : Buf) (nc r0 : Nat) (g : Nat → W) (p k : Nat) (hk : k < nc) (hfit : (r0 + 1) * nc ≤ dst.size) :
    (iter nc dst (fun k d => d.setIfInBounds (r0 * nc + k) (g k))).getD (p * nc + k) 0#64
      = if p = r0 then g k else dst.getD (p * nc + k) 0#64 := by
  rw [fill_getD]
  rw [Nat.add_mul, Nat.one_mul] at hfit
  by_cases h : p = r0
  · subst h
    rw [if_pos (by omega), if_pos rfl, Nat.add_sub_cancel_left]
  · rw [if_neg (fun c => h ((row_mem nc r0 p k hk).1 ⟨c.1, c.2.1⟩)), if_neg h]

theorem copyRow_row (dst src : Buf) (nc r0 so p k : Nat) (hk : k < nc) (hfit : (r0 + 1) * nc ≤ dst.size) :
    (copyRow dst (r0 * nc) src so nc).getD (p * nc + k) 0#64
      = if p = r0 then src.getD (so + k) 0#64 else dst.getD (p * nc + k) 0#64 :=
  fill_row dst nc r0 _ p k hk hfit

theorem zeroRow_row (dst : Buf) (nc r0 p k : Nat) (hk : k < nc) (hfit : (r0 + 1) * nc ≤ dst.size) :
    (zeroRow dst (r0 * nc) nc).getD (p * nc + k) 0#64 = if p = r0 then 0#64 else dst.getD (p * nc + k) 0#64 :=
  fill_row dst nc r0 _ p k hk hfit

theorem pow_split (a b n : Nat) (h : n = a + b) : 2 ^ n = 2 ^ a * 2 ^ b := by
  subst h; exact Nat.pow_add 2 a b

/-- `2^c` rows are `2^(c-1-u)` groups of butterflies at distance `2^u` -/
theorem pow_half (c u : Nat) (h : u < c) : 2 ^ c = 2 ^ (c - 1 - u) * (2 ^ u * 2) := by
  rw [pow_split (c - 1 - u) (u + 1) c (by omega), Nat.pow_succ]

theorem pow_pred (c u : Nat) (h : u < c) : 2 ^ (c - u) = 2 * 2 ^ (c - (u + 1)) := by
  rw [pow_split 1 (c - (u + 1)) (c - u) (by omega), Nat.pow_one]

end GoldilocksVerif.Model.Ntt
