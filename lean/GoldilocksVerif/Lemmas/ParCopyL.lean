/-
  The chunking of parcpy / parSetZero (Model/ParCopy.lean): the number of chunks (the fuel bound of the generated chunk
  loops), the chunks cover `[0, size)` and are pairwise disjoint, folds over the chunk starts.  Core-only.
-/
import GoldilocksVerif.Model.ParCopy

namespace GoldilocksVerif.ParCopy

theorem threads_pos (nt : Int) : 0 < threads nt := by
  unfold threads; split <;> omega

theorem chunk_pos (size : Nat) (nt : Int) (h : 0 < size) : 0 < chunk size nt := by
  unfold chunk
  have ht := threads_pos nt
  apply Nat.div_pos _ ht
  omega

theorem chunk_le (size : Nat) (nt : Int) : chunk size nt ≤ size := by
  unfold chunk
  have hT := threads_pos nt
  by_cases h0 : size = 0
  · subst h0
    rw [Nat.zero_add]
    exact Nat.le_of_eq (Nat.div_eq_of_lt (by omega))
  · apply Nat.div_le_of_le_mul
    obtain ⟨t, ht⟩ : ∃ t, threads nt = t + 1 := ⟨threads nt - 1, by omega⟩
    obtain ⟨s, hs⟩ : ∃ s, size = s + 1 := ⟨size - 1, by omega⟩
    rw [ht, hs, Nat.succ_mul, Nat.mul_succ]
    omega

theorem len_eq_min (size : Nat) (nt : Int) (i : Nat) : len size nt i = min (size - i) (chunk size nt) := by
  unfold len; split <;> omega

theorem len_le (size : Nat) (nt : Int) (i : Nat) : len size nt i ≤ size - i := by
  unfold len; split <;> omega

/-- the number of chunks of length `⌈n / t⌉` is at most `min n t` -/
theorem chunks_le (n t : Nat) (ht : 1 ≤ t) (hn : 1 ≤ n) :
    1 ≤ (n + t - 1) / t ∧ (n + (n + t - 1) / t - 1) / ((n + t - 1) / t) ≤ min n t := by
  have hct : 1 ≤ (n + t - 1) / t := (Nat.le_div_iff_mul_le (by omega)).mpr (by omega)
  generalize hc : (n + t - 1) / t = ct at hct
  have hcov : n ≤ t * ct := by
    have h1 := Nat.div_add_mod (n + t - 1) t
    have h2 := Nat.mod_lt (n + t - 1) (show t > 0 by omega)
    rw [hc] at h1
    omega
  refine ⟨hct, ?_⟩
  have h1 : (n + ct - 1) / ct ≤ t := by
    apply Nat.le_of_lt_succ
    apply (Nat.div_lt_iff_lt_mul (by omega)).mpr
    rw [Nat.succ_mul]; omega
  have h2 : (n + ct - 1) / ct ≤ n := by
    apply Nat.le_of_lt_succ
    apply (Nat.div_lt_iff_lt_mul (by omega)).mpr
    have : n * 1 ≤ n * ct := Nat.mul_le_mul_left n hct
    rw [Nat.succ_mul]; omega
  exact Nat.le_min.mpr ⟨h2, h1⟩

theorem startsAux_length_le (size c : Nat) (hc : 1 ≤ c) : ∀ (fuel i : Nat),
    (startsAux size c fuel i).length ≤ (size - i + c - 1) / c := by
  intro fuel
  induction fuel with
  | zero => intro i; exact Nat.zero_le _
  | succ fuel ih =>
    intro i
    unfold startsAux
    by_cases hi : i < size
    · rw [if_pos hi, List.length_cons]
      have := ih (i + c)
      by_cases hle : i + c ≤ size
      · have e : size - i + c - 1 = (size - (i + c) + c - 1) + c := by omega
        rw [e, Nat.add_div_right _ (by omega)]
        omega
      · have h0 : (size - (i + c) + c - 1) / c = 0 := Nat.div_eq_of_lt (by omega)
        have h1 : 1 ≤ (size - i + c - 1) / c := (Nat.le_div_iff_mul_le (by omega)).mpr (by omega)
        omega
    · rw [if_neg hi]; exact Nat.zero_le _

/-- the fuel bound of the generated chunk loops -/
theorem starts_length_le (size : Nat) (nt : Int) : (starts size nt).length ≤ min size (threads nt) := by
  unfold starts
  rcases Nat.eq_zero_or_pos size with h0 | h1
  · subst h0; exact Nat.zero_le _
  · have h := startsAux_length_le size (chunk size nt) (chunk_pos size nt h1) size 0
    have := (chunks_le size (threads nt) (threads_pos nt) h1).2
    unfold chunk at h ⊢
    rw [Nat.sub_zero] at h
    omega

/-- chunk by chunk is the whole: an action that takes `H i` to `H (min (i + c) size)` at every start `i`, folded over the
    starts from `i`, ends in `H size` -/
theorem foldl_startsAux {σ : Type} (g : σ → Nat → σ) (H : Nat → σ) (size c : Nat)
    (hstep : ∀ i, i < size → g (H i) i = H (min (i + c) size)) :
    ∀ (fuel i : Nat), size ≤ i + fuel * c → (startsAux size c fuel i).foldl g (H (min i size)) = H size := by
  intro fuel
  induction fuel with
  | zero => intro i h; rw [Nat.zero_mul, Nat.add_zero] at h; rw [Nat.min_eq_right h]; rfl
  | succ fuel ih =>
    intro i h
    unfold startsAux
    by_cases hi : i < size
    · rw [if_pos hi, List.foldl_cons, Nat.min_eq_left (Nat.le_of_lt hi), hstep i hi]
      exact ih (i + c) (by rw [Nat.succ_mul] at h; omega)
    · rw [if_neg hi, Nat.min_eq_right (by omega)]; rfl

theorem foldl_starts {σ : Type} (g : σ → Nat → σ) (H : Nat → σ) (size : Nat) (nt : Int)
    (hstep : ∀ i, i < size → g (H i) i = H (i + len size nt i)) : (starts size nt).foldl g (H 0) = H size := by
  have h := foldl_startsAux g H size (chunk size nt)
    (fun i hi => by rw [hstep i hi, len_eq_min]; congr 1; omega) size 0 (by
      rcases Nat.eq_zero_or_pos size with h0 | h1
      · omega
      · exact Nat.le_trans (Nat.le_mul_of_pos_right _ (chunk_pos size nt h1)) (Nat.le_add_left _ _))
  rwa [Nat.zero_min] at h

theorem mem_startsAux (size c : Nat) : ∀ (fuel s i : Nat),
    i ∈ startsAux size c fuel s ↔ ∃ k, k < fuel ∧ i = s + k * c ∧ i < size := by
  intro fuel
  induction fuel with
  | zero => intro s i; simp [startsAux]
  | succ fuel ih =>
    intro s i
    unfold startsAux
    constructor
    · intro h
      split at h
      · rename_i hs
        rcases List.mem_cons.mp h with h | h
        · exact ⟨0, Nat.succ_pos _, by omega, by omega⟩
        · obtain ⟨k, hk, e, hi⟩ := (ih (s + c) i).mp h
          refine ⟨k + 1, Nat.succ_lt_succ hk, ?_, hi⟩
          rw [e, Nat.add_mul]; omega
      · exact absurd h (List.not_mem_nil)
    · rintro ⟨k, hk, e, hi⟩
      have hs : s < size := by
        have : s ≤ i := by rw [e]; exact Nat.le_add_right _ _
        omega
      rw [if_pos hs]
      cases k with
      | zero => exact List.mem_cons.mpr (Or.inl (by omega))
      | succ k =>
        apply List.mem_cons.mpr; right
        apply (ih (s + c) i).mpr
        refine ⟨k, Nat.lt_of_succ_lt_succ hk, ?_, hi⟩
        rw [e, Nat.add_mul]; omega

theorem mem_starts (size : Nat) (nt : Int) (i : Nat) :
    i ∈ starts size nt ↔ ∃ k, k < size ∧ i = k * chunk size nt ∧ i < size := by
  unfold starts
  rw [mem_startsAux]
  constructor
  · rintro ⟨k, h1, h2, h3⟩; exact ⟨k, h1, by omega, h3⟩
  · rintro ⟨k, h1, h2, h3⟩; exact ⟨k, h1, by omega, h3⟩

theorem covered_iff (size : Nat) (nt : Int) (j : Nat) :
    (∃ i, i ∈ starts size nt ∧ i ≤ j ∧ j < i + len size nt i) ↔ j < size := by
  constructor
  · rintro ⟨i, hi, h1, h2⟩
    have := len_le size nt i
    obtain ⟨k, _, _, hlt⟩ := (mem_starts size nt i).mp hi
    omega
  · intro hj
    have hc := chunk_pos size nt (by omega)
    have hdm := Nat.div_add_mod j (chunk size nt)
    have hml := Nat.mod_lt j hc
    refine ⟨j / chunk size nt * chunk size nt, ?_, ?_, ?_⟩
    · apply (mem_starts size nt _).mpr
      refine ⟨j / chunk size nt, ?_, rfl, ?_⟩
      · exact Nat.lt_of_le_of_lt (Nat.div_le_self _ _) hj
      · rw [Nat.mul_comm]; omega
    · rw [Nat.mul_comm]; omega
    · unfold len
      rw [Nat.mul_comm]
      split <;> omega

theorem foldl_chunks_apply (v : Nat → BitVec 64) (size : Nat) (nt : Int) : ∀ (order : List Nat) (dst : Region) (j : Nat),
    (order.foldl (fun (d : Region) i => ⟨fun j => if i ≤ j ∧ j < i + len size nt i then v j else d j⟩) dst) j =
      if (∃ i, i ∈ order ∧ i ≤ j ∧ j < i + len size nt i) then v j else dst j := by
  intro order
  induction order with
  | nil => intro dst j; simp
  | cons a rest ih =>
    intro dst j
    rw [List.foldl_cons, ih]
    by_cases h1 : ∃ i, i ∈ rest ∧ i ≤ j ∧ j < i + len size nt i
    · obtain ⟨i, hi, hh⟩ := h1
      rw [if_pos ⟨i, hi, hh⟩, if_pos ⟨i, List.mem_cons_of_mem _ hi, hh⟩]
    · rw [if_neg h1]
      dsimp only
      by_cases h2 : a ≤ j ∧ j < a + len size nt a
      · rw [if_pos h2, if_pos ⟨a, List.mem_cons_self, h2⟩]
      · rw [if_neg h2, if_neg]
        rintro ⟨i, hi, hh⟩
        rcases List.mem_cons.mp hi with e | hi
        · subst e; exact h2 hh
        · exact h1 ⟨i, hi, hh⟩

/-- `hperm` is membership only: any order, repetitions allowed -/
theorem foldl_chunks_cover (v : Nat → BitVec 64) (size : Nat) (nt : Int) (order : List Nat)
    (hperm : ∀ i, i ∈ order ↔ i ∈ starts size nt) (dst : Region) (j : Nat) :
    (order.foldl (fun (d : Region) i => ⟨fun j => if i ≤ j ∧ j < i + len size nt i then v j else d j⟩) dst) j =
      if j < size then v j else dst j := by
  rw [foldl_chunks_apply]
  refine ite_congr (propext (Iff.trans ?_ (covered_iff size nt j))) (fun _ => rfl) (fun _ => rfl)
  exact exists_congr fun i => and_congr_left fun _ => hperm i

theorem chunks_disjoint (size : Nat) (nt : Int) (i i' : Nat) (hi : i ∈ starts size nt) (hi' : i' ∈ starts size nt)
    (hne : i ≠ i') (j : Nat) : ¬ ((i ≤ j ∧ j < i + len size nt i) ∧ (i' ≤ j ∧ j < i' + len size nt i')) := by
  obtain ⟨k, _, e, _⟩ := (mem_starts size nt i).mp hi
  obtain ⟨k', _, e', _⟩ := (mem_starts size nt i').mp hi'
  have hl : len size nt i ≤ chunk size nt := by unfold len; split <;> omega
  have hl' : len size nt i' ≤ chunk size nt := by unfold len; split <;> omega
  rintro ⟨⟨a1, a2⟩, ⟨b1, b2⟩⟩
  have hkk : k ≠ k' := by intro h; subst h; exact hne (by omega)
  rcases Nat.lt_or_gt_of_ne hkk with h | h
  · have : (k + 1) * chunk size nt ≤ k' * chunk size nt := Nat.mul_le_mul_right _ h
    rw [Nat.add_mul] at this
    omega
  · have : (k' + 1) * chunk size nt ≤ k * chunk size nt := Nat.mul_le_mul_right _ h
    rw [Nat.add_mul] at this
    omega

end GoldilocksVerif.ParCopy
