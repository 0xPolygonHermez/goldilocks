/- Every instruction of `Isa/X86.lean` as arithmetic on `Nat` (core only, no Mathlib). -/
import GoldilocksVerif.Isa.X86

namespace X86

theorem add64_fst (a b : BitVec 64) : (add64 a b).1.toNat = (a.toNat + b.toNat) % 2^64 := by
  simp [add64, BitVec.toNat_add]
theorem add64_snd (a b : BitVec 64) : (add64 a b).2 = decide (2^64 ≤ a.toNat + b.toNat) := by
  simp [add64]
theorem sub64_fst (a b : BitVec 64) : (sub64 a b).1.toNat = (2^64 - b.toNat + a.toNat) % 2^64 := by
  simp [sub64, BitVec.toNat_sub]
theorem sub64_snd (a b : BitVec 64) : (sub64 a b).2 = decide (a.toNat < b.toNat) := by
  simp [sub64]
theorem toNat_ite (c : Prop) [Decidable c] (x y : BitVec 64) :
    (if c then x else y).toNat = if c then x.toNat else y.toNat := by
  split <;> rfl
theorem cmovc_toNat (cf : Bool) (x y : BitVec 64) :
    (cmovc64 cf x y).toNat = if cf then y.toNat else x.toNat := by
  unfold cmovc64; split <;> rfl

theorem rol32_toNat (x : BitVec 64) :
    (x.rotateLeft 32).toNat = (x.toNat % 2^32) * 2^32 + x.toNat / 2^32 := by
  rw [BitVec.rotateLeft_def]
  simp only [BitVec.toNat_or, BitVec.toNat_shiftLeft, BitVec.toNat_ushiftRight, Nat.reduceMod, Nat.reduceSub]
  have hx := x.isLt
  have h1 : (x.toNat <<< 32) % 2^64 = (x.toNat % 2^32) <<< 32 := by
    simp only [Nat.shiftLeft_eq]; omega
  have h2 : x.toNat >>> 32 < 2^32 := by
    simp only [Nat.shiftRight_eq_div_pow]; omega
  rw [h1, ← Nat.shiftLeft_add_eq_or_of_lt h2]
  simp only [Nat.shiftLeft_eq, Nat.shiftRight_eq_div_pow]

theorem rol64_32_fst (x : BitVec 64) (cf : Bool) :
    (rol64 x 32 cf).1.toNat = (x.toNat % 2^32) * 2^32 + x.toNat / 2^32 := by
  simp only [rol64]; exact rol32_toNat x

theorem mov32_toNat (x : BitVec 64) : (mov32 x).toNat = x.toNat % 2^32 := by
  unfold mov32
  rw [BitVec.toNat_and]
  show x.toNat &&& (2^32 - 1) = _
  rw [Nat.and_two_pow_sub_one_eq_mod]

theorem mul64_hi (a b : BitVec 64) : (mul64 a b).1.toNat = a.toNat * b.toNat / 2^64 := by
  simp only [mul64, BitVec.toNat_ofNat]
  have := Nat.mul_lt_mul'' a.isLt b.isLt
  apply Nat.mod_eq_of_lt
  apply Nat.div_lt_of_lt_mul
  calc a.toNat * b.toNat < 2^64 * 2^64 := this
    _ = 2^64 * 2^64 := rfl
theorem mul64_lo (a b : BitVec 64) : (mul64 a b).2.1.toNat = a.toNat * b.toNat % 2^64 := by
  simp only [mul64, BitVec.toNat_ofNat]

end X86
