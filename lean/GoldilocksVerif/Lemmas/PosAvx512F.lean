/-
  Poseidon (C06): the AVX512 backend (Gen/PosAvx512.lean: two interleaved states, the low halves of the three 8-lane
  registers hold state A, the high halves state B) in the field view.  Every statement is about one half `h`
  (`V8.half`); the kernel-facing proofs split on `h`.
-/
import GoldilocksVerif.Gen.PosAvx512
import GoldilocksVerif.Lemmas.Avx512MatF
import GoldilocksVerif.Lemmas.PosAvx2F
set_option linter.unusedSimpArgs false
set_option linter.unusedTactic false
set_option linter.unreachableTactic false
namespace GoldilocksVerif
open PoseidonSpec Gen.PosAvx512 Gen.PosConsts Gen.Avx512 Gen.Avx512Mat

theorem set4_get (x3 x2 x1 x0 : BitVec 64) (h : Bool) (i : Fin 4) :
    (Avx512.set4_epi64 x3 x2 x1 x0).get (half8 h i) = (⟨x0, x1, x2, x3⟩ : V4).get i := by
  cases h <;> match i with
  | 0 => rfl | 1 => rfl | 2 => rfl | 3 => rfl

theorem get_mk4 (c : Region) (i : Fin 4) :
    (⟨c 0, c 1, c 2, c 3⟩ : V4).get i = c i.val ∧ (⟨c 4, c 5, c 6, c 7⟩ : V4).get i = c (4 + i.val) ∧
    (⟨c 8, c 9, c 10, c 11⟩ : V4).get i = c (8 + i.val) := by
  match i with
  | 0 => exact ⟨rfl, rfl, rfl⟩ | 1 => exact ⟨rfl, rfl, rfl⟩ | 2 => exact ⟨rfl, rfl, rfl⟩ | 3 => exact ⟨rfl, rfl, rfl⟩

/-- (stated per half: a `cond` over the two scalars would be removed by a `rfl`-lemma, which leaves the kernel to compare
  the two forms by unfolding the whole loop body they are read from) -/
theorem set8_get (y1 y0 : BitVec 64) (i : Fin 4) :
    (Avx512.set_epi64 y1 y1 y1 y1 y0 y0 y0 y0).get (half8 false i) = y0 ∧
    (Avx512.set_epi64 y1 y1 y1 y1 y0 y0 y0 y0).get (half8 true i) = y1 := by
  match i with
  | 0 => exact ⟨rfl, rfl⟩ | 1 => exact ⟨rfl, rfl⟩ | 2 => exact ⟨rfl, rfl⟩ | 3 => exact ⟨rfl, rfl⟩

theorem add512_b_c_al_eq (c b : V8) : add_avx512_b_c_al_c_a c b = add_avx512_b_c c b := by
  simp only [add_avx512_b_c_al_c_a, add_avx512_b_c]

/-- state A (`h = false`) / state B (`h = true`) of a 24-word region in the interleaved layout
  [a0..3 b0..3 a4..7 b4..7 a8..11 b8..11] -/
def stH (h : Bool) (s : Region) : State := fun k => den (s (8 * (k.val / 4) + (if h then 4 else 0) + k.val % 4))

theorem stH_at (h : Bool) (s : Region) (i : Fin 4) :
    stH h s ⟨i.val, by omega⟩ = den (s (half8 h i).val) ∧ stH h s ⟨4 + i.val, by omega⟩ = den (s (8 + (half8 h i).val)) ∧
    stH h s ⟨8 + i.val, by omega⟩ = den (s (16 + (half8 h i).val)) := by
  have hi := i.isLt
  refine ⟨congrArg (fun n => den (s n)) ?_, congrArg (fun n => den (s n)) ?_, congrArg (fun n => den (s n)) ?_⟩
  · show 8 * (i.val / 4) + (if h then 4 else 0) + i.val % 4 = (if h then 4 else 0) + i.val
    omega
  · show 8 * ((4 + i.val) / 4) + (if h then 4 else 0) + (4 + i.val) % 4 = 8 + ((if h then 4 else 0) + i.val)
    omega
  · show 8 * ((8 + i.val) / 4) + (if h then 4 else 0) + (8 + i.val) % 4 = 16 + ((if h then 4 else 0) + i.val)
    omega

theorem vF_ext_half (h : Bool) (b0 b1 b2 : V8) (t : State)
    (h0 : ∀ i : Fin 4, den (b0.get (half8 h i)) = t ⟨i.val, by omega⟩)
    (h1 : ∀ i : Fin 4, den (b1.get (half8 h i)) = t ⟨4 + i.val, by omega⟩)
    (h2 : ∀ i : Fin 4, den (b2.get (half8 h i)) = t ⟨8 + i.val, by omega⟩) :
    vF (b0.half h) (b1.half h) (b2.half h) = t := by
  apply vF_ext <;> intro i <;> rw [half_get]
  · exact h0 i
  · exact h1 i
  · exact h2 i

theorem vF_get_half (h : Bool) (a0 a1 a2 : V8) (i : Fin 4) :
    vF (a0.half h) (a1.half h) (a2.half h) ⟨i.val, by omega⟩ = den (a0.get (half8 h i)) ∧
    vF (a0.half h) (a1.half h) (a2.half h) ⟨4 + i.val, by omega⟩ = den (a1.get (half8 h i)) ∧
    vF (a0.half h) (a1.half h) (a2.half h) ⟨8 + i.val, by omega⟩ = den (a2.get (half8 h i)) := by
  have A := vF_get (a0.half h) (a1.half h) (a2.half h) i
  simp only [half_get] at A
  exact A

theorem get_load512 (s : Region) (i : Fin 8) : (load_avx512 s).get i = s i.val := by
  match i with
  | 0 => rfl | 1 => rfl | 2 => rfl | 3 => rfl | 4 => rfl | 5 => rfl | 6 => rfl | 7 => rfl

theorem vF_load512 (s : Region) (h : Bool) :
    vF ((load_avx512 s).half h) ((load_avx512 (Region.shift s 8)).half h) ((load_avx512 (Region.shift s 16)).half h) =
      stH h s := by
  apply vF_ext_half <;> intro i <;> rw [get_load512]
  · exact (stH_at h s i).1.symm
  · exact (stH_at h s i).2.1.symm
  · exact (stH_at h s i).2.2.symm

theorem vF512_add_small (a0 a1 a2 : V8) (c : Region) (hc : ∀ k, k < 12 → (c k).toNat < P) (h : Bool) :
    vF ((Pos_add_avx512_small a0 a1 a2 c).1.half h) ((Pos_add_avx512_small a0 a1 a2 c).2.1.half h)
      ((Pos_add_avx512_small a0 a1 a2 c).2.2.half h) =
      fun i => vF (a0.half h) (a1.half h) (a2.half h) i + den (c i.val) := by
  apply vF_ext_half <;> intro i
  · have h1 : ((Avx512.set4_epi64 (c 3) (c 2) (c 1) (c 0)).get (half8 h i)).toNat < P := by
      rw [set4_get, (get_mk4 c i).1]; exact hc _ (by omega)
    simp only [Pos_add_avx512_small, add512_b_c_al_eq, den_add512_b_c _ _ _ h1, set4_get, (get_mk4 c i).1,
      (vF_get_half h a0 a1 a2 i).1]
  · have h1 : ((Avx512.set4_epi64 (c 7) (c 6) (c 5) (c 4)).get (half8 h i)).toNat < P := by
      rw [set4_get, (get_mk4 c i).2.1]; exact hc _ (by omega)
    simp only [Pos_add_avx512_small, add512_b_c_al_eq, den_add512_b_c _ _ _ h1, set4_get, (get_mk4 c i).2.1,
      (vF_get_half h a0 a1 a2 i).2.1]
  · have h1 : ((Avx512.set4_epi64 (c 11) (c 10) (c 9) (c 8)).get (half8 h i)).toNat < P := by
      rw [set4_get, (get_mk4 c i).2.2]; exact hc _ (by omega)
    simp only [Pos_add_avx512_small, add512_b_c_al_eq, den_add512_b_c _ _ _ h1, set4_get, (get_mk4 c i).2.2,
      (vF_get_half h a0 a1 a2 i).2.2]

theorem posC_canon_shift (off : Nat) (h : off + 12 ≤ 118) (k : Nat) (hk : k < 12) :
    ((Region.shift c_Pos_C off) k).toNat < P := by
  rw [Region.shift_apply]; exact posC_canon (off + k) (by omega)

theorem vF512_add_small_C (a0 a1 a2 : V8) (off : Nat) (ho : off + 12 ≤ 118) (h : Bool) :
    vF ((Pos_add_avx512_small a0 a1 a2 (Region.shift c_Pos_C off)).1.half h)
      ((Pos_add_avx512_small a0 a1 a2 (Region.shift c_Pos_C off)).2.1.half h)
      ((Pos_add_avx512_small a0 a1 a2 (Region.shift c_Pos_C off)).2.2.half h) =
      addC off (vF (a0.half h) (a1.half h) (a2.half h)) := by
  rw [vF512_add_small a0 a1 a2 _ (posC_canon_shift off ho) h]
  funext i; simp only [addC, C, Region.shift_apply]

theorem vF512_add_small_C0 (a0 a1 a2 : V8) (h : Bool) :
    vF ((Pos_add_avx512_small a0 a1 a2 c_Pos_C).1.half h) ((Pos_add_avx512_small a0 a1 a2 c_Pos_C).2.1.half h)
      ((Pos_add_avx512_small a0 a1 a2 c_Pos_C).2.2.half h) = addC 0 (vF (a0.half h) (a1.half h) (a2.half h)) := by
  have := vF512_add_small_C a0 a1 a2 0 (by omega) h
  rw [Region.shift_zero] at this
  exact this

theorem vF512_add_C (a0 a1 a2 : V8) (off : Nat) (h : Bool) :
    vF ((Pos_add_avx512 a0 a1 a2 (Region.shift c_Pos_C off)).1.half h)
      ((Pos_add_avx512 a0 a1 a2 (Region.shift c_Pos_C off)).2.1.half h)
      ((Pos_add_avx512 a0 a1 a2 (Region.shift c_Pos_C off)).2.2.half h) =
      addC off (vF (a0.half h) (a1.half h) (a2.half h)) := by
  apply vF_ext_half <;> intro i <;>
    (simp only [Pos_add_avx512, add512_al_eq, den_add_avx512, set4_get, (get_mk4 (Region.shift c_Pos_C off) i).1,
      (get_mk4 (Region.shift c_Pos_C off) i).2.1, (get_mk4 (Region.shift c_Pos_C off) i).2.2]
     simp only [Region.shift_apply, addC, C, (vF_get_half h a0 a1 a2 i).1, (vF_get_half h a0 a1 a2 i).2.1,
      (vF_get_half h a0 a1 a2 i).2.2])

theorem vF512_pow7 (a0 a1 a2 : V8) (h : Bool) :
    vF ((Pos_pow7_avx512 a0 a1 a2).1.half h) ((Pos_pow7_avx512 a0 a1 a2).2.1.half h)
      ((Pos_pow7_avx512 a0 a1 a2).2.2.half h) = sbox (vF (a0.half h) (a1.half h) (a2.half h)) := by
  apply vF_ext_half <;> intro i <;>
    (simp only [Pos_pow7_avx512, den_mult_avx512, den_square_avx512, sbox, (vF_get_half h a0 a1 a2 i).1,
      (vF_get_half h a0 a1 a2 i).2.1, (vF_get_half h a0 a1 a2 i).2.2]; ring)

theorem vF512_mmult8_M (a0 a1 a2 : V8) (h : Bool) :
    vF ((mmult_avx512_8 a0 a1 a2 c_Pos_M_).1.half h) ((mmult_avx512_8 a0 a1 a2 c_Pos_M_).2.1.half h)
      ((mmult_avx512_8 a0 a1 a2 c_Pos_M_).2.2.half h) = mulMat M (vF (a0.half h) (a1.half h) (a2.half h)) :=
  vF_of_dot12 _ _ _ _ _ _ c_Pos_M_ c_Pos_M posM__transp (fun i => mmult512_8_den a0 a1 a2 c_Pos_M_ h i posM__8bit)

theorem vF512_mmult_P (a0 a1 a2 : V8) (h : Bool) :
    vF ((mmult_avx512 a0 a1 a2 c_Pos_P_).1.half h) ((mmult_avx512 a0 a1 a2 c_Pos_P_).2.1.half h)
      ((mmult_avx512 a0 a1 a2 c_Pos_P_).2.2.half h) = mulMat Pm (vF (a0.half h) (a1.half h) (a2.half h)) :=
  vF_of_dot12 _ _ _ _ _ _ c_Pos_P_ c_Pos_P posP__transp (fun i => mmult512_den a0 a1 a2 c_Pos_P_ h i)

/-- the lane mask of the partial rounds: lanes 0 and 4 (element 0 of either state) cleared -/
abbrev posMask8 : V8 :=
  Avx512.set_epi64 18446744073709551615#64 18446744073709551615#64 18446744073709551615#64 0#64
    18446744073709551615#64 18446744073709551615#64 18446744073709551615#64 0#64

theorem and_mask8_get (a0 : V8) (j : Fin 8) (hj : j.val % 4 ≠ 0) : (Avx512.and_si512 a0 posMask8).get j = a0.get j := by
  match j with
  | 0 => exact absurd rfl hj
  | 4 => exact absurd rfl hj
  | 1 => exact and_ones64 _
  | 2 => exact and_ones64 _
  | 3 => exact and_ones64 _
  | 5 => exact and_ones64 _
  | 6 => exact and_ones64 _
  | 7 => exact and_ones64 _

/-- words 0 / 1 of `state0_` hold element 0 of state A / B -/
theorem vloop512_y (r : Nat) (s04 s04_ : Region) (a0 a1 a2 : V8) (h : Bool) :
    den ((Pos_hash_full_result_avx512_loop1 posMask8 r (s04, s04_, a0, a1, a2)).2.1 (bif h then 1 else 0)) =
      partialRound r (pF (s04_ (bif h then 1 else 0)) (a0.half h) (a1.half h) (a2.half h)) 0 := by
  obtain ⟨⟨-, f1, f2, f3⟩, ⟨f4, f5, f6, f7⟩, ⟨f8, f9, f10, f11⟩⟩ :=
    vF_lit ⟨s04_ (bif h then 1 else 0), (a0.half h).l1, (a0.half h).l2, (a0.half h).l3⟩ (a1.half h) (a2.half h)
  rw [partialRound_zero, pF_lit]
  simp only [pF, f1, f2, f3, f4, f5, f6, f7, f8, f9, f10, f11]
  cases h <;>
  ( simp only [Pos_hash_full_result_avx512_loop1, Region.set_apply, ↓reduceIte, Nat.reduceEqDiff, den_add_r, den_mul_r,
      den_pow7, (dot512_den _ _ _ _ _).1, (dot512_den _ _ _ _ _).2.1, dot12, V8.half, V8.lo, V8.hi, posMask8,
      Avx512.and_si512, Avx512.set_epi64, V8.map2, Region.shift_apply, BitVec.and_zero, and_ones64, den_zero64,
      Nat.add_zero, C, S, Nat.add_comm 60 r, cond_false, cond_true]
    ring )

theorem vloop512_lane (r : Nat) (s04 s04_ : Region) (a0 a1 a2 : V8) (h : Bool) (i : Fin 4) :
    (i ≠ 0 → den ((Pos_hash_full_result_avx512_loop1 posMask8 r (s04, s04_, a0, a1, a2)).2.2.1.get (half8 h i)) =
      partialRound r (pF (s04_ (bif h then 1 else 0)) (a0.half h) (a1.half h) (a2.half h)) ⟨i.val, by omega⟩) ∧
    den ((Pos_hash_full_result_avx512_loop1 posMask8 r (s04, s04_, a0, a1, a2)).2.2.2.1.get (half8 h i)) =
      partialRound r (pF (s04_ (bif h then 1 else 0)) (a0.half h) (a1.half h) (a2.half h)) ⟨4 + i.val, by omega⟩ ∧
    den ((Pos_hash_full_result_avx512_loop1 posMask8 r (s04, s04_, a0, a1, a2)).2.2.2.2.get (half8 h i)) =
      partialRound r (pF (s04_ (bif h then 1 else 0)) (a0.half h) (a1.half h) (a2.half h)) ⟨8 + i.val, by omega⟩ := by
  obtain ⟨g0, g1, g2⟩ := pF_get (s04_ (bif h then 1 else 0)) (a0.half h) (a1.half h) (a2.half h) i
  have n0 : i ≠ 0 → (⟨i.val, by omega⟩ : Fin 12) ≠ 0 := fun hi e => hi (Fin.ext (Fin.val_eq_of_eq e : i.val = 0))
  have n1 : (⟨4 + i.val, by omega⟩ : Fin 12) ≠ 0 := Fin.ne_of_val_ne (by show 4 + i.val ≠ 0; omega)
  have n2 : (⟨8 + i.val, by omega⟩ : Fin 12) ≠ 0 := Fin.ne_of_val_ne (by show 8 + i.val ≠ 0; omega)
  -- the specification's side, in terms of the lanes before the loop body
  refine ⟨fun hi => ?_, ?_, ?_⟩
  on_goal 1 => rw [partialRound_succ r _ _ (n0 hi), g0 hi, pF_lit, half_get,
    ← and_mask8_get a0 (half8 h i) (by rw [half8_mod]; exact fun e => hi (Fin.ext e))]
  on_goal 2 => rw [partialRound_succ r _ _ n1, g1, pF_lit, half_get]
  on_goal 3 => rw [partialRound_succ r _ _ n2, g2, pF_lit, half_get]
  -- the code's side: operand order of the exact lane operations and index arithmetic of the constants are left to
  -- `ring_nf`.  The call pattern `add_avx512(st, w, st)` (result aliasing the SECOND operand) has a generated
  -- definition only when the code uses it: its equation is tried first.
  all_goals cases h
  all_goals first
    | (have eb : ∀ c a : V8, add_avx512__wWW_al_c_b c a = add_avx512__wWW a c := by
         intro c a; simp only [add_avx512__wWW_al_c_b, add_avx512__wWW]
       simp only [Pos_hash_full_result_avx512_loop1, add512_al_eq, eb, den_add_avx512, den_mult_avx512,
          (set8_get _ _ i).1, (set8_get _ _ i).2, set4_get, (get_mk4 _ i).1, (get_mk4 _ i).2.1, (get_mk4 _ i).2.2,
          Region.set_apply, ↓reduceIte, Nat.reduceEqDiff, den_add_r, den_pow7, cond_false, cond_true]
       simp only [Region.shift_apply, C, S, Nat.add_comm 60 r] <;> ring_nf)
    | (simp only [Pos_hash_full_result_avx512_loop1, add512_al_eq, den_add_avx512, den_mult_avx512,
          (set8_get _ _ i).1, (set8_get _ _ i).2, set4_get, (get_mk4 _ i).1, (get_mk4 _ i).2.1, (get_mk4 _ i).2.2,
          Region.set_apply, ↓reduceIte, Nat.reduceEqDiff, den_add_r, den_pow7, cond_false, cond_true]
       simp only [Region.shift_apply, C, S, Nat.add_comm 60 r] <;> ring_nf)

theorem vloop512 (r : Nat) (s04 s04_ : Region) (a0 a1 a2 : V8) (h : Bool) :
    pF ((Pos_hash_full_result_avx512_loop1 posMask8 r (s04, s04_, a0, a1, a2)).2.1 (bif h then 1 else 0))
       ((Pos_hash_full_result_avx512_loop1 posMask8 r (s04, s04_, a0, a1, a2)).2.2.1.half h)
       ((Pos_hash_full_result_avx512_loop1 posMask8 r (s04, s04_, a0, a1, a2)).2.2.2.1.half h)
       ((Pos_hash_full_result_avx512_loop1 posMask8 r (s04, s04_, a0, a1, a2)).2.2.2.2.half h) =
      partialRound r (pF (s04_ (bif h then 1 else 0)) (a0.half h) (a1.half h) (a2.half h)) := by
  have L := vloop512_lane r s04 s04_ a0 a1 a2 h
  refine pF_ext _ _ _ _ _ (vloop512_y r s04 s04_ a0 a1 a2 h) (fun i hi => ?_) (fun i => ?_) (fun i => ?_) <;>
    rw [half_get]
  · exact (L i).1 hi
  · exact (L i).2.1
  · exact (L i).2.2

theorem vloops512 (n : Nat) (s04 s04_ : Region) (a0 a1 a2 : V8) (h : Bool) :
    pF ((Loop.range 0 n 1 (s04, s04_, a0, a1, a2) (Pos_hash_full_result_avx512_loop1 posMask8)).2.1 (bif h then 1 else 0))
       ((Loop.range 0 n 1 (s04, s04_, a0, a1, a2) (Pos_hash_full_result_avx512_loop1 posMask8)).2.2.1.half h)
       ((Loop.range 0 n 1 (s04, s04_, a0, a1, a2) (Pos_hash_full_result_avx512_loop1 posMask8)).2.2.2.1.half h)
       ((Loop.range 0 n 1 (s04, s04_, a0, a1, a2) (Pos_hash_full_result_avx512_loop1 posMask8)).2.2.2.2.half h) =
      partialRounds n (pF (s04_ (bif h then 1 else 0)) (a0.half h) (a1.half h) (a2.half h)) := by
  refine Loop.range_inv (fun k (t : Region × Region × V8 × V8 × V8) =>
    pF (t.2.1 (bif h then 1 else 0)) (t.2.2.1.half h) (t.2.2.2.1.half h) (t.2.2.2.2.half h) =
      partialRounds k (pF (s04_ (bif h then 1 else 0)) (a0.half h) (a1.half h) (a2.half h))) _ n _ rfl ?_
  intro r t _ ih
  obtain ⟨t04, t04_, b0, b1, b2⟩ := t
  show pF _ _ _ _ = partialRound r (partialRounds r (pF (s04_ (bif h then 1 else 0)) (a0.half h) (a1.half h) (a2.half h)))
  rw [vloop512, ih]

theorem vF_reload512 (S t : Region) (a0 a1 a2 : V8) (h : Bool) :
    vF ((load_avx512 (Region.set (Region.set (store_avx512 S a0) 0 (t 0)) 4 (t 1))).half h) (a1.half h) (a2.half h) =
      pF (t (bif h then 1 else 0)) (a0.half h) (a1.half h) (a2.half h) := by
  have e : (load_avx512 (Region.set (Region.set (store_avx512 S a0) 0 (t 0)) 4 (t 1))).half h =
      ⟨t (bif h then 1 else 0), (a0.half h).l1, (a0.half h).l2, (a0.half h).l3⟩ := by
    cases h <;>
      simp only [load_avx512, Avx512.load, store_avx512, Avx512.store, Region.set_apply, Region.mk_apply, ↓reduceIte,
        Nat.reduceEqDiff, V8.half, V8.lo, V8.hi, cond_false, cond_true]
  rw [e]; rfl

theorem pF_spill512 (S : Region) (a0 a1 a2 : V8) (h : Bool) :
    pF ((Region.ofList [(store_avx512 S a0) 0, (store_avx512 S a0) 4]) (bif h then 1 else 0)) (a0.half h) (a1.half h)
      (a2.half h) =
      vF (a0.half h) (a1.half h) (a2.half h) := by
  cases h
  · exact congrArg (fun y => pF y a0.lo a1.lo a2.lo) (store512_at S a0).1.1
  · exact congrArg (fun y => pF y a0.hi a1.hi a2.hi) (store512_at S a0).2.1

theorem store512_lane (S : Region) (b : V8) (i : Fin 8) : (store_avx512 S b) i.val = b.get i := by
  match i with
  | 0 => rfl | 1 => rfl | 2 => rfl | 3 => rfl | 4 => rfl | 5 => rfl | 6 => rfl | 7 => rfl

theorem store512_frame (S : Region) (b : V8) (i : Nat) (hi : 8 ≤ i) : (store_avx512 S b) i = S i := by
  have d0 : i ≠ 0 := by omega
  have d1 : i ≠ 1 := by omega
  have d2 : i ≠ 2 := by omega
  have d3 : i ≠ 3 := by omega
  have d4 : i ≠ 4 := by omega
  have d5 : i ≠ 5 := by omega
  have d6 : i ≠ 6 := by omega
  have d7 : i ≠ 7 := by omega
  simp only [store_avx512, Avx512.store, Region.mk_apply, d0, d1, d2, d3, d4, d5, d6, d7, ↓reduceIte]

theorem stores512_den (S : Region) (b0 b1 b2 : V8) (h : Bool) :
    stH h (Region.unshift (Region.unshift (store_avx512 S b0) 8 (store_avx512 (Region.shift (store_avx512 S b0) 8) b1)) 16
      (store_avx512 (Region.shift (Region.unshift (store_avx512 S b0) 8 (store_avx512 (Region.shift (store_avx512 S b0) 8) b1)) 16) b2)) =
      vF (b0.half h) (b1.half h) (b2.half h) := by
  obtain ⟨h0, h1, h2, -⟩ := stores3_read 8 16 rfl store_avx512 V8.get store512_lane store512_frame S b0 b1 b2
  symm
  apply vF_ext_half <;> intro i
  · rw [(stH_at h _ i).1, h0]
  · rw [(stH_at h _ i).2.1, h1]
  · rw [(stH_at h _ i).2.2, h2]

theorem stores512_frame (S : Region) (b0 b1 b2 : V8) (i : Nat) (hi : 24 ≤ i) :
    (Region.unshift (Region.unshift (store_avx512 S b0) 8 (store_avx512 (Region.shift (store_avx512 S b0) 8) b1)) 16
      (store_avx512 (Region.shift (Region.unshift (store_avx512 S b0) 8 (store_avx512 (Region.shift (store_avx512 S b0) 8) b1)) 16) b2)) i =
      S i :=
  (stores3_read 8 16 rfl store_avx512 V8.get store512_lane store512_frame S b0 b1 b2).2.2.2 i hi

theorem stH_copyN (state input : Region) (h : Bool) : stH h (Region.copyN state input 24) = stH h input := by
  funext k
  have : 8 * (k.val / 4) + (if h then 4 else 0) + k.val % 4 < 24 := by have := k.isLt; split <;> omega
  simp only [stH, Region.copyN_apply, this, ↓reduceIte]

theorem avx512_spec (state input : Region) :
    (∀ h, stH h (Pos_hash_full_result_avx512 state input) = permutation (stH h input)) ∧
    ∀ i, 24 ≤ i → (Pos_hash_full_result_avx512 state input) i = state i := by
  refine ⟨fun h => ?_, fun i hi => ?_⟩
  · simp only [Pos_hash_full_result_avx512, stores512_den, vF512_mmult8_M, vF512_pow7,
      vF512_add_small_C _ _ _ 12 (by omega), vF512_add_small_C _ _ _ 24 (by omega), vF512_add_small_C _ _ _ 36 (by omega),
      vF512_add_small_C _ _ _ 82 (by omega), vF512_add_small_C _ _ _ 94 (by omega), vF512_add_small_C _ _ _ 106 (by omega),
      vF512_add_small_C0, vF512_add_C, vF512_mmult_P, vF_reload512, vloops512,
      pF_spill512, vF_load512, stH_copyN, permutation, fullRound]
  · have hlt : ¬ i < 24 := by omega
    have h0 : i ≠ 0 := by omega
    have h4 : i ≠ 4 := by omega
    simp only [Pos_hash_full_result_avx512, stores512_frame _ _ _ _ i hi, store512_frame _ _ i (by omega : 8 ≤ i),
      Region.set_apply, h0, h4, Region.copyN_apply, hlt, ↓reduceIte]

end GoldilocksVerif
