/-
  Bridge theorems for the conversions (property C15): the functions of Gen/ConvGen.lean — translated from
  goldilocks_base_field_tools.hpp on every run by the "mpz mode" of tools/tr_cxx.py — equal the hand model Model/Conv.lean.

  What stays modelled (externs of Model/TrMpz.lean): GMP's numeral parser (`Mpz.ofString` = `Model.parseInt`) and printer
  (`Mpz.getStr`, the digit loop `Model.toDigitsR`); `Mpz.getUi` / `Mpz.getSi` state what `mpz_get_ui` / `mpz_get_si` return.
-/
import GoldilocksVerif.Gen.ConvGen
import GoldilocksVerif.Lemmas.ConvF
set_option linter.unusedSimpArgs false
namespace GoldilocksVerif.BridgeConv
open GoldilocksVerif Gen.Scalar Gen.ConvGen Model

theorem getSi_of_fits (x : Int) (h : -9223372036854775808 ≤ x ∧ x < 9223372036854775808) :
    Mpz.getSi x = BitVec.ofInt 64 x := by
  unfold Mpz.getSi
  split_ifs with h1 h2
  · have e : x.natAbs % 18446744073709551616 % 9223372036854775808 = x.natAbs := by omega
    rw [e, ← BitVec.ofInt_natCast]
    congr 1; omega
  · obtain ⟨n, rfl⟩ : ∃ n : Nat, x = -(n : Int) := ⟨x.natAbs, by omega⟩
    have e : (n % 18446744073709551616 + 18446744073709551615) % 18446744073709551616 % 9223372036854775808 = n - 1 := by
      omega
    have e2 : (-1 - ((n - 1 : Nat) : Int)) = -(n : Int) := by omega
    rw [Int.natAbs_neg, Int.natAbs_natCast, e, e2]
  · have : x = 0 := by omega
    subst this; rfl

/-- `(int32_t)` of a `long`: truncation of the two's complement pattern -/
theorem setWidth32_ofInt64 (x : Int) : BitVec.setWidth 32 (BitVec.ofInt 64 x) = BitVec.ofInt 32 x := by
  apply BitVec.eq_of_toNat_eq
  rw [BitVec.toNat_setWidth, BitVec.toNat_ofInt, BitVec.toNat_ofInt]
  simp only [Nat.reducePow]
  omega

/-- the two arms of `fromS64` / `fromS32`, however the C++ spells them (`c ? x = a + p : x = a`, `x = a; if (c) x += p;`,
    either operand order of the wrapping addition, either polarity of the sign test): every `if` of both sides is split and
    each case is an identity, commutativity of `+`, or contradicts the sign of the argument.  (`with_reducible`: a FAILING
    unification of two sums with 2^64-sized literals runs into the recursion limit, which `first` cannot catch.) -/
macro "sign_arms" : tactic => `(tactic| (
  simp only [BitVec.msb_eq_toInt, decide_eq_true_eq] <;>
  (split_ifs <;> first
    | with_reducible rfl
    | with_reducible exact BitVec.add_comm _ _
    | (exfalso; omega))))

theorem fromS64_e_gen_eq (x : BitVec 64) : fromS64__ei x = Model.fromS64 x := by
  unfold fromS64__ei Model.fromS64
  sign_arms

theorem fromS64_r_gen_eq (x : BitVec 64) : fromS64__ri x = Model.fromS64 x := by
  unfold fromS64__ri
  exact fromS64_e_gen_eq x

theorem fromS32_e_gen_eq (x : BitVec 32) : fromS32__ei x = Model.fromS32 x := by
  unfold fromS32__ei Model.fromS32
  sign_arms

theorem fromS32_r_gen_eq (x : BitVec 32) : fromS32__ri x = Model.fromS32 x := by
  unfold fromS32__ri
  exact fromS32_e_gen_eq x

/-- the prime as an `mpz_class` built from the 64-bit constant (`const uint64_t prime = (uint64_t)GOLDILOCKS_PRIME`) -/
theorem ofU64_P : Mpz.ofU64 18446744069414584321#64 = (18446744069414584321 : Int) := by decide

theorem fromScalar_e_gen_eq (x : Int) : fromScalar__eZ x = Model.fromScalar x := by
  unfold fromScalar__eZ Model.fromScalar Mpz.getUi Model.getUi
  simp only [ofU64_P, P_int]

theorem fromScalar_r_gen_eq (x : Int) : fromScalar__rZ x = Model.fromScalar x := by
  unfold fromScalar__rZ
  exact fromScalar_e_gen_eq x

/-- `fuel` is not used (there is no loop); `none` is the `mpz_class` constructor throwing on a numeral it refuses. -/
theorem fromString_e_gen_eq (fuel : Nat) (s : String) (radix : Int) :
    fromString__eSi fuel s radix = Model.fromString s radix.toNat := by
  unfold fromString__eSi Model.fromString Mpz.ofString
  cases h : parseInt radix.toNat s with
  | none => rfl
  | some v =>
    show some (Mpz.getUi _) = some (Model.fromScalar v)
    unfold Model.fromScalar Mpz.getUi Model.getUi
    simp only [ofU64_P, P_int]

theorem fromString_r_gen_eq (fuel : Nat) (s : String) (radix : Int) :
    fromString__rSi fuel s radix = Model.fromString s radix.toNat := by
  unfold fromString__rSi
  rw [fromString_e_gen_eq]
  cases Model.fromString s radix.toNat <;> rfl

/-- `r` is what `result` held before the call; it is overwritten.  The proof splits every `if` of both sides and closes each
    case by linear arithmetic over the canonical value n < p, so it does not depend on how the source spells the thresholds. -/
theorem toS64_i_gen_eq (r a : BitVec 64) : toS64__iE r a = BitVec.ofInt 64 (Model.toS64 a) := by
  unfold toS64__iE Model.toS64 Mpz.ofU64
  have hlt : (toU64__rE a).toNat < 18446744069414584321 := toU64_r_lt a
  have hP : P = 18446744069414584321 := rfl
  simp only [P_half, hP, decide_eq_true_eq, Bool.not_eq_true', decide_eq_false_iff_not, Bool.and_eq_true, Bool.or_eq_true]
  generalize (toU64__rE a).toNat = n at hlt
  split_ifs <;> first
    | (exfalso; omega)
    | (rw [getSi_of_fits _ (by constructor <;> omega), ← BitVec.ofInt_neg]; congr 1; omega)
    | (rw [getSi_of_fits _ (by constructor <;> omega)])

theorem toS64_r_gen_eq (a : BitVec 64) : toS64__rE a = BitVec.ofInt 64 (Model.toS64 a) := by
  unfold toS64__rE
  exact toS64_i_gen_eq _ a

theorem toS64_fits (a : BitVec 64) : -9223372036854775808 ≤ Model.toS64 a ∧ Model.toS64 a < 9223372036854775808 := by
  have h := toS64_range a
  rw [P_half] at h
  omega

theorem toInt_ofInt_toS64 (a : BitVec 64) : (BitVec.ofInt 64 (Model.toS64 a)).toInt = Model.toS64 a :=
  BitVec.toInt_ofInt_eq_self (by decide) (toS64_fits a).1 (toS64_fits a).2

theorem toS64_i_gen_toInt (r a : BitVec 64) : (toS64__iE r a).toInt = Model.toS64 a := by
  rw [toS64_i_gen_eq, toInt_ofInt_toS64]

theorem toS64_r_gen_toInt (a : BitVec 64) : (toS64__rE a).toInt = Model.toS64 a := by
  rw [toS64_r_gen_eq, toInt_ofInt_toS64]

/-- `r` is what `result` held before the call: on failure the C++ leaves it alone. -/
theorem toS32_gen_eq (r : BitVec 32) (a : BitVec 64) :
    Gen.ConvGen.toS32 r a =
      if (Model.toS32 a).1 then (true, BitVec.ofInt 32 (Model.toS32 a).2) else (false, r) := by
  unfold Gen.ConvGen.toS32 Model.toS32 Mpz.ofU64
  have hlt : (toU64__rE a).toNat < 18446744069414584321 := toU64_r_lt a
  have hP : P = 18446744069414584321 := rfl
  simp only [hP, decide_eq_true_eq, Bool.not_eq_true', decide_eq_false_iff_not, Bool.and_eq_true, Bool.or_eq_true]
  generalize (toU64__rE a).toNat = n at hlt
  split_ifs <;> first
    | (exfalso; omega)
    | rfl
    | (exfalso; simp at *; done)
    | (rw [getSi_of_fits _ (by constructor <;> omega), ← BitVec.ofInt_neg, setWidth32_ofInt64]; congr 2; omega)
    | (rw [getSi_of_fits _ (by constructor <;> omega), setWidth32_ofInt64])

theorem toString_s_gen_eq (a : BitVec 64) (radix : Int) : toString__sEi a radix = Model.toStringR a radix.toNat := by
  unfold toString__sEi Model.toStringR Mpz.getStr Mpz.ofU64
  dsimp only
  have hlt : (toU64__rE a).toNat < 18446744073709551616 := (toU64__rE a).isLt
  generalize (toU64__rE a).toNat = n at hlt
  have c : ¬ ((n : Int) < 0) := by omega
  rw [if_neg c, Int.natAbs_natCast]
  have e : max 64 (n.log2 + 1) = 64 := by
    by_cases hn : n = 0
    · subst hn; decide
    · have : n.log2 < 64 := (Nat.log2_lt hn).mpr hlt
      omega
  rw [e]
  exact String.empty_append

theorem toString_r_gen_eq (a : BitVec 64) (radix : Int) : toString__rEi a radix = Model.toStringR a radix.toNat := by
  unfold toString__rEi
  exact toString_s_gen_eq a radix

end GoldilocksVerif.BridgeConv
