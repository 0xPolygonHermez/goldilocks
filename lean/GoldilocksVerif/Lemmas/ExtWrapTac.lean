/-
  Proof scripts for goals of the shapes the per-overload theorems of C16 have, by enumeration of the lanes / written words:

    ext_arr f    output = Element array            goal  Scatter3 W pos val c (f ..)   /  ScatterExact ..
    ext_vreg f   output = Element_avx (registers)  goal  PlanarV4 val c_ (f ..)        /  PlanarV8 ..
    ext_regs f   output = three register refs      goal  Planar4 val (f ..).1 (f ..).2.1 (f ..).2.2  /  Planar8 ..
    *_chal       the same under the challenge-sum hypothesis `h`

  Each script: unfold the translated body; normalise the gather / scatter code (`ext_norm`: loads, stores, local staging
  arrays, aliased kernel calls) to nested `Region.set`s / register expressions over the input words; peel the sequential
  writes (`WrittenBy.snoc`); for every written word push `den` through the kernels by one lemma per lane number
  (`den_v4add_l0` …) and close the resulting identity of K3 = F_p[x]/(x^3-x-1) coefficients with `ring`.

  The generated theorems of Props/C16Gen*.lean do not use these scripts: they are proved for a variable lane by the steps
  of Lemmas/ExtWrapL.lean (`ext_body`, `ext_lane4/8`, `ext_elems4`), which states the lane lemmas for a variable lane
  (`den_getN_add4` …) and not per lane number.
-/
import GoldilocksVerif.Lemmas.ExtWrapL
namespace GoldilocksVerif

macro "ext_norm" : tactic => `(tactic| try
  simp only [Gen.Avx2Mat.load_avx, Gen.Avx2Mat.store_avx, Gen.Avx512Mat.store_avx512, Gen.PosAvx512.load_avx512,
    Avx2.load, Avx2.store_eq, Avx512.load, Avx512.store_eq, writeSeq, V4.getN, V8.getN,
    Region.unshift_set, Region.unshift_shift, Region.shift_apply,
    Region.set_apply, Region.zero, Region.mk_apply, VRegion4.set_apply, VRegion8.set_apply,
    mult_al_eq, sub_al_eq, add_al_eq', mult512_al_eq, sub512_al_eq, add512_al_eq',
    BitVec.mul_lit_comm, BitVec.add_zero, Gen.Ext.copy__eE, Region.ofList_apply, List.getD_cons_zero, List.getD_cons_succ,
    ↓reduceIte, Nat.reduceEqDiff, Nat.reduceAdd, Nat.reduceMul])

macro "ext_val_only" : tactic => `(tactic|
  (simp only [Nat.reduceDiv, Nat.reduceMod, Nat.reduceMul, Nat.reduceAdd, K3.coef_zero, K3.coef_one, K3.coef_two,
    K3.add, K3.sub, K3.mul, K3.ofBase, ext3, base1, val1, regs4, regs8, vreg4, vreg8, reg4, reg8,
    posS_0, posS_1, posS_2, posA_0, posA_1, posA_2, posD, posC, V4.getN, V8.getN, ↓reduceIte, Nat.reduceEqDiff,
    BitVec.add_zero,
    den_add_r, den_sub_r, den_mul_r, den_neg_r', den_zero_r',
    den_v4add_l0, den_v4add_l1, den_v4add_l2, den_v4add_l3, den_v4sub_l0, den_v4sub_l1, den_v4sub_l2, den_v4sub_l3,
    den_v4mul_l0, den_v4mul_l1, den_v4mul_l2, den_v4mul_l3,
    den_v8add_l0, den_v8add_l1, den_v8add_l2, den_v8add_l3, den_v8add_l4, den_v8add_l5, den_v8add_l6, den_v8add_l7,
    den_v8sub_l0, den_v8sub_l1, den_v8sub_l2, den_v8sub_l3, den_v8sub_l4, den_v8sub_l5, den_v8sub_l6, den_v8sub_l7,
    den_v8mul_l0, den_v8mul_l1, den_v8mul_l2, den_v8mul_l3, den_v8mul_l4, den_v8mul_l5, den_v8mul_l6, den_v8mul_l7]))

macro "ext_val" : tactic => `(tactic| (ext_val_only; try ring))

macro "ext_arr " f:ident : tactic => `(tactic|
  (unfold Scatter3 $f
   ext_norm
   repeat (first | exact WrittenBy.nil _ | refine WrittenBy.snoc _ ?_ ?_)
   all_goals ext_val))


macro "ext_lanes" : tactic => `(tactic|
  (intro k hk
   interval_cases k <;> (apply K3.ext' <;> ext_val)))

macro "ext_regs " f:ident : tactic => `(tactic|
  (unfold $f
   simp only [Planar4, Planar8]
   ext_norm
   ext_lanes))

macro "ext_vreg " f:ident : tactic => `(tactic|
  (unfold $f
   simp only [PlanarV4, PlanarV8, Planar4, Planar8]
   ext_norm
   refine ⟨?_, ?_⟩
   · ext_lanes
   · intro j hj
     have h0 : j ≠ 0 := by omega
     have h1 : j ≠ 1 := by omega
     have h2 : j ≠ 2 := by omega
     simp only [h0, h1, h2, ↓reduceIte, if_false]))


macro "ext_exact" : tactic => `(tactic|
  (simp only [Nat.reduceDiv, Nat.reduceMod, Nat.reduceMul, Nat.reduceAdd, posD, word4, word8, V4.getN, V8.getN,
    ↓reduceIte, Nat.reduceEqDiff]))

/-- copies: the written words are the source words themselves -/
macro "ext_copy " f:ident : tactic => `(tactic|
  (unfold ScatterExact $f
   ext_norm
   repeat (first | exact WrittenBy.nil _ | refine WrittenBy.snoc _ ?_ ?_)
   all_goals (first | rfl | ext_exact)))

/-- `mul_batch(result, a, b, b_)`: `h : ChalSums (ext3 b posC 0) (den (b_ 0)) (den (b_ 1)) (den (b_ 2))` -/
macro "ext_arr_chal " f:ident h:ident : tactic => `(tactic|
  (unfold Scatter3 $f
   simp only [ChalSums, ext3, posC] at $h:ident
   obtain ⟨h0, h1, h2⟩ := $h
   ext_norm
   repeat (first | exact WrittenBy.nil _ | refine WrittenBy.snoc _ ?_ ?_)
   all_goals (ext_val_only; simp only [h0, h1, h2]; ring)))

/-- `mul_avx(c0_, c1_, c2_, a0_, a1_, a2_, b0_, b1_, b2_, aux0_, aux1_, aux2_)`:
    `h : ∀ k, k < 4 → ChalSums (regs4 b0_ b1_ b2_ k) (den (aux0_.getN k)) (den (aux1_.getN k)) (den (aux2_.getN k))` -/
macro "ext_regs_chal4 " f:ident h:ident : tactic => `(tactic|
  (unfold $f
   simp only [Planar4]
   have e0 := $h 0 (by decide)
   have e1 := $h 1 (by decide)
   have e2 := $h 2 (by decide)
   have e3 := $h 3 (by decide)
   simp only [ChalSums, regs4, V4.getN, ↓reduceIte, Nat.reduceEqDiff] at e0 e1 e2 e3
   ext_norm
   intro k hk
   interval_cases k <;> (apply K3.ext' <;>
     (ext_val_only; simp only [e0.1, e0.2.1, e0.2.2, e1.1, e1.2.1, e1.2.2, e2.1, e2.2.1, e2.2.2, e3.1, e3.2.1, e3.2.2]; ring))))

macro "ext_regs_chal8 " f:ident h:ident : tactic => `(tactic|
  (unfold $f
   simp only [Planar8]
   have e0 := $h 0 (by decide)
   have e1 := $h 1 (by decide)
   have e2 := $h 2 (by decide)
   have e3 := $h 3 (by decide)
   have e4 := $h 4 (by decide)
   have e5 := $h 5 (by decide)
   have e6 := $h 6 (by decide)
   have e7 := $h 7 (by decide)
   simp only [ChalSums, regs8, V8.getN, ↓reduceIte, Nat.reduceEqDiff] at e0 e1 e2 e3 e4 e5 e6 e7
   ext_norm
   intro k hk
   interval_cases k <;> (apply K3.ext' <;>
     (ext_val_only; simp only [e0.1, e0.2.1, e0.2.2, e1.1, e1.2.1, e1.2.2, e2.1, e2.2.1, e2.2.2, e3.1, e3.2.1, e3.2.2,
        e4.1, e4.2.1, e4.2.2, e5.1, e5.2.1, e5.2.2, e6.1, e6.2.1, e6.2.2, e7.1, e7.2.1, e7.2.2]; ring))))

end GoldilocksVerif
