/-
  L2, part 2: one stage of one batch (`stage`: the butterflies `i` act on the disjoint row pairs `loR U i`, `loR U i + U`, so each
  pair holds what its butterfly alone makes of the input), and all the stages of one pass on one batch (`batchStages`), which
  advance the partial transforms
  `S t lo hi` (abstract here: any family satisfying the butterfly recursion) from level `t` to level `t + c`,
  in the layout of the multi-pass algorithm:
    before the pass, row `b*B + x` of batch `b = hi*2^(d-t-c) + mid` holds `S t (mid*2^c + x) hi`,
    after its `c` stages it holds `S (t+c) mid (x*2^t + hi)`.
-/
import GoldilocksVerif.Lemmas.NttParBatch

namespace GoldilocksVerif.Model.Ntt
open GoldilocksVerif.NttSpec GoldilocksVerif.Par

theorem stage_spec (o : Obj) (a : Buf) (s si b B nc rs re rb rm M : Nat) (hB : B = M * (2 ^ si * 2))
    (hsz : (b + 1) * B * nc ≤ a.size) :
    (stage o a s si b B nc rs re rb rm).size = a.size ∧
    (∀ i k, i < M * 2 ^ si → k < nc →
      cell (stage o a s si b B nc rs re rb rm) nc (b * B + loR (2 ^ si) i) k
        = den (root o (s + si) (twIdx s si b B rs re rb i)) * cell a nc (b * B + loR (2 ^ si) i + 2 ^ si) k
          + cell a nc (b * B + loR (2 ^ si) i) k ∧
      cell (stage o a s si b B nc rs re rb rm) nc (b * B + loR (2 ^ si) i + 2 ^ si) k
        = cell a nc (b * B + loR (2 ^ si) i) k
          - den (root o (s + si) (twIdx s si b B rs re rb i)) * cell a nc (b * B + loR (2 ^ si) i + 2 ^ si) k) ∧
    (∀ r k, k < nc → (r < b * B ∨ (b + 1) * B ≤ r) →
      cell (stage o a s si b B nc rs re rb rm) nc r k = cell a nc r k) := by
  have hU0 : 0 < 2 ^ si := Nat.two_pow_pos si
  have hhalf : B / 2 = M * 2 ^ si := by rw [hB, ← Nat.mul_assoc]; exact Nat.mul_div_cancel _ (by omega)
  have hloc := stage_local o s si b B nc rs re rb rm M hB
  -- the butterflies act on disjoint pairs of rows: each pair holds what its butterfly alone makes of `a`
  obtain ⟨_, hat, _⟩ := LocalB.iter_at (n := B / 2) (fun i => stageStep_pair o s si b B nc rs re rb i)
    (fun i j _ _ hij => rowsW_disj (fun r hr hq => by
      have := pair_disj (2 ^ si) i j hU0 hij
      unfold pairRows at hr hq
      omega)) a
  have hst : stage o a s si b B nc rs re rb rm = iter (B / 2) a (stageStep o s si b B nc rs re rb) := rfl
  refine ⟨hloc.size a, fun i k hi hk => ?_, fun r k hk hr => ?_⟩
  · have hlt : loR (2 ^ si) i + 2 ^ si < B := by rw [hB]; exact hiR_lt _ M i hU0 hi
    have hrow : ∀ r, r < (b + 1) * B → (r + 1) * nc ≤ a.size := fun r hr => row_fits nc ((b + 1) * B) r _ hr hsz
    have hbB : (b + 1) * B = b * B + B := by rw [Nat.add_mul, Nat.one_mul]
    have hc := bfly_cell a (root o (s + si) (twIdx s si b B rs re rb i)) nc (b * B + loR (2 ^ si) i + 2 ^ si)
      (b * B + loR (2 ^ si) i) (by omega) (hrow _ (by omega)) (hrow _ (by omega))
    have e1 := hat i (by rw [hhalf]; exact hi) _ ((rowsW_cell hk).2 (Or.inr rfl))
    have e2 := hat i (by rw [hhalf]; exact hi) _ ((rowsW_cell hk).2 (Or.inl rfl))
    rw [← hst, stageStep_eq] at e1 e2
    have c1 := hc (b * B + loR (2 ^ si) i) k hk
    have c2 := hc (b * B + loR (2 ^ si) i + 2 ^ si) k hk
    rw [if_pos rfl] at c1
    rw [if_neg (by omega), if_pos rfl] at c2
    unfold cell at c1 c2 ⊢
    rw [e1, e2]
    exact ⟨c1, c2⟩
  · exact congrArg den (hloc.frame a _ (fun hx => by
      have := (rowsW_cell hk).1 hx
      unfold batchRows at this
      omega))


/-- the twiddle index of the model is the `hi` index of the level reached so far -/
theorem twIdx_eq (d t c u hi mid xh xl : Nat) (htc : t + c ≤ d) (huc : u < c) (hhi : hi < 2 ^ t)
    (hmid : mid < 2 ^ (d - t - c)) (hxh : xh < 2 ^ (c - 1 - u)) (hxl : xl < 2 ^ u) :
    twIdx (t + 1) u (hi * 2 ^ (d - t - c) + mid) (2 ^ c) t (d - 1) (2 ^ t) (xh * 2 ^ u + xl) = xl * 2 ^ t + hi := by
  unfold twIdx
  dsimp only
  have e1 : 2 ^ c = 2 ^ (c - 1 - u) * 2 ^ u * 2 := by rw [pow_half c u huc, Nat.mul_assoc]
  have e2 : 2 ^ (d - 1 - t) = 2 ^ (d - t - c) * (2 ^ (c - 1 - u) * 2 ^ u) := by
    rw [pow_split (d - t - c) (c - 1 - u + u) (d - 1 - t) (by omega), pow_split (c - 1 - u) u _ rfl]
  have e3 : 2 ^ (t + 1 + u) / 2 = 2 ^ t * 2 ^ u := by
    rw [pow_split (t + u) 1 (t + 1 + u) (by omega), pow_split t u _ rfl, Nat.pow_one]
    exact Nat.mul_div_cancel _ (by omega)
  rw [e1, e2, e3]
  generalize 2 ^ (d - t - c) = G at *
  generalize 2 ^ (c - 1 - u) = M at *
  generalize 2 ^ u = U at *
  generalize 2 ^ t = T at *
  have h1 : (hi * G + mid) * (M * U * 2) / 2 = (hi * G + mid) * (M * U) := by
    rw [← Nat.mul_assoc]; exact Nat.mul_div_cancel _ (by omega)
  rw [h1]
  have hL : mid * (M * U) + (xh * U + xl) < G * (M * U) := mr_lt _ _ _ _ hmid (mr_lt _ _ _ _ hxh hxl)
  have h2 : (hi * G + mid) * (M * U) + (xh * U + xl) = hi * (G * (M * U)) + (mid * (M * U) + (xh * U + xl)) := by ring
  rw [h2, mr_mod _ _ _ hL, mr_div _ _ _ hL]
  have h3 : (mid * (M * U) + (xh * U + xl)) * T + hi = (mid * M + xh) * (T * U) + (xl * T + hi) := by ring
  have h4 : xl * T + hi < T * U := by rw [Nat.mul_comm T U]; exact mr_lt _ _ _ _ hxl hhi
  rw [h3, mr_mod _ _ _ h4]

/-- what the main proof needs to know about the twiddle table of the object -/
def RootsOk (o : Obj) (d : Nat) : Prop :=
  ∀ dp idx, 1 ≤ dp → dp ≤ d → idx < 2 ^ dp → den (root o dp idx) = omega dp ^ idx

/-- a family of partial transforms closed under the butterfly recursion up to level `d` -/
def SRec (d : Nat) (S : Nat → Nat → Nat → Nat → F) : Prop :=
  ∀ t lo h k, t < d →
    S (t + 1) lo h k = S t (2 * lo) h k + omega (t + 1) ^ h * S t (2 * lo + 1) h k ∧
    S (t + 1) lo (2 ^ t + h) k = S t (2 * lo) h k - omega (t + 1) ^ h * S t (2 * lo + 1) h k

theorem RootsOk.tw {o : Obj} {d : Nat} (hR : RootsOk o d) (t u y hi : Nat) (htu : t + 1 + u ≤ d) (hy : y < 2 ^ u)
    (hhi : hi < 2 ^ t) : den (root o (t + 1 + u) (y * 2 ^ t + hi)) = omega (t + 1 + u) ^ (y * 2 ^ t + hi) := by
  apply hR _ _ (by omega) htu
  have : y * 2 ^ t + hi < 2 ^ u * 2 ^ t := mr_lt _ _ _ _ hy hhi
  rw [pow_split (u + t) 1 (t + 1 + u) (by omega), pow_split u t _ rfl, Nat.pow_one]
  omega

theorem batchStages_spec (o : Obj) (S : Nat → Nat → Nat → Nat → F) (d t c hi mid nc rm : Nat) (a : Buf)
    (hR : RootsOk o d) (hS : SRec d S) (htc : t + c ≤ d) (hhi : hi < 2 ^ t) (hmid : mid < 2 ^ (d - t - c))
    (hsz : (hi * 2 ^ (d - t - c) + mid + 1) * 2 ^ c * nc ≤ a.size)
    (hin : ∀ x k, x < 2 ^ c → k < nc →
      cell a nc ((hi * 2 ^ (d - t - c) + mid) * 2 ^ c + x) k = S t (mid * 2 ^ c + x) hi k) :
    (batchStages o a (t + 1) c (hi * 2 ^ (d - t - c) + mid) (2 ^ c) nc t (d - 1) (2 ^ t) rm).size = a.size ∧
    (∀ x k, x < 2 ^ c → k < nc →
      cell (batchStages o a (t + 1) c (hi * 2 ^ (d - t - c) + mid) (2 ^ c) nc t (d - 1) (2 ^ t) rm) nc
        ((hi * 2 ^ (d - t - c) + mid) * 2 ^ c + x) k = S (t + c) mid (x * 2 ^ t + hi) k) ∧
    (∀ r k, k < nc → (r < (hi * 2 ^ (d - t - c) + mid) * 2 ^ c ∨ (hi * 2 ^ (d - t - c) + mid + 1) * 2 ^ c ≤ r) →
      cell (batchStages o a (t + 1) c (hi * 2 ^ (d - t - c) + mid) (2 ^ c) nc t (d - 1) (2 ^ t) rm) nc r k
        = cell a nc r k) := by
  generalize hb : hi * 2 ^ (d - t - c) + mid = b at *
  -- invariant after `u` stages
  have key := iter_ind (fun u (A : Buf) => A.size = a.size ∧
      (∀ xh xl k, xh < 2 ^ (c - u) → xl < 2 ^ u → k < nc →
        cell A nc (b * 2 ^ c + (xh * 2 ^ u + xl)) k = S (t + u) (mid * 2 ^ (c - u) + xh) (xl * 2 ^ t + hi) k))
    c a (fun si a => stage o a (t + 1) si b (2 ^ c) nc t (d - 1) (2 ^ t) rm)
    ⟨rfl, fun xh xl k hxh hxl hk => by
      have : xl = 0 := by simpa using hxl
      subst this
      have := hin xh k (by simpa using hxh) hk
      simpa using this⟩
    (by
      intro u hu A ⟨ihs, ih2⟩
      obtain ⟨s1, s2, _⟩ := stage_spec o A (t + 1) u b (2 ^ c) nc t (d - 1) (2 ^ t) rm (2 ^ (c - 1 - u)) (pow_half c u (by omega))
        (by rw [ihs]; exact hsz)
      refine ⟨by rw [s1, ihs], ?_⟩
      · intro xh xl k hxh hxl hk
        -- split the new low part into its top bit `e` (which row of the pair) and the old low part `y`
        obtain ⟨e, y, he, hy, rfl⟩ : ∃ e y, e < 2 ∧ y < 2 ^ u ∧ xl = e * 2 ^ u + y :=
          ⟨xl / 2 ^ u, xl % 2 ^ u, Nat.div_lt_of_lt_mul (by rw [← Nat.pow_succ]; exact hxl), Nat.mod_lt _ (Nat.two_pow_pos u),
            (Nat.div_add_mod' xl (2 ^ u)).symm⟩
        have hxh' : xh < 2 ^ (c - 1 - u) := by
          have : c - (u + 1) = c - 1 - u := by omega
          rw [this] at hxh; exact hxh
        obtain ⟨p1, p2⟩ := s2 (xh * 2 ^ u + y) k (mr_lt _ _ _ _ hxh' hy) hk
        have hlo : loR (2 ^ u) (xh * 2 ^ u + y) = xh * (2 ^ u * 2) + y := by
          unfold loR; rw [mr_div _ _ _ hy, mr_mod _ _ _ hy]
        rw [hlo] at p1 p2
        have c2 := pow_pred c u (by omega)
        have q1 := ih2 (2 * xh) y k (by rw [c2]; omega) hy hk
        have q2 := ih2 (2 * xh + 1) y k (by rw [c2]; omega) hy hk
        have r1 : b * 2 ^ c + (2 * xh * 2 ^ u + y) = b * 2 ^ c + (xh * (2 ^ u * 2) + y) := by ring
        have r2 : b * 2 ^ c + ((2 * xh + 1) * 2 ^ u + y) = b * 2 ^ c + (xh * (2 ^ u * 2) + y) + 2 ^ u := by ring
        have l1 : mid * 2 ^ (c - u) + 2 * xh = 2 * (mid * 2 ^ (c - (u + 1)) + xh) := by rw [c2]; ring
        have l2 : mid * 2 ^ (c - u) + (2 * xh + 1) = 2 * (mid * 2 ^ (c - (u + 1)) + xh) + 1 := by rw [c2]; ring
        rw [r1, l1] at q1
        rw [r2, l2] at q2
        have htw := twIdx_eq d t c u hi mid xh y htc (by omega) hhi hmid hxh' hy
        rw [hb] at htw
        have hroot := hR.tw t u y hi (by omega) hy hhi
        rw [htw, hroot, q1, q2] at p1 p2
        obtain ⟨g1, g2⟩ := hS (t + u) (mid * 2 ^ (c - (u + 1)) + xh) (y * 2 ^ t + hi) k (by omega)
        have et : t + 1 + u = t + u + 1 := by omega
        rw [et] at p1 p2
        have et2 : t + (u + 1) = t + u + 1 := by omega
        rw [et2]
        obtain rfl | rfl : e = 0 ∨ e = 1 := by omega
        · -- top bit 0: the lower row
          have row : b * 2 ^ c + (xh * 2 ^ (u + 1) + (0 * 2 ^ u + y)) = b * 2 ^ c + (xh * (2 ^ u * 2) + y) := by
            rw [Nat.pow_succ]; omega
          rw [row, p1, Nat.zero_mul, Nat.zero_add, g1]
          ring
        · -- top bit 1: the upper row
          have row : b * 2 ^ c + (xh * 2 ^ (u + 1) + (1 * 2 ^ u + y)) = b * 2 ^ c + (xh * (2 ^ u * 2) + y) + 2 ^ u := by
            rw [Nat.pow_succ]; omega
          have hx : (1 * 2 ^ u + y) * 2 ^ t + hi = 2 ^ (t + u) + (y * 2 ^ t + hi) := by
            rw [pow_split t u _ rfl]; ring
          rw [row, p2, hx, g2]
)
  obtain ⟨k1, k2⟩ := key
  refine ⟨k1, fun x k hx hk => ?_, fun r k hk hr => ?_⟩
  · have := k2 0 x k (by simp) hx hk
    unfold batchStages
    simpa using this
  · -- the stages stay inside the rows of the batch
    exact congrArg den ((batchStages_local o (t + 1) c b nc t (d - 1) (2 ^ t) rm).frame a _ (fun hx => by
      have := (rowsW_cell hk).1 hx
      unfold batchRows at this
      omega))

end GoldilocksVerif.Model.Ntt
