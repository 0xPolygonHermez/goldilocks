/-
  Bridge: the TRANSLATED `Goldilocks::inv / div / exp` (Gen/InvGen.lean, regenerated from goldilocks_base_field.cpp /
  goldilocks_base_field_scalar.hpp on every run by the extended mode of tools/tr_cxx.py) equal the hand models of
  Model/Inv.lean once the fuel covers the loops (`invFuel` = 129 for inv / div, `expFuel` = 64 for exp).  Hence every
  C10 theorem about the hand models holds for the generated functions (Props/C10.lean, `C10_generated_*`).

  The proofs do not follow the generated text (see Lemmas/BridgeInvCore.lean): the state tuple of a generated loop is
  never written down; which component plays which role is found by search (`pick_proj`) and validated by the
  semantic one-step facts `EuclidSim` / `ExpSim`, proved from the unfolded step function by `simp` sets over
  `Nat` / `F` that are closed under commutativity.  What still has to hold textually: the names of the generated
  functions (`inv___eE`, `inv___eE_loop1`, …, i.e. the C++ signatures and "first loop of the function"), the zero
  test in front of the loop, and that the quotient is formed as `r / newr` on machine words.
-/
import GoldilocksVerif.Gen.InvGen
import GoldilocksVerif.Lemmas.BridgeInvCore
set_option linter.unusedTactic false
set_option linter.unreachableTactic false

namespace GoldilocksVerif
open Gen.Scalar Gen.InvGen Model

/-- `∀ s, Option.map Prod.fst (step s) = some (decide …)`: the flag of the step, whatever the form of the test -/
macro "step_flag " f:ident " with " "[" ls:term,* "]" : tactic => `(tactic| (
  intro s
  simp only [$f:ident, apply_ite (Option.map Prod.fst), Option.map_some]
  split <;> simp_all [zero_eq_bv, $[$ls:term],*]))

/-- `∀ s … s', step s = some (_, s') → Q s s'`: invert the step (s' becomes the tuple of next values) -/
macro "step_inv " f:ident : tactic => `(tactic| (
  intro h
  simp only [$f:ident] at h
  (repeat' split at h) <;>
    simp only [Option.some.injEq, Prod.mk.injEq, Bool.false_eq_true, Bool.true_eq_false, false_and, true_and] at h <;>
    (first | (obtain ⟨hb, hs⟩ := h; subst hb; subst hs) | subst h) <;> (try simp -proj only [fst_mk', snd_mk']) <;> gen_dealias))

/-- field value of a word computed with the scalar operations -/
macro "den_eval" : tactic => `(tactic| (
  simp only [sub_r_eq, mul_r_eq, add_r_eq, square_r_eq, square_e_eq, fromU64_eq, fromU64_e_eq, toU64_e_eq,
    den_toU64, den_sub, den_mul, den_add] <;> ring))

/-- the word is the result of `toU64` (either overload).  The overload is normalised by rewriting and the lemma applied up to
    reducible unfolding only: unifying `toU64__rE ?x` with `toU64__eE (sub__eEE …)` by unfolding runs through the asm blocks
    into the recursion limit (an error `first` cannot catch). -/
macro "canon_word" : tactic => `(tactic| ((try simp only [toU64_e_eq]); with_reducible exact toU64_r_lt _))

/-- a component of the literal start tuple / of the loop result is the expected value -/
macro "tuple_rfl" : tactic => `(tactic| first | (simp -proj only [fst_mk', snd_mk']; done) | rfl)

theorem inv_e_gen_eq (fuel : Nat) (hf : invFuel ≤ fuel) (a : BitVec 64) : inv___eE fuel a = Model.inv a := by
  unfold inv___eE Model.inv
  by_cases hz : isZero a = true
  · simp only [hz, if_true]
  · simp only [hz, Bool.false_eq_true, if_false]
    refine euclid_bind (step := inv___eE_loop1) (pt := ?pt) (pnt := ?pnt) (pr := ?pr) (pnr := ?pnr)
      ⟨?cond, ?stop, ?hr, ?hnr, ?ht, ?hnt⟩ _ a _ ?i_t ?i_r ?i_nt ?i_nr ?hk fuel hf
    pick_proj pt =>
      case i_t => tuple_rfl
      case hk => intro s; rfl
      pick_proj pnr =>
        case i_nr => tuple_rfl
        case cond => step_flag inv___eE_loop1 with []
        pick_proj pr =>
          case i_r => tuple_rfl
          case hr =>
            intro s s'; step_inv inv___eE_loop1
            simp only [fromU64_eq, fromU64_e_eq, toU64_e_eq, Model.toU64_r_toNat]
          case hnr => intro s s'; step_inv inv___eE_loop1; exact ⟨by canon_word, by den_eval⟩
          pick_proj pnt =>
            case i_nt => tuple_rfl
            case ht =>
              intro s s'; step_inv inv___eE_loop1
              simp only [fromU64_eq, fromU64_e_eq, toU64_e_eq, Model.toU64_r_toNat]
            case hnt => intro s s'; step_inv inv___eE_loop1; exact ⟨by canon_word, by den_eval⟩
            case stop => intro s s'; step_inv inv___eE_loop1

theorem inv_r_gen_eq (fuel : Nat) (hf : invFuel ≤ fuel) (a : BitVec 64) : inv___rE fuel a = Model.inv a := by
  unfold inv___rE
  rw [inv_e_gen_eq fuel hf]
  cases Model.inv a <;> rfl

theorem inv_e_gen_mono (f g : Nat) (hfg : f ≤ g) (a r : BitVec 64) (h : inv___eE f a = some r) :
    inv___eE g a = some r := by
  unfold inv___eE at h ⊢
  by_cases hz : isZero a = true
  · simp only [hz, if_true] at h; cases h
  · simp only [hz, Bool.false_eq_true, if_false] at h ⊢
    exact Loop.whileM_bind_mono _ _ f g _ r h hfg

/-- an overload of `div` that forms `mul(in1, inv(in2))` itself, through either overload of `inv` -/
macro "div_via_inv " f:ident " with " hr:term ", " he:term : tactic => `(tactic| (
  intro a b
  unfold $f:ident Model.div
  simp only [$hr:term, $he:term]
  cases Model.inv b with
  | none => rfl
  | some i => exact congrArg some (by mul_form)))

/-- an overload of `div` that forwards to the other one (`h`: that one is the hand model) -/
macro "div_wrap " f:ident " with " h:term : tactic => `(tactic| (
  intro a b
  unfold $f:ident
  simp only [$h:term]
  cases Model.div a b <;> rfl))

/-- generated `Goldilocks::div` (both overloads) = hand model.  Each overload may form the product itself or be a wrapper of the
    other one, in either direction (the library writes its value-returning overloads both ways). -/
theorem div_gen_eq (fuel : Nat) (hf : invFuel ≤ fuel) :
    (∀ a b : BitVec 64, div__eEE fuel a b = Model.div a b) ∧ (∀ a b : BitVec 64, div__rEE fuel a b = Model.div a b) := by
  have hr := inv_r_gen_eq fuel hf
  have he := inv_e_gen_eq fuel hf
  first
    | (have h1 : ∀ a b : BitVec 64, div__eEE fuel a b = Model.div a b := by div_via_inv div__eEE with hr, he
       refine ⟨h1, ?_⟩
       first | div_via_inv div__rEE with hr, he | div_wrap div__rEE with h1)
    | (have h2 : ∀ a b : BitVec 64, div__rEE fuel a b = Model.div a b := by div_via_inv div__rEE with hr, he
       refine ⟨?_, h2⟩
       div_wrap div__eEE with h2)

theorem div_r_gen_eq (fuel : Nat) (hf : invFuel ≤ fuel) (a b : BitVec 64) : div__rEE fuel a b = Model.div a b :=
  (div_gen_eq fuel hf).2 a b

theorem div_e_gen_eq (fuel : Nat) (hf : invFuel ≤ fuel) (a b : BitVec 64) : div__eEE fuel a b = Model.div a b :=
  (div_gen_eq fuel hf).1 a b

theorem exp_e_gen_eq (fuel : Nat) (hf : expFuel ≤ fuel) (b e : BitVec 64) : exp___eEE fuel b e = some (Model.exp b e) := by
  unfold exp___eEE
  dsimp only
  refine exp_bind (step := exp___eEE_loop1) (pres := ?pres) (pe := ?pe) (pbase := ?pbase)
    ⟨?cond, ?he, ?hres, ?hbase⟩ _ b e _ ?i_res ?i_e ?i_base ?hk fuel hf
  pick_proj pres =>
    case i_res => tuple_rfl
    case hk => intro s; rfl
    pick_proj pe =>
      case i_e => tuple_rfl
      case cond => step_flag exp___eEE_loop1 with [ushiftRight_one_eq_zero, udiv_two_eq_zero]
      case he => intro s b' s'; step_inv exp___eEE_loop1 <;> first | exact ushiftRight_one_toNat _ | exact udiv_two_toNat _
      pick_proj pbase =>
        case i_base => tuple_rfl
        case hbase => intro s s'; step_inv exp___eEE_loop1 <;> mul_form
        case hres =>
          -- the new accumulator, per branch of the generated text: the consistent branches are products in one of the
          -- accepted forms or the old value, the inconsistent ones contradict the parity of the exponent
          intro s b' s'
          step_inv exp___eEE_loop1 <;> split <;> first
            | mul_form
            | with_reducible rfl
            | (exfalso
               simp only [bne_iff_ne, ne_eq, beq_iff_eq, Bool.not_eq_true, Bool.not_eq_true', beq_eq_false_iff_ne,
                 bne_eq_false_iff_eq, not_not, and_one_eq_zero, and_one_eq_one] at *
               omega)

theorem exp_r_gen_eq (fuel : Nat) (hf : expFuel ≤ fuel) (b e : BitVec 64) : exp___rEE fuel b e = some (Model.exp b e) := by
  unfold exp___rEE
  rw [exp_e_gen_eq fuel hf]
  rfl

end GoldilocksVerif
