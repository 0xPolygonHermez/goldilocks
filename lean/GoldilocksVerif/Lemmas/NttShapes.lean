/-
  What the statements of Props/C03, C04, C05 and C19 share about a call on a constructed transform object: it exists for every
  maximum domain size up to 2^32 and serves every size within its maximum domain (hand model: `ObjOk`; bridge theorems:
  bounds on `s` and `extension`), in every cache state (`Built`); the destination buffer has the size of the transform, and the
  low-degree extension read as "there is an interpolant".
-/
import GoldilocksVerif.Lemmas.NttTop

namespace GoldilocksVerif.Model.Ntt
open GoldilocksVerif.NttSpec Finset

theorem mkObj_some_le (m e : Nat) (hm : m ≤ 2 ^ 32) : ∃ o, mkObj m e = some o := by
  apply mkObj_some
  by_cases h0 : m = 0
  · subst h0; decide
  · show Nat.log2 m ≤ 32
    have := (Nat.log2_lt h0 (k := 33)).mpr (by omega)
    omega

/-- a constructed object (extension 0 or 1) serves every size `2^d` up to its maximum domain size -/
theorem mkObj_ok_le (m e : Nat) (o : Obj) (h : mkObj m e = some o) (he : e ≤ 1) (d : Nat) (hn : 2 ^ d ≤ m) : ObjOk o d := by
  have hm : m ≠ 0 := by have := Nat.two_pow_pos d; omega
  exact (mkObj_ok m e o hm he h).mono ((Nat.le_log2 hm).mpr hn)

/-- what the bridge theorems ask of the object: the size is within the root table, the table within 2^32, a small extension -/
theorem mkObj_bounds (m e : Nat) (o : Obj) (h : mkObj m e = some o) (he : e ≤ 1) (d : Nat) (hn : 2 ^ d ≤ m) :
    d ≤ o.s ∧ o.s ≤ 32 ∧ o.extension < 2 ^ 31 := by
  have hm : m ≠ 0 := by have := Nat.two_pow_pos d; omega
  obtain ⟨h1, h2, h3⟩ := mkObj_s_val m e o hm h
  have hd : d ≤ log2 m := (Nat.le_log2 hm).mpr hn
  exact ⟨by omega, h2, by omega⟩

/-- `o` is a state an object built for `m` points can be in (the tables of `mkObj m e`, the cache absent or valid, as any
    history of `extendPol` calls leaves it), and a transform of `2^d` points is within its domain -/
structure Built (m e : Nat) (o : Obj) (d : Nat) : Prop where
  base : mkObj m e = some o.base
  wf : o.wf
  ext : e ≤ 1
  dom : 2 ^ d ≤ m

theorem Built.ok {m e d : Nat} {o : Obj} (h : Built m e o d) : ObjOk o d := by
  have ho : setCache o.base o.rcache = o := by cases o; rfl
  have := (mkObj_ok_le m e o.base h.base h.ext d h.dom).setCache o.rcache (by rw [ho]; exact h.wf)
  rw [ho] at this
  exact this

theorem Built.bounds {m e d : Nat} {o : Obj} (h : Built m e o d) : d ≤ o.s ∧ o.s ≤ 32 ∧ o.extension < 2 ^ 31 :=
  mkObj_bounds m e o.base h.base h.ext d h.dom

theorem dst_size (mode : DstMode) (dstB srcB : Buf) (n : Nat) (hsrc : srcB.size = n) (hdst : mode = .other → dstB.size = n) :
    (if mode = .other then dstB else srcB).size = n := by
  by_cases h : mode = .other
  · rw [if_pos h]; exact hdst h
  · rw [if_neg h]; exact hsrc

theorem ntt_forward_mk (m e : Nat) (o : Obj) (hobj : mkObj m e = some o) (he : e ≤ 1) (d : Nat) (hn : 2 ^ d ≤ m)
    (ncols nphase nblock : Nat) (hnc : 1 ≤ ncols) (mode : DstMode) (dstB srcB : Buf)
    (hsrc : srcB.size = 2 ^ d * ncols) (hdst : mode = .other → dstB.size = 2 ^ d * ncols) :
    ∃ out, ntt o mode dstB srcB (2 ^ d) ncols nphase nblock false false = .ok (out, if mode = .other then srcB else out) ∧
      out.size = 2 ^ d * ncols ∧
      ∀ k c, k < 2 ^ d → c < ncols → cell out ncols k c = dft (omega d) (2 ^ d) (fun j => cell srcB ncols j c) k := by
  have hsz := dst_size mode dstB srcB _ hsrc hdst
  obtain ⟨out, e, s, c⟩ := ntt_forward o d (mkObj_ok_le m e o hobj he d hn) mode dstB srcB d ncols nphase nblock
    (Nat.le_refl _) hnc (by rw [hsz])
  exact ⟨out, e, by rw [s, hsz], c⟩

theorem intt_inverse_mk (m e : Nat) (o : Obj) (hobj : mkObj m e = some o) (he : e ≤ 1) (d : Nat) (hn : 2 ^ d ≤ m)
    (ncols nphase nblock : Nat) (hnc : 1 ≤ ncols) (mode : DstMode) (dstB srcB : Buf)
    (hsrc : srcB.size = 2 ^ d * ncols) (hdst : mode = .other → dstB.size = 2 ^ d * ncols) :
    ∃ out, intt o mode dstB srcB (2 ^ d) ncols nphase nblock false = .ok (out, if mode = .other then srcB else out) ∧
      out.size = 2 ^ d * ncols ∧
      ∀ k c, k < 2 ^ d → c < ncols → cell out ncols k c = idft (omega d) (2 ^ d) (fun j => cell srcB ncols j c) k := by
  have hsz := dst_size mode dstB srcB _ hsrc hdst
  obtain ⟨out, e, s, c⟩ := intt_inverse o d (mkObj_ok_le m e o hobj he d hn) mode dstB srcB d ncols nphase nblock
    (Nat.le_refl _) hnc (by rw [hsz])
  exact ⟨out, e, by rw [s, hsz], c⟩

/-- a buffer whose columns are `lde 7 ω_dn ω_de` of the columns of `inB` holds, column by column, the values on the coset
    `7·ω_de^k` of a polynomial of degree `< 2^dn` that interpolates the input column on the `2^dn`-th roots of unity: its
    coefficient vector is the inverse DFT of the column -/
theorem lde_interpolant (dn de : Nat) (hdn : dn ≤ 32) (inB out : Buf) (nc : Nat)
    (h : ∀ k c, k < 2 ^ de → c < nc →
      cell out nc k c = lde 7 (omega dn) (omega de) (2 ^ dn) (fun j => cell inB nc j c) k) :
    ∀ c, c < nc → ∃ f : Nat → F,
      (∀ j, j < 2 ^ dn → ∑ i ∈ range (2 ^ dn), f i * (omega dn ^ j) ^ i = den (inB.getD (j * nc + c) 0#64)) ∧
      (∀ k, k < 2 ^ de → den (out.getD (k * nc + c) 0#64) = ∑ i ∈ range (2 ^ dn), f i * (7 * omega de ^ k) ^ i) :=
  fun c hc => ⟨idft (omega dn) (2 ^ dn) (fun j => cell inB nc j c),
    (lde_welldef (omega_prim dn hdn) (two_pow_ne_zero dn) (fun j => cell inB nc j c) _).mpr (fun _ _ => rfl),
    fun k hk => h k c hk hc⟩

end GoldilocksVerif.Model.Ntt
