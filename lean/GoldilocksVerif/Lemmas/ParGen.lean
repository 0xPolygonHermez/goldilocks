/-
  Order independence for the GENERATED (translated) parallel loops, generic part.

  The translator renders `#pragma omp parallel for  for (i = 0; i < n; i++) body` as
  `Loop.rangeM 0 n 1 s (body …)`, where `body … : Nat → σ → Option σ` is the lifted loop body (`none` = the body ended
  the process or an inner loop ran out of fuel).  `inOrder body l` runs that SAME lifted body over the index list `l`;
  the generated loop is `inOrder body (List.range n)` with no hypothesis.  A body that keeps to a representation
  `R : τ → σ` (what the per-iteration bridge lemmas of Lemmas/Bridge*.lean state) runs as the fold of the represented
  body, so order independence of the represented bodies transfers to the generated ones (`inOrder_any_order`);
  `foldl_rep` is the same transfer for a total step, as the chunk actions of `parcpy` / `parSetZero` are.
-/
import GoldilocksVerif.Lemmas.HeapL
import Mathlib.Data.List.Perm.Basic

namespace GoldilocksVerif.ParGen

def inOrder {σ : Type} (body : Nat → σ → Option σ) (l : List Nat) (s : σ) : Option σ :=
  l.foldlM (fun s i => body i s) s

theorem inOrder_nil {σ : Type} (body : Nat → σ → Option σ) (s : σ) : inOrder body [] s = some s := rfl

theorem inOrder_cons {σ : Type} (body : Nat → σ → Option σ) (i : Nat) (l : List Nat) (s : σ) :
    inOrder body (i :: l) s = (body i s).bind (inOrder body l) := by
  unfold inOrder
  rw [List.foldlM_cons]
  rfl

theorem inOrder_append {σ : Type} (body : Nat → σ → Option σ) (l l' : List Nat) (s : σ) :
    inOrder body (l ++ l') s = (inOrder body l s).bind (inOrder body l') := by
  induction l generalizing s with
  | nil => rfl
  | cons i l ih =>
    rw [List.cons_append, inOrder_cons, inOrder_cons]
    cases body i s with
    | none => rfl
    | some s' => exact ih s'

theorem rangeMAux_eq_inOrder {σ : Type} (body : Nat → σ → Option σ) :
    ∀ (n i : Nat) (s : σ), Loop.rangeMAux 1 body n i s = inOrder body (List.range' i n) s := by
  intro n
  induction n with
  | zero => intro i s; rfl
  | succ n ih =>
    intro i s
    rw [Loop.rangeMAux_succ, List.range'_succ, inOrder_cons]
    congr 1
    funext s'
    exact ih (i + 1) s'

theorem rangeM_eq_inOrder {σ : Type} (body : Nat → σ → Option σ) (n : Nat) (s : σ) :
    Loop.rangeM 0 n 1 s body = inOrder body (List.range n) s := by
  rw [Loop.rangeM_step_one, rangeMAux_eq_inOrder, List.range_eq_range']
  rfl

theorem foldl_rep {σ τ : Type} (R : τ → σ) (f : Nat → τ → τ) (g : σ → Nat → σ) (l : List Nat)
    (hg : ∀ i t, g (R t) i = R (f i t)) (t : τ) : l.foldl g (R t) = R (l.foldl (fun t i => f i t) t) := by
  induction l generalizing t with
  | nil => rfl
  | cons i l ih => rw [List.foldl_cons, hg, ih]; rfl

theorem inOrder_rep {σ τ : Type} (R : τ → σ) (f : Nat → τ → τ) (body : Nat → σ → Option σ) (l : List Nat)
    (hbody : ∀ i ∈ l, ∀ t, body i (R t) = some (R (f i t))) (t : τ) :
    inOrder body l (R t) = some (R (l.foldl (fun t i => f i t) t)) := by
  induction l generalizing t with
  | nil => rfl
  | cons i l ih =>
    rw [inOrder_cons, hbody i List.mem_cons_self t]
    exact ih (fun j hj => hbody j (List.mem_cons_of_mem _ hj)) (f i t)

/-- The second conjunct (the generated loop returns) keeps the first from being `none = none`. -/
theorem inOrder_any_order {σ τ : Type} (R : τ → σ) (f : Nat → τ → τ) (body : Nat → σ → Option σ) (n : Nat)
    (hbody : ∀ i, i < n → ∀ t, body i (R t) = some (R (f i t)))
    (hord : ∀ (l : List Nat), l.Perm (List.range n) → ∀ t, l.foldl (fun t i => f i t) t = (List.range n).foldl (fun t i => f i t) t)
    (l : List Nat) (hp : l.Perm (List.range n)) (t : τ) :
    inOrder body l (R t) = Loop.rangeM 0 n 1 (R t) body ∧ ∃ r, Loop.rangeM 0 n 1 (R t) body = some r := by
  rw [rangeM_eq_inOrder,
    inOrder_rep R f body l (fun i hi => hbody i (List.mem_range.1 ((hp.mem_iff).1 hi))) t,
    inOrder_rep R f body (List.range n) (fun i hi => hbody i (List.mem_range.1 hi)) t, hord l hp t]
  exact ⟨rfl, _, rfl⟩

end GoldilocksVerif.ParGen
