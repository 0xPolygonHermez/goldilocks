/-
  Footprints of the bodies of the row loops of the model: block scatter (`scatterBlock`, ntt_goldilocks.cpp:219) and
  the four loops of `reversePermutation` (out of place :254/:267, in place :289/:311).  The bodies are named here
  (`scatterBody`, `revOutBody`, `revInBody`) and shown to be the bodies of the model's loops (`*_eq`).
-/
import GoldilocksVerif.Lemmas.NttPar
import GoldilocksVerif.Lemmas.NttBr

namespace GoldilocksVerif.Model.Ntt
open GoldilocksVerif.Par

/-- body of the scatter loop: `memcpy(&dst[ie*ncols + offset_cols], &dst_[ie*aux_ncols], aux_ncols)` -/
def scatterBody (ncols oc aux : Nat) (ie : Nat) (d dst : Buf) : Buf :=
  copyRow dst (ie * ncols + oc) d (ie * aux) aux

theorem scatterBlock_eq (dst d : Buf) (size ncols oc aux : Nat) :
    scatterBlock dst d size ncols oc aux = iter size dst (fun ie dst => scatterBody ncols oc aux ie d dst) := rfl

theorem scatterBody_writer (ncols oc aux ie : Nat) :
    Writer (scatterBody ncols oc aux ie) (fun j => ie * aux ≤ j ∧ j < ie * aux + aux)
      (fun j => ie * ncols + oc ≤ j ∧ j < ie * ncols + oc + aux) :=
  copyRow_writer (ie * ncols + oc) (ie * aux) aux

/-- state `(dst_, dst)` -/
def scatterIter (ncols oc aux ie : Nat) : PIter view2 :=
  PIter.ofWriter (scatterBody ncols oc aux ie) _ _ (scatterBody_writer ncols oc aux ie)

/-- body of the two out-of-place loops (`extension ≤ 1`: plain; otherwise zero-extending) -/
def revOutBody (o : Obj) (size oc nc nca : Nat) (i : Nat) (src d : Buf) : Buf :=
  if o.extension ≤ 1 then copyRow d (i * nc) src (br i (log2 size) * nca + oc) nc
  else if br i (log2 size) * nca + oc < size / o.extension * nca then
    copyRow d (i * nc) src (br i (log2 size) * nca + oc) nc
  else zeroRow d (i * nc) nc

theorem reversePermutation_out_eq (o : Obj) (dst src : Buf) (size oc nc nca : Nat) :
    reversePermutation o dst src false size oc nc nca
      = .ok (iter size dst (fun i d => revOutBody o size oc nc nca i src d)) := by
  unfold reversePermutation revOutBody
  simp only [Bool.not_false, if_true]
  by_cases hext : o.extension ≤ 1
  · simp only [if_pos hext]
  · simp only [if_neg hext]

theorem revOutBody_writer (o : Obj) (size oc nc nca i : Nat) :
    Writer (revOutBody o size oc nc nca i)
      (fun j => br i (log2 size) * nca + oc ≤ j ∧ j < br i (log2 size) * nca + oc + nc)
      (fun j => i * nc ≤ j ∧ j < i * nc + nc) := by
  unfold revOutBody
  exact Writer.ite _ (copyRow_writer _ _ _) (Writer.ite _ (copyRow_writer _ _ _) (zeroRow_writer _ _ _))

/-- state `(src, dst)` -/
def revOutIter (o : Obj) (size oc nc nca i : Nat) : PIter view2 :=
  PIter.ofWriter (revOutBody o size oc nc nca i) _ _ (revOutBody_writer o size oc nc nca i)

/-- the swap of rows `r` and `i` through a temporary row, with virtual reads -/
def swapStep (nIn nc : Nat) (d : Buf) (r i : Nat) : Buf :=
  let tmp := if r < nIn then copyRow (Array.replicate nc 0#64) 0 d (r * nc) nc else Array.replicate nc 0#64
  let d1 := if i < nIn then copyRow d (r * nc) d (i * nc) nc else zeroRow d (r * nc) nc
  copyRow d1 (i * nc) tmp 0 nc

/-- body of the two in-place loops -/
def revInBody (o : Obj) (size nc : Nat) (i : Nat) (d : Buf) : Buf :=
  if o.extension ≤ 1 then
    if br i (log2 size) < i then
      copyRow (copyRow d (br i (log2 size) * nc) d (i * nc) nc) (i * nc)
        (copyRow (Array.replicate nc 0#64) 0 d (br i (log2 size) * nc) nc) 0 nc
    else d
  else
    if br i (log2 size) < i then swapStep (size / o.extension) nc d (br i (log2 size)) i
    else if br i (log2 size) = i ∧ size / o.extension ≤ i then zeroRow d (i * nc) nc
    else d

theorem reversePermutation_in_eq (o : Obj) (dst src : Buf) (size nc : Nat) :
    reversePermutation o dst src true size 0 nc nc = .ok (iter size src (revInBody o size nc)) := by
  unfold reversePermutation revInBody swapStep
  simp only [Bool.not_true, Bool.false_eq_true, if_false, and_self, decide_true]
  by_cases hext : o.extension ≤ 1
  · simp only [if_pos hext]
  · simp only [if_neg hext]

theorem reversePermutation_in_assert (o : Obj) (dst src : Buf) (size oc nc nca : Nat) (h : ¬ (oc = 0 ∧ nc = nca)) :
    reversePermutation o dst src true size oc nc nca = .error "assert(offset_cols == 0 && ncols == ncols_all)" := by
  unfold reversePermutation
  simp only [Bool.not_true, Bool.false_eq_true, if_false]
  have hc : (!decide (oc = 0 ∧ nc = nca)) = true := by rw [decide_eq_false h]; rfl
  rw [if_pos hc]

theorem swapStep_local (nIn nc r i : Nat) :
    LocalB (fun d => swapStep nIn nc d r i) (rowsW nc (fun p => p = i ∨ p = r)) := by
  have hi : ∀ j, i * nc ≤ j ∧ j < i * nc + nc → rowsW nc (fun p => p = i ∨ p = r) j := fun j hj => ⟨i, Or.inl rfl, hj.1, hj.2⟩
  have hr : ∀ j, r * nc ≤ j ∧ j < r * nc + nc → rowsW nc (fun p => p = i ∨ p = r) j := fun j hj => ⟨r, Or.inr rfl, hj.1, hj.2⟩
  -- row `r` becomes row `i` (or zero) …
  have h1 : LocalB (fun d => if i < nIn then copyRow d (r * nc) d (i * nc) nc else zeroRow d (r * nc) nc)
      (rowsW nc (fun p => p = i ∨ p = r)) :=
    LocalB.ite _ ((LocalB.id _).thenWriter (copyRow_writer (r * nc) (i * nc) nc) hi hr)
      ((LocalB.id _).thenWriter (zeroRow_writer (fun _ => False) (r * nc) nc) (fun _ h => h.elim) hr)
  -- … then row `i` becomes the saved row `r` of the original buffer
  exact h1.thenWriter (fill_writer (fun j => r * nc ≤ j ∧ j < r * nc + nc) (i * nc) nc
    (fun s k => (if r < nIn then copyRow (Array.replicate nc 0#64) 0 s (r * nc) nc else Array.replicate nc 0#64).getD (0 + k) 0#64)
    (by
      intro s s' hag k hk
      by_cases hrn : r < nIn
      · simp only [if_pos hrn]
        rw [copyRow_getD, copyRow_getD, Array.size_replicate, if_pos (by omega), if_pos (by omega)]
        exact hag _ ⟨by omega, by omega⟩
      · simp only [if_neg hrn])) hr hi

theorem swapStep_size (nIn nc : Nat) (d : Buf) (r i : Nat) : (swapStep nIn nc d r i).size = d.size :=
  (swapStep_local nIn nc r i).size d

/-- the rows iteration `i` of an in-place loop touches: `i` and `r = BR(i)` when `r < i`, `i` when `r = i` -/
def swapRows (r i : Nat) : Nat → Prop := fun p => (r < i ∧ (p = i ∨ p = r)) ∨ (r = i ∧ p = i)

theorem revInBody_localB (o : Obj) (size nc i : Nat) :
    LocalB (revInBody o size nc i) (rowsW nc (swapRows (br i (log2 size)) i)) := by
  generalize hr : br i (log2 size) = r
  have e : revInBody o size nc i = fun d =>
      if o.extension ≤ 1 then (if r < i then swapStep (r + i + 1) nc d r i else d)
      else (if r < i then swapStep (size / o.extension) nc d r i
        else if r = i ∧ size / o.extension ≤ i then (fun d => zeroRow d (i * nc) nc) d else d) := by
    funext d
    unfold revInBody swapStep
    simp only [hr]
    rw [if_pos (show r < r + i + 1 by omega), if_pos (show i < r + i + 1 by omega)]
  rw [e]
  have hsw : ∀ nIn, r < i → LocalB (fun d => swapStep nIn nc d r i) (rowsW nc (swapRows r i)) := by
    intro nIn hri
    apply (swapStep_local nIn nc r i).mono
    rintro j ⟨p, hp, h1, h2⟩
    exact ⟨p, Or.inl ⟨hri, hp⟩, h1, h2⟩
  apply LocalB.ite
  · by_cases hri : r < i
    · simp only [if_pos hri]; exact hsw _ hri
    · simp only [if_neg hri]; exact LocalB.id _
  · by_cases hri : r < i
    · simp only [if_pos hri]; exact hsw _ hri
    · simp only [if_neg hri]
      by_cases hz : r = i ∧ size / o.extension ≤ i
      · simp only [if_pos hz]
        exact (LocalB.id _).thenWriter (zeroRow_writer (fun _ => False) (i * nc) nc) (fun _ h => h.elim)
          (fun j hj => ⟨i, Or.inr ⟨hz.1, rfl⟩, hj.1, hj.2⟩)
      · simp only [if_neg hz]; exact LocalB.id _

theorem revInBody_local (o : Obj) (size nc i : Nat) :
    Local (revInBody o size nc i) (rowsW nc (swapRows (br i (log2 size)) i)) :=
  (revInBody_localB o size nc i).toLocal

/-- the pair `{i, bitrev i}` is touched by its LARGER member only (by `i` itself when `bitrev i = i`): `bitrev` is an involution -/
theorem swapRows_disjoint (d i i' : Nat) (hi : i < 2 ^ d) (hi' : i' < 2 ^ d) (hne : i ≠ i') (p : Nat) :
    ¬ (swapRows (bitrev d i) i p ∧ swapRows (bitrev d i') i' p) := by
  have bb := bitrev_bitrev d i hi
  have bb' := bitrev_bitrev d i' hi'
  rintro ⟨⟨hlt, rfl | rfl⟩ | ⟨heq, rfl⟩, h2⟩
  · rcases h2 with ⟨hlt', e | e⟩ | ⟨heq', e⟩
    · exact hne e
    · rw [e, bb'] at hlt; rw [← e] at hlt'; omega
    · exact hne e
  · rcases h2 with ⟨hlt', e | e⟩ | ⟨heq', e⟩
    · rw [← e, bb] at hlt'; rw [e] at hlt; omega
    · exact hne (bitrev_inj d i i' hi hi' e)
    · rw [← e, bb] at heq'; rw [heq'] at hlt; omega
  · rcases h2 with ⟨hlt', e | e⟩ | ⟨heq', e⟩
    · exact hne e
    · rw [e, bb'] at heq; rw [← heq] at hlt'; omega
    · exact hne e

/-! ### the three row loops in any order -/

/-- `oc + aux ≤ ncols`: the column block lies inside a row of `dst` (without it two iterations could write the same word) -/
theorem scatterBody_any_order (d : Buf) (size ncols oc aux : Nat) (hoc : oc + aux ≤ ncols) (l : List Nat)
    (hl : l.Perm (List.range size)) (dst : Buf) :
    l.foldl (fun dst ie => scatterBody ncols oc aux ie d dst) dst
      = (List.range size).foldl (fun dst ie => scatterBody ncols oc aux ie d dst) dst :=
  writers_any_order (fun ie => scatterBody ncols oc aux ie) _ _ (fun ie => scatterBody_writer ncols oc aux ie) _ _ hl
    (fun i _ i' _ hne x h h' => hne (row_unique ncols i i' x (by omega) (by omega) (by omega) (by omega))) d dst

theorem revOutBody_any_order (o : Obj) (src : Buf) (size oc nc nca : Nat) (l : List Nat) (hl : l.Perm (List.range size)) (t : Buf) :
    l.foldl (fun d i => revOutBody o size oc nc nca i src d) t
      = (List.range size).foldl (fun d i => revOutBody o size oc nc nca i src d) t :=
  writers_any_order (fun i => revOutBody o size oc nc nca i) _ _ (fun i => revOutBody_writer o size oc nc nca i) _ _ hl
    (fun i _ i' _ hne x h h' => hne (row_unique nc i i' x h.1 h.2 h'.1 h'.2)) src t

/-- `2^d` rows, `d ≤ 32`: the loop's `BR` is `bitrev` (`br_eq_bitrev`) -/
theorem revInBody_any_order (o : Obj) (d nc : Nat) (hd : d ≤ 32) (l : List Nat) (hl : l.Perm (List.range (2 ^ d))) (t : Buf) :
    l.foldl (fun a i => revInBody o (2 ^ d) nc i a) t = (List.range (2 ^ d)).foldl (fun a i => revInBody o (2 ^ d) nc i a) t := by
  refine locals_any_order (fun i => revInBody o (2 ^ d) nc i) _ (fun i => revInBody_local o (2 ^ d) nc i) _ _ hl ?_ t
  intro i hi i' hi' hne
  have hi := List.mem_range.1 ((hl.mem_iff).1 hi)
  have hi' := List.mem_range.1 ((hl.mem_iff).1 hi')
  show ∀ x, rowsW nc (swapRows (br i (log2 (2 ^ d))) i) x → ¬ rowsW nc (swapRows (br i' (log2 (2 ^ d))) i') x
  rw [show log2 (2 ^ d) = d from Nat.log2_two_pow, br_eq_bitrev d i hd hi, br_eq_bitrev d i' hd hi']
  exact rowsW_disj (fun r hr hr' => swapRows_disjoint d i i' hi hi' hne r ⟨hr, hr'⟩)

def revInIter (o : Obj) (size nc i : Nat) : PIter view1 :=
  PIter.ofLocal (revInBody o size nc i) _ (revInBody_local o size nc i)

end GoldilocksVerif.Model.Ntt
