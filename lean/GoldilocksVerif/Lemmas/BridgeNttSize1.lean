/-
  Bridge theorem: the TRANSLATED `NTT_Goldilocks::NTT_iters` (Gen/NttGen.lean) for SIZE 1 — `domainPow = 0`, the clamp gives one
  phase, the bit reversal copies the row into `aux`, the pass loop is not entered, `a != dst_`, `size > 1` is false, and the row is
  copied to the destination by `Goldilocks::parcpy(dst_, a, size * ncols, nThreads)` — against the hand model's `nttIters`; then
  `nttIters_gen_all`: all sizes `1 ≤ 2^K ≤ 2^30`.

  FUEL.  `parcpy` is a chunk loop of `⌈ncols / chunk⌉ ≤ min(ncols, max(1, (int) nThreads))` iterations, a `while` loop of the
  generated model: size 1 needs `fuel ≥ parFuel ncols ((int) nThreads) = min(ncols, max(1, (int) nThreads)) + 1` in addition to
  the 64 of `log2`.  `itersFuel self K ncols` is that bound (64 for K ≥ 1).  For an object built with `nThreads ≤ 63`, or for
  `ncols ≤ 63`, it is 64.
-/
import GoldilocksVerif.Lemmas.BridgeNttItersTop
import GoldilocksVerif.Lemmas.BridgeNttTac
import GoldilocksVerif.Lemmas.BridgeParcpy

namespace GoldilocksVerif.BridgeNtt
open GoldilocksVerif Gen.NttGen

def itersFuel (self : NTT_Goldilocks) (K NC : Nat) : Nat :=
  if K = 0 then max 64 (parFuel NC (I32.ofU32 self.nThreads)) else 64

theorem itersFuel_ge (self : NTT_Goldilocks) (K NC : Nat) : 64 ≤ itersFuel self K NC := by
  unfold itersFuel; split <;> omega

theorem itersFuel_small (self : NTT_Goldilocks) (K NC : Nat) (h : self.nThreads.toNat ≤ 63 ∨ NC ≤ 63) :
    itersFuel self K NC = 64 := by
  unfold itersFuel
  split
  · unfold parFuel ParCopy.threads I32.ofU32
    rcases h with h | h
    · have : self.nThreads.toInt = (self.nThreads.toNat : Int) := by
        rw [BitVec.toInt_eq_toNat_cond, if_pos (by omega)]
      rw [this]
      split <;> omega
    · omega
  · rfl

/-- every `fuel ≥ 64` that, for size 1 only, also exceeds the column count or the thread count of the object -/
theorem itersFuel_le_or (self : NTT_Goldilocks) (K NC fuel : Nat) (h64 : 64 ≤ fuel)
    (h1 : K = 0 → NC < fuel ∨ self.nThreads.toNat < fuel) : itersFuel self K NC ≤ fuel := by
  unfold itersFuel
  by_cases hK : K = 0
  · rw [if_pos hK]
    unfold parFuel ParCopy.threads I32.ofU32
    have ht : (if self.nThreads.toInt < 1 then 1 else self.nThreads.toInt.toNat) ≤ max 1 self.nThreads.toNat := by
      rw [BitVec.toInt_eq_toNat_cond]
      split <;> split <;> omega
    rcases h1 hK with h | h <;> omega
  · rw [if_neg hK]; exact h64

theorem itersFuel_le (self : NTT_Goldilocks) (K NC fuel : Nat) (h64 : 64 ≤ fuel) (h1 : K = 0 → NC < fuel) :
    itersFuel self K NC ≤ fuel :=
  itersFuel_le_or self K NC fuel h64 fun h => Or.inl (h1 h)

theorem ofU32_lt (x : BitVec 32) : I32.ofU32 x < 2 ^ 63 := by
  unfold I32.ofU32
  have := BitVec.toInt_lt (x := x)
  omega

theorem nttIters_gen1 (fuel : Nat) (hf : 64 ≤ fuel) (hp : Heap) (self : NTT_Goldilocks) (o : Model.Ntt.Obj)
    (hrep : ObjRep hp self o) (D Sx Ax : Nat) (hD : D < hp.size) (hAx : Ax < hp.size) (hDA : D ≠ Ax) (hSA : Sx ≠ Ax)
    (dst : Ptr) (hdst : (if (dst != Ptr.null) = true then dst else (⟨Sx, 0⟩ : Ptr)) = ⟨D, 0⟩)
    (oc NC NCA : Nat) (nphase : BitVec 64) (inverse extend : Bool)
    (hb1 : NCA + oc < 2 ^ 64) (hNC8 : NC * 8 < 2 ^ 64) (hext31 : o.extension < 2 ^ 31)
    (hfp : parFuel NC (I32.ofU32 self.nThreads) ≤ fuel) :
    match Model.Ntt.nttIters o (hp.block D) (hp.block Sx) (hp.block Ax) (decide (D = Sx)) 1 oc NC NCA nphase.toNat
        inverse extend with
    | .ok (d, _) => ∃ X', NTT_NTT_iters fuel hp self dst ⟨Sx, 0⟩ (bv 1) (bv oc) (bv NC) (bv NCA) nphase ⟨Ax, 0⟩ inverse extend =
        some ((hp.setBlock D d).setBlock Ax X') ∧ X'.size = (hp.block Ax).size
    | .error _ => NTT_NTT_iters fuel hp self dst ⟨Sx, 0⟩ (bv 1) (bv oc) (bv NC) (bv NCA) nphase ⟨Ax, 0⟩ inverse extend = none := by
  have h1t : (bv 1).toNat = 1 := bv_toNat 1 (by omega)
  have h1ne : bv 1 ≠ 0#64 := by decide
  have hlog0 : Model.Ntt.log2 1 = 0 := by decide
  have hlog := log2_gen_eq fuel (by unfold log2Fuel; omega) (bv 1) h1ne
  rw [h1t, hlog0] at hlog
  have hpow : ((1#64 : BitVec 64) <<< (bv 0).toNat == bv 1) = true := by decide
  have hnp : Model.Ntt.clampPhase nphase.toNat 0 = 1 := (Model.Ntt.clampPhase_range nphase.toNat 0).2.2 rfl
  have hdiv : bv 0 / 1#64 = bv 0 := by decide
  have hmod : bv 0 % 1#64 = bv 0 := by decide
  have hres0 : decide (bv 0 > 0#64) = false := by decide
  have hodd : ((1#64 : BitVec 64) % 2#64 == 1#64) = true := by decide
  have hsize1 : decide (bv 1 > 1#64) = false := by decide
  have hocT : (bv oc).toNat = oc := bv_toNat _ (by omega)
  have hNCAT : (bv NCA).toNat = NCA := bv_toNat _ (by omega)
  have hNCT : (bv NC).toNat = NC := bv_toNat _ (by omega)
  have ha0 := sel_same hp.block D Sx
  have hrp := reversePermutation_gen fuel (by unfold log2Fuel; omega) hp self o Ax Sx (bv 1) (bv oc) (bv NC) (bv NCA) 0
    (by omega) (by rw [h1t]; rfl) hAx hrep.ext hext31 (by rw [h1t, hNCAT, hocT]; omega) (by rw [h1t, hNCT]; omega)
    (by rw [hNCT]; exact hNC8)
  have hdec : decide (Ax = Sx) = false := by simp [Ne.symm hSA]
  rw [h1t, hNCAT, hocT, hNCT, hdec] at hrp
  obtain ⟨fuel', rfl⟩ : ∃ f', fuel = f' + 1 := ⟨fuel - 1, by omega⟩
  unfold NTT_NTT_iters Model.Ntt.nttIters
  dsimp only
  rw [hdst, hlog]
  have h21 : (2 : Nat) ^ 0 = 1 := rfl
  simp only [Option.bind_some, setWidth_ofNat32 0 (by omega), hpow, if_true, Bool.or_true, hlog0, hnp, hdiv,
    hmod, hres0, hodd, h21, ne_eq, not_true_eq_false, if_false, ha0, Bool.false_eq_true, beq_self_eq_true,
    decide_true, Model.Ntt.schedule_zero, List.foldl_nil]
  rw [hrp]
  cases hr : Model.Ntt.reversePermutation o (hp.block Ax) (hp.block Sx) false 1 oc NC NCA with
  | error e => simp only [Option.bind_none]
  | ok t =>
    have hts := Model.Ntt.reversePermutation_size o _ _ false 1 oc NC NCA t hr
    simp only [Bool.false_eq_true, if_false] at hts
    simp only [Option.bind_some]
    have hone : (1#64 : BitVec 64) = bv 1 := rfl
    -- the pass loop is left at its first test (`s = 1 > domainPow = 0`), whatever the parameter list of its step function
    rw [hone, Loop.whileM_stop _ _ _ _ (by
        have hle : decide (bv 1 ≤ bv 0) = false := by decide
        unfold_loops
        dsimp only
        rw [hle]
        rfl)]
    have hne' : ((⟨Ax, 0⟩ : Ptr) != ⟨D, 0⟩) = true := by rw [ptr_ne]; simp [Ne.symm hDA]
    have hgt : ¬ (1 > 1) := by omega
    simp only [Option.bind_some, hne', if_true, hsize1, Bool.false_eq_true, if_false, hgt, bv_mul, Nat.one_mul]
    rw [parcpy_gen _ (hp.setBlock Ax t) D Ax 0 0 NC (I32.ofU32 self.nThreads) (by simp; exact hD) hDA hNC8
      (ofU32_lt _) hfp]
    rw [Heap.block_setBlock_other _ _ _ _ hDA, Heap.block_setBlock_same _ _ _ hAx]
    simp only [Option.bind_some]
    by_cases hDS : D = Sx
    · simp only [hDS, decide_true, if_true]
      exact ⟨t, by rw [Heap.setBlock_comm _ _ _ _ _ (Ne.symm hSA)], hts⟩
    · simp only [hDS, decide_false, Bool.false_eq_true, if_false]
      exact ⟨t, by rw [Heap.setBlock_comm _ _ _ _ _ (Ne.symm hDA)], hts⟩

/-- **NTT_iters, every size 1 ≤ 2^K ≤ 2^30** (`nttIters_gen` for K ≥ 1, `nttIters_gen1` for K = 0) -/
theorem nttIters_gen_all (fuel : Nat) (hp : Heap) (self : NTT_Goldilocks) (o : Model.Ntt.Obj)
    (hrep : ObjRep hp self o) (D Sx Ax : Nat) (hD : D < hp.size) (hAx : Ax < hp.size) (hDA : D ≠ Ax) (hSA : Sx ≠ Ax)
    (hfrD : ObjFrame self D) (hfrA : ObjFrame self Ax)
    (dst : Ptr) (hdst : (if (dst != Ptr.null) = true then dst else (⟨Sx, 0⟩ : Ptr)) = ⟨D, 0⟩)
    (K N oc NC NCA : Nat) (nphase : BitVec 64) (inverse extend : Bool)
    (hK : K ≤ 30) (hN : N = 2 ^ K) (hKs : K ≤ o.s) (hos : o.s ≤ 32)
    (hb1 : N * NCA + oc < 2 ^ 64) (hNNC : N * NC < 2 ^ 64) (hNC8 : NC * 8 < 2 ^ 64) (hext31 : o.extension < 2 ^ 31)
    (hcache : extend = true → o.rcache ≠ none) (hf : itersFuel self K NC ≤ fuel) :
    match Model.Ntt.nttIters o (hp.block D) (hp.block Sx) (hp.block Ax) (decide (D = Sx)) N oc NC NCA nphase.toNat
        inverse extend with
    | .ok (d, _) => ∃ X', NTT_NTT_iters fuel hp self dst ⟨Sx, 0⟩ (bv N) (bv oc) (bv NC) (bv NCA) nphase ⟨Ax, 0⟩ inverse extend =
        some ((hp.setBlock D d).setBlock Ax X') ∧ X'.size = (hp.block Ax).size
    | .error _ => NTT_NTT_iters fuel hp self dst ⟨Sx, 0⟩ (bv N) (bv oc) (bv NC) (bv NCA) nphase ⟨Ax, 0⟩ inverse extend = none := by
  have hf64 := Nat.le_trans (itersFuel_ge self K NC) hf
  rcases Nat.eq_zero_or_pos K with hK0 | hK1
  · subst hK0
    have hN1 : N = 1 := hN
    subst hN1
    have hfp : parFuel NC (I32.ofU32 self.nThreads) ≤ fuel := by
      unfold itersFuel at hf
      rw [if_pos rfl] at hf
      omega
    exact nttIters_gen1 fuel hf64 hp self o hrep D Sx Ax hD hAx hDA hSA dst hdst oc NC NCA nphase inverse extend (by omega) hNC8
      hext31 hfp
  · exact nttIters_gen fuel hf64 hp self o hrep D Sx Ax hD hAx hDA hSA hfrD hfrA dst hdst K N oc NC NCA nphase inverse extend hK1
      hK hN hKs hos hb1 hNNC hNC8 hext31 hcache

end GoldilocksVerif.BridgeNtt
