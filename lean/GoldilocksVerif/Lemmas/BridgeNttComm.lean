/-
  Bit-level commutativity of the translated scalar field multiplication and the closing tactic `close_shape` of the NTT
  bridge proofs (kept apart from Lemmas/BridgeNttTac.lean because it needs Lemmas/ScalarNat.lean, whose names must not be
  visible in every file that imports the bridge lemmas).
-/
import GoldilocksVerif.Lemmas.BridgeNttTac
import GoldilocksVerif.Lemmas.ScalarNat

namespace GoldilocksVerif.BridgeNtt

theorem mul_e_comm (a b : BitVec 64) : Gen.Scalar.mul__eEE a b = Gen.Scalar.mul__eEE b a := by
  apply BitVec.eq_of_toNat_eq
  rw [GoldilocksVerif.mul_toNat, GoldilocksVerif.mul_toNat, Nat.mul_comm]

theorem mul_r_comm (a b : BitVec 64) : Gen.Scalar.mul__rEE a b = Gen.Scalar.mul__rEE b a := by
  show Gen.Scalar.mul__eEE a b = Gen.Scalar.mul__eEE b a
  exact mul_e_comm a b

/-- closes an equation between two terms of the same shape whose number arguments are provably equal (sums / products
    written in another order, `x * 2` / `x + x`) and whose field products may have swapped operands; also fine when the
    goal has already been closed -/
macro "close_shape" : tactic => `(tactic| all_goals (
  (try dsimp only)
  first
  | done
  | (with_reducible rfl)
  | grind [mul_e_comm, mul_r_comm]))

end GoldilocksVerif.BridgeNtt
