/-
  The block heap of the translator's heap mode (Model/TrHeap.lean): every memory operation is `setBlock` of one block
  with an array operation on its content; `alloc` is `push` of a block of zeros, `free` of the last block undoes it;
  a counted loop over a heap whose body keeps to a representation `R : σ → Heap` is the loop over σ (`rangeM_rep`; `R2`:
  two blocks of a base heap, `rangeM_block`: one block).
  Used by the bridge theorems (Lemmas/BridgeNtt*.lean, ParGen*.lean) and, through the extents of Lemmas/HeapSafe.lean, by C18.
-/
import GoldilocksVerif.Model.TrHeap

namespace GoldilocksVerif

namespace Heap

theorem modify_eq {α : Type} (a : Array α) (i : Nat) (f : α → α) (d : α) :
    a.modify i f = a.setIfInBounds i (f (a.getD i d)) := by
  apply Array.ext_getElem?
  intro j
  rw [Array.getElem?_modify, Array.getElem?_setIfInBounds, Array.getD_eq_getD_getElem?]
  by_cases hij : i = j
  · subst hij
    by_cases hi : i < a.size
    · simp [hi]
    · simp [hi]
  · simp [hij]

theorem ext_blocks (h1 h2 : Heap) (h : h1.blocks = h2.blocks) : h1 = h2 := by
  cases h1; cases h2; simp at h; simp [h]

theorem set_eq (h : Heap) (p : Ptr) (i : Nat) (v : BitVec 64) :
    h.set p i v = h.setBlock p.blk ((h.block p.blk).setIfInBounds (p.off + i) v) := by
  apply ext_blocks
  simp only [set, setBlock, block]
  exact modify_eq _ _ _ #[]

theorem copy_eq (h : Heap) (d s : Ptr) (n : Nat) :
    h.copy d s n = h.setBlock d.blk (Block.copyRow (h.block d.blk) d.off (h.block s.blk) s.off n) := by
  apply ext_blocks
  simp only [copy, setBlock, block]
  exact modify_eq _ _ _ #[]

theorem zero_eq (h : Heap) (d : Ptr) (n : Nat) :
    h.zero d n = h.setBlock d.blk (Block.zeroRow (h.block d.blk) d.off n) := by
  apply ext_blocks
  simp only [zero, setBlock, block]
  exact modify_eq _ _ _ #[]

@[simp] theorem size_setBlock (h : Heap) (b : Nat) (a : Block) : (h.setBlock b a).size = h.size := by
  simp [size, setBlock]

theorem block_setBlock (h : Heap) (b c : Nat) (a : Block) :
    (h.setBlock b a).block c = if c = b ∧ b < h.size then a else h.block c := by
  simp only [block, setBlock, size, Array.getD_eq_getD_getElem?, Array.getElem?_setIfInBounds]
  by_cases hc : b = c
  · subst hc
    by_cases hb : b < h.blocks.size
    · simp [hb]
    · simp [hb]
  · have : ¬ c = b := fun e => hc e.symm
    simp [hc, this]

theorem block_setBlock_same (h : Heap) (b : Nat) (a : Block) (hb : b < h.size) : (h.setBlock b a).block b = a := by
  rw [block_setBlock]; simp [hb]

theorem block_setBlock_other (h : Heap) (b c : Nat) (a : Block) (hc : c ≠ b) : (h.setBlock b a).block c = h.block c := by
  rw [block_setBlock]; simp [hc]

theorem setBlock_setBlock (h : Heap) (b : Nat) (a a' : Block) : (h.setBlock b a).setBlock b a' = h.setBlock b a' := by
  apply ext_blocks
  simp only [setBlock]
  apply Array.ext_getElem?
  intro j
  simp only [Array.getElem?_setIfInBounds, Array.size_setIfInBounds]
  by_cases hj : b = j <;> simp [hj]

theorem setBlock_block (h : Heap) (b : Nat) : h.setBlock b (h.block b) = h := by
  apply ext_blocks
  simp only [setBlock, block]
  apply Array.ext_getElem?
  intro j
  simp only [Array.getElem?_setIfInBounds, Array.getD_eq_getD_getElem?]
  by_cases hj : b = j
  · subst hj
    by_cases hb : b < h.blocks.size
    · simp [hb]
    · simp [hb]
  · simp [hj]

theorem setBlock_absent (X : Heap) (b : Nat) (hbX : ¬ b < X.size) (Y : Block) : X.setBlock b Y = X :=
  ext_blocks _ _ (Array.setIfInBounds_eq_of_size_le (Nat.le_of_not_lt hbX))

theorem setBlock_comm (h : Heap) (b c : Nat) (a a' : Block) (hbc : b ≠ c) :
    (h.setBlock b a).setBlock c a' = (h.setBlock c a').setBlock b a := by
  apply ext_blocks
  simp only [setBlock]
  apply Array.ext_getElem?
  intro j
  simp only [Array.getElem?_setIfInBounds, Array.size_setIfInBounds]
  by_cases hj : b = j
  · subst hj
    have : ¬ c = b := fun e => hbc e.symm
    simp [this]
  · by_cases hj' : c = j <;> simp [hj, hj']

theorem get_def (h : Heap) (p : Ptr) (i : Nat) : h.get p i = (h.block p.blk).getD (p.off + i) 0#64 := rfl

@[simp] theorem size_set (h : Heap) (p : Ptr) (i : Nat) (v : BitVec 64) : (h.set p i v).size = h.size := by
  rw [set_eq, size_setBlock]
@[simp] theorem size_copy (h : Heap) (d s : Ptr) (n : Nat) : (h.copy d s n).size = h.size := by
  rw [copy_eq, size_setBlock]
@[simp] theorem size_zero (h : Heap) (d : Ptr) (n : Nat) : (h.zero d n).size = h.size := by
  rw [zero_eq, size_setBlock]

def push (h : Heap) (a : Block) : Heap := ⟨h.blocks.push a⟩

@[simp] theorem size_push (h : Heap) (a : Block) : (h.push a).size = h.size + 1 := by simp [size, push]
theorem block_push (h : Heap) (a : Block) (c : Nat) : (h.push a).block c = if c = h.size then a else h.block c := by
  simp only [block, push, size, Array.getD_eq_getD_getElem?, Array.getElem?_push]
  by_cases hc : c = h.blocks.size <;> simp [hc]

theorem block_push_last (X : Heap) (Z : Block) (b : Nat) (hb : b = X.size) : (X.push Z).block b = Z := by
  rw [block_push, if_pos hb]

theorem block_push_lt (X : Heap) (Z : Block) (c : Nat) (hc : c < X.size) : (X.push Z).block c = X.block c := by
  rw [block_push, if_neg (by omega)]

theorem setBlock_push_last (h : Heap) (a a' : Block) : (h.push a).setBlock h.size a' = h.push a' := by
  apply ext_blocks
  simp only [setBlock, push, size]
  apply Array.ext_getElem?
  intro j
  simp only [Array.getElem?_setIfInBounds, Array.getElem?_push, Array.size_push]
  by_cases hj : h.blocks.size = j
  · subst hj; simp
  · have : ¬ j = h.blocks.size := fun e => hj e.symm
    simp [hj, this]

theorem setBlock_push_last' (X : Heap) (Z Z' : Block) (b : Nat) (hb : b = X.size) : (X.push Z).setBlock b Z' = X.push Z' := by
  subst hb; exact setBlock_push_last X Z Z'

theorem setBlock_push_lt (h : Heap) (a a' : Block) (b : Nat) (hb : b < h.size) :
    (h.push a).setBlock b a' = (h.setBlock b a').push a := by
  apply ext_blocks
  simp only [setBlock, push, size] at *
  apply Array.ext_getElem?
  intro j
  simp only [Array.getElem?_setIfInBounds, Array.getElem?_push, Array.size_push, Array.size_setIfInBounds]
  by_cases hj : b = j
  · subst hj
    have h1 : b < h.blocks.size + 1 := by omega
    have h2 : ¬ b = h.blocks.size := by omega
    simp [h1, h2, hb]
  · simp [hj]

theorem free_push (h : Heap) (a : Block) (hs : 0 < h.size) : (h.push a).free ⟨h.size, 0⟩ = h := by
  apply ext_blocks
  simp only [free, push, size] at *
  have h0 : ¬ h.blocks.size = 0 := by omega
  simp [h0]

theorem free_push' (X : Heap) (Z : Block) (b : Nat) (hb : b = X.size) (hs : 0 < X.size) : (X.push Z).free ⟨b, 0⟩ = X := by
  subst hb; exact free_push X Z hs

theorem alloc_fst (h : Heap) (n : Nat) : (h.alloc n).1 = h.push (Array.replicate n 0#64) := rfl
theorem alloc_fst_blocks (h : Heap) (n : Nat) : (h.alloc n).1.blocks = h.blocks.push (Array.replicate n 0#64) := rfl
theorem alloc_snd (h : Heap) (n : Nat) : (h.alloc n).2 = ⟨h.size, 0⟩ := rfl
@[simp] theorem size_alloc (h : Heap) (n : Nat) : (h.alloc n).1.size = h.size + 1 := size_push h _

theorem block_alloc (h : Heap) (n c : Nat) :
    (h.alloc n).1.block c = if c = h.size then Array.replicate n 0#64 else h.block c :=
  block_push h _ c

end Heap

namespace Loop

theorem rangeMAux_rep_from {σ τ : Type} (R : σ → τ) (f : Nat → σ → σ) (body : Nat → τ → Option τ) (lo hi : Nat)
    (hbody : ∀ i s, lo ≤ i → i < hi → body i (R s) = some (R (f i s))) :
    ∀ (n i : Nat) (s : σ), lo ≤ i → i + n ≤ hi → rangeMAux 1 body n i (R s) = some (R (rangeAux 1 f n i s)) := by
  intro n
  induction n with
  | zero => intro i s _ _; rfl
  | succ n ih =>
    intro i s hl h
    rw [rangeMAux_succ, hbody i s hl (by omega)]
    simp only [Option.bind_some]
    rw [ih (i + 1) (f i s) (by omega) (by omega)]
    rfl

theorem rangeMAux_rep {σ τ : Type} (R : σ → τ) (f : Nat → σ → σ) (body : Nat → τ → Option τ) (hi : Nat)
    (hbody : ∀ i s, i < hi → body i (R s) = some (R (f i s))) :
    ∀ (n i : Nat) (s : σ), i + n ≤ hi → rangeMAux 1 body n i (R s) = some (R (rangeAux 1 f n i s)) :=
  fun n i s h => rangeMAux_rep_from R f body 0 hi (fun i s _ => hbody i s) n i s (Nat.zero_le _) h

theorem rangeM_rep {σ τ : Type} (R : σ → τ) (f : Nat → σ → σ) (body : Nat → τ → Option τ) (lo hi : Nat)
    (hbody : ∀ i s, lo ≤ i → i < hi → body i (R s) = some (R (f i s))) (s : σ) :
    rangeM lo hi 1 (R s) body = some (R (range lo hi 1 s f)) := by
  unfold rangeM range
  have hn : (hi - lo + 1 - 1) / 1 = hi - lo := by simp
  rw [hn]
  by_cases hle : lo ≤ hi
  · exact rangeMAux_rep_from R f body lo hi hbody (hi - lo) lo s (Nat.le_refl _) (by omega)
  · have : hi - lo = 0 := by omega
    rw [this]; rfl

theorem range_rep {σ τ : Type} (R : σ → τ) (f : Nat → σ → σ) (body : Nat → τ → τ) (lo hi : Nat)
    (hbody : ∀ i s, lo ≤ i → i < hi → body i (R s) = R (f i s)) (s : σ) :
    range lo hi 1 (R s) body = R (range lo hi 1 s f) := by
  unfold range
  have hn : (hi - lo + 1 - 1) / 1 = hi - lo := by simp
  rw [hn]
  by_cases hle : lo ≤ hi
  · have key : ∀ (n i : Nat) (s : σ), lo ≤ i → i + n ≤ hi →
        rangeAux 1 body n i (R s) = R (rangeAux 1 f n i s) := by
      intro n
      induction n with
      | zero => intro i s _ _; rfl
      | succ n ih =>
        intro i s hl h
        show rangeAux 1 body n (i + 1) (body i (R s)) = R (rangeAux 1 f n (i + 1) (f i s))
        rw [hbody i s hl (by omega)]
        exact ih (i + 1) (f i s) (by omega) (by omega)
    exact key (hi - lo) lo s (Nat.le_refl _) (by omega)
  · have : hi - lo = 0 := by omega
    rw [this]; rfl

theorem range_congr {σ : Type} (f g : Nat → σ → σ) (lo hi : Nat)
    (h : ∀ i s, lo ≤ i → i < hi → f i s = g i s) (s : σ) : range lo hi 1 s f = range lo hi 1 s g := by
  have := range_rep (R := id) (f := g) (body := f) lo hi (fun i s a b => h i s a b) s
  simpa using this

end Loop

namespace Heap

/-- two blocks of a base heap replaced: the representation used for loops that work on two buffers -/
def R2 (H : Heap) (b c : Nat) (s : Block × Block) : Heap := (H.setBlock b s.1).setBlock c s.2

theorem R2_block_fst (H : Heap) (b c : Nat) (s : Block × Block) (hbc : b ≠ c) (hb : b < H.size) :
    (R2 H b c s).block b = s.1 := by
  unfold R2
  rw [block_setBlock_other _ _ _ _ hbc, block_setBlock_same _ _ _ hb]

theorem R2_block_snd (H : Heap) (b c : Nat) (s : Block × Block) (hc : c < H.size) :
    (R2 H b c s).block c = s.2 := by
  unfold R2
  rw [block_setBlock_same _ _ _ (by rw [size_setBlock]; exact hc)]

theorem R2_block_other (H : Heap) (b c d : Nat) (s : Block × Block) (hb : d ≠ b) (hc : d ≠ c) :
    (R2 H b c s).block d = H.block d := by
  unfold R2
  rw [block_setBlock_other _ _ _ _ hc, block_setBlock_other _ _ _ _ hb]

theorem R2_setBlock_fst (H : Heap) (b c : Nat) (s : Block × Block) (a : Block) (hbc : b ≠ c) :
    (R2 H b c s).setBlock b a = R2 H b c (a, s.2) := by
  unfold R2
  rw [setBlock_comm _ _ _ _ _ (fun e => hbc e.symm), setBlock_setBlock]

theorem R2_setBlock_snd (H : Heap) (b c : Nat) (s : Block × Block) (a : Block) :
    (R2 H b c s).setBlock c a = R2 H b c (s.1, a) := by
  unfold R2
  rw [setBlock_setBlock]

theorem R2_self (H : Heap) (A A2 : Nat) : R2 H A A2 (H.block A, H.block A2) = H := by
  unfold R2
  rw [setBlock_block, setBlock_block]

theorem R2_swap (H : Heap) (A A2 : Nat) (hne : A ≠ A2) (x y : Block) : R2 H A A2 (x, y) = R2 H A2 A (y, x) :=
  setBlock_comm _ _ _ _ _ hne

theorem setBlock_eq_R2 (H : Heap) (A A2 : Nat) (hne : A ≠ A2) (t : Block) :
    H.setBlock A t = R2 H A A2 (t, H.block A2) := by
  unfold R2
  have := setBlock_block (H.setBlock A t) A2
  rw [block_setBlock_other _ _ _ _ (Ne.symm hne)] at this
  exact this.symm

@[simp] theorem size_R2 (H : Heap) (b c : Nat) (s : Block × Block) : (R2 H b c s).size = H.size := by
  unfold R2; simp

theorem get_R2_other (H : Heap) (b c : Nat) (s : Block × Block) (p : Ptr) (j : Nat) (h1 : p.blk ≠ b) (h2 : p.blk ≠ c) :
    get (R2 H b c s) p j = (H.block p.blk).getD (p.off + j) 0#64 := by
  rw [get_def, R2_block_other _ _ _ _ _ h1 h2]

/-- a counted loop whose body changes block `d` only, as the function `f` of its content (other blocks may be read) -/
theorem rangeM_block (X0 : Heap) (d : Nat) (hd : d < X0.size) (f : Nat → Block → Block) (body : Nat → Heap → Option Heap)
    (lo hi : Nat)
    (hbody : ∀ i (X : Heap), lo ≤ i → i < hi → X.size = X0.size → (∀ c, c ≠ d → X.block c = X0.block c) →
      body i X = some (X.setBlock d (f i (X.block d)))) :
    Loop.rangeM lo hi 1 X0 body = some (X0.setBlock d (Loop.range lo hi 1 (X0.block d) f)) := by
  have h := Loop.rangeM_rep (R := fun A => X0.setBlock d A) (f := f) body lo hi
    (fun i A h1 h2 => by
      have := hbody i (X0.setBlock d A) h1 h2 (by simp) (fun c hc => block_setBlock_other _ _ _ _ hc)
      rw [this, block_setBlock_same _ _ _ hd, setBlock_setBlock]) (X0.block d)
  simp only [setBlock_block] at h
  exact h

/-! ### a temporary block at the end of the heap (run-time sized stack array) -/
section tmp
variable (X : Heap) (T : Block) (b d : Nat) (hb : b = X.size) (hd : d < X.size)

include hb hd in
theorem tmp_copy_in (o n : Nat) :
    (X.push T).copy ⟨b, 0⟩ ⟨d, o⟩ n = X.push (Block.copyRow T 0 (X.block d) o n) := by
  rw [copy_eq]
  simp only []
  rw [block_push_last X T b hb, block_push_lt X T d hd, setBlock_push_last' X T _ b hb]

include hb in
theorem tmp_zero_in (n : Nat) : (X.push T).zero ⟨b, 0⟩ n = X.push (Block.zeroRow T 0 n) := by
  rw [zero_eq]
  simp only []
  rw [block_push_last X T b hb, setBlock_push_last' X T _ b hb]

include hd in
theorem tmp_copy_self (o1 o2 n : Nat) :
    (X.push T).copy ⟨d, o1⟩ ⟨d, o2⟩ n = (X.setBlock d (Block.copyRow (X.block d) o1 (X.block d) o2 n)).push T := by
  rw [copy_eq]
  simp only []
  rw [block_push_lt X T d hd, setBlock_push_lt X T _ d hd]

include hd in
theorem tmp_zero_self (o1 n : Nat) :
    (X.push T).zero ⟨d, o1⟩ n = (X.setBlock d (Block.zeroRow (X.block d) o1 n)).push T := by
  rw [zero_eq]
  simp only []
  rw [block_push_lt X T d hd, setBlock_push_lt X T _ d hd]

include hb hd in
theorem tmp_copy_out (o n : Nat) :
    (X.push T).copy ⟨d, o⟩ ⟨b, 0⟩ n = (X.setBlock d (Block.copyRow (X.block d) o T 0 n)).push T := by
  rw [copy_eq]
  simp only []
  rw [block_push_lt X T d hd, block_push_last X T b hb, setBlock_push_lt X T _ d hd]

end tmp

theorem push_push_R2 (hp : Heap) (A B : Block) :
    (hp.push A).push B = R2 ((hp.push #[]).push #[]) hp.size (hp.size + 1) (A, B) := by
  simp only [R2]
  rw [setBlock_push_lt _ _ _ _ (by simp), setBlock_push_last]
  have : hp.size + 1 = (hp.push A).size := by simp
  rw [this, setBlock_push_last]

theorem free_mid (h : Heap) (p : Ptr) (h0 : p.blk ≠ 0) (hl : p.blk + 1 ≠ h.size) : h.free p = h.setBlock p.blk #[] := by
  unfold free setBlock
  rw [if_neg h0]
  have : ¬ (p.blk + 1 = h.blocks.size) := hl
  rw [if_neg this]

theorem block_free_other (h : Heap) (p : Ptr) (c : Nat) (hc : c ≠ p.blk) : (h.free p).block c = h.block c := by
  unfold free
  by_cases h0 : p.blk = 0
  · rw [if_pos h0]
  · rw [if_neg h0]
    by_cases hl : p.blk + 1 = h.blocks.size
    · rw [if_pos hl]
      simp only [block, Array.getD_eq_getD_getElem?, Array.getElem?_pop]
      by_cases hc2 : c < h.blocks.size - 1
      · rw [if_pos hc2]
      · rw [if_neg hc2]
        have : h.blocks.size ≤ c := by omega
        rw [Array.getElem?_eq_none this]
    · rw [if_neg hl]
      exact block_setBlock_other ⟨h.blocks⟩ p.blk c #[] hc

/-- `p.blk = 0`: `free(NULL)` (and `free` of any pointer into the NULL block) does nothing -/
theorem block_free_or (h : Heap) (p : Ptr) (c : Nat) (hc : c ≠ p.blk ∨ p.blk = 0) : (h.free p).block c = h.block c := by
  rcases hc with hc | hc
  · exact block_free_other _ _ _ hc
  · unfold free; rw [if_pos hc]

theorem block_free_if (h : Heap) (cond : Prop) [Decidable cond] (p : Ptr) (c : Nat) (hc : cond → c ≠ p.blk ∨ p.blk = 0) :
    (if cond then h.free p else h).block c = h.block c := by
  by_cases hcond : cond
  · rw [if_pos hcond]; exact block_free_or _ _ _ (hc hcond)
  · rw [if_neg hcond]

theorem size_free (h : Heap) (p : Ptr) :
    (h.free p).size = if p.blk ≠ 0 ∧ p.blk + 1 = h.size then h.size - 1 else h.size := by
  unfold free size
  by_cases h0 : p.blk = 0
  · rw [if_pos h0, if_neg (fun x => x.1 h0)]
  · rw [if_neg h0]
    by_cases hl : p.blk + 1 = h.blocks.size
    · rw [if_pos hl, if_pos ⟨h0, hl⟩]; simp
    · rw [if_neg hl, if_neg (fun x => hl x.2)]; simp

theorem size_free_le (h : Heap) (p : Ptr) : (h.free p).size ≤ h.size := by
  rw [size_free]; split <;> omega

theorem lt_size_free (h : Heap) (p : Ptr) (c : Nat) (hc : c < h.size) (hne : c ≠ p.blk ∨ p.blk = 0) : c < (h.free p).size := by
  rw [size_free]; split <;> omega

theorem size_free_mid (h : Heap) (p : Ptr) (hl : p.blk + 1 ≠ h.size) : (h.free p).size = h.size := by
  rw [size_free, if_neg (fun x => hl x.2)]

theorem size_free_ge (h : Heap) (p : Ptr) : h.size ≤ (h.free p).size + 1 := by
  rw [size_free]; split <;> omega

end Heap
end GoldilocksVerif
