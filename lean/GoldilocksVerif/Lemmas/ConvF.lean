/-
  Field-level facts about the conversion models (Model/Conv.lean), for C15.
-/
import GoldilocksVerif.Model.Conv
import GoldilocksVerif.Lemmas.InvF
namespace GoldilocksVerif
open Gen.Scalar Model

theorem P_cast_zero : ((P : Nat) : F) = 0 := ZMod.natCast_self P

theorem intCast_eq_of (a b k : Int) (h : a = b + (P : Int) * k) : ((a : Int) : F) = ((b : Int) : F) := by
  subst h
  push_cast
  rw [P_cast_zero]; ring

theorem den_eq_intCast (x : BitVec 64) : den x = (((x.toNat : Nat) : Int) : F) := by
  unfold den; push_cast; rfl

theorem P_int : ((P : Nat) : Int) = 18446744069414584321 := by decide

theorem tmod_shift (x : Int) : ((x.tmod P) + P).tmod P = x.emod P := by
  show ((x.tmod P) + P).tmod P = x % (P : Int)
  rw [P_int]
  rcases Int.lt_or_le x 0 with hneg | hpos
  · have e1 : x.tmod 18446744069414584321 = -((-x).tmod 18446744069414584321) := by rw [Int.neg_tmod, Int.neg_neg]
    have e2 : (-x).tmod 18446744069414584321 = (-x) % 18446744069414584321 := Int.tmod_eq_emod_of_nonneg (by omega)
    rw [e1, e2]
    have h3 : 0 ≤ -(-x % 18446744069414584321) + 18446744069414584321 := by omega
    rw [Int.tmod_eq_emod_of_nonneg h3]
    omega
  · have e1 : x.tmod 18446744069414584321 = x % 18446744069414584321 := Int.tmod_eq_emod_of_nonneg hpos
    rw [e1]
    have h3 : 0 ≤ x % 18446744069414584321 + 18446744069414584321 := by omega
    rw [Int.tmod_eq_emod_of_nonneg h3]
    omega

theorem emod_P_range (x : Int) : 0 ≤ x % (P : Int) ∧ x % (P : Int) < (P : Int) :=
  ⟨Int.emod_nonneg x (by decide), Int.emod_lt_of_pos x (by decide)⟩

theorem fromScalar_toNat (x : Int) : (fromScalar x).toNat = (x.emod P).toNat := by
  unfold fromScalar getUi
  rw [tmod_shift, BitVec.toNat_ofNat]
  have hx := emod_P_range x
  have : (x.emod P).natAbs = (x.emod P).toNat := by
    show (x % (P : Int)).natAbs = (x % (P : Int)).toNat
    omega
  rw [this]
  apply Nat.mod_eq_of_lt
  show (x % (P : Int)).toNat < 2 ^ 64
  have hP : (P : Int) < 2 ^ 64 := by decide
  omega

theorem fromScalar_den (x : Int) : den (fromScalar x) = (x : F) := by
  rw [den_eq_intCast, fromScalar_toNat]
  have hx := emod_P_range x
  have e : (((x.emod P).toNat : Nat) : Int) = x % (P : Int) := by
    show (((x % (P : Int)).toNat : Nat) : Int) = _
    omega
  rw [e]
  apply intCast_eq_of _ _ (-(x / (P : Int)))
  have := Int.emod_add_mul_ediv x (P : Int)
  rw [Int.mul_neg]; omega

theorem fromScalar_lt (x : Int) : (fromScalar x).toNat < P := by
  rw [fromScalar_toNat]
  have hx := emod_P_range x
  show (x % (P : Int)).toNat < P
  omega

theorem fromS64_den (x : BitVec 64) : den (fromS64 x) = ((x.toInt : Int) : F) := by
  rw [den_eq_intCast, BitVec.toInt_eq_msb_cond]
  unfold fromS64
  have hx := x.isLt
  by_cases h : x.msb = true
  · rw [if_pos h, if_pos h, BitVec.toNat_add]
    have h2 : 9223372036854775808 ≤ x.toNat := by rw [BitVec.msb_eq_decide] at h; simpa using h
    rw [P_word_toNat]
    apply intCast_eq_of _ _ 1
    unfold P; omega
  · rw [if_neg h, if_neg h]

/-- the C++ widens the `int32_t` first: `fromS32` is `fromS64` of the sign extension -/
theorem fromS32_eq (x : BitVec 32) : fromS32 x = fromS64 (x.signExtend 64) := by
  have e : (x.signExtend 64).msb = x.msb := by rw [BitVec.msb_signExtend]; rfl
  unfold fromS32 fromS64
  rw [e]

theorem fromS32_den (x : BitVec 32) : den (fromS32 x) = ((x.toInt : Int) : F) := by
  rw [fromS32_eq, fromS64_den, BitVec.toInt_signExtend_of_le (by decide)]

def centred (n : Nat) : Int := if n > (P - 1) / 2 then - ((P - n : Nat) : Int) else (n : Int)

theorem P_half : (P - 1) / 2 = 9223372034707292160 := by decide

theorem toS64_eq (a : BitVec 64) : toS64 a = centred (a.toNat % P) := by
  unfold toS64 centred
  rw [Model.toU64_r_toNat]

theorem toS64_range (a : BitVec 64) : -(((P - 1) / 2 : Nat) : Int) ≤ toS64 a ∧ toS64 a ≤ (((P - 1) / 2 : Nat) : Int) := by
  rw [toS64_eq]; unfold centred
  have h := Nat.mod_lt a.toNat P_pos
  generalize a.toNat % P = n at *
  have hP : P = 18446744069414584321 := rfl
  rw [P_half]
  split <;> omega

theorem toS64_den (a : BitVec 64) : ((toS64 a : Int) : F) = den a := by
  rw [toS64_eq, ← den_canon]
  unfold centred
  have h := Nat.mod_lt a.toNat P_pos
  generalize a.toNat % P = n at *
  rw [show ((n : Nat) : F) = (((n : Nat) : Int) : F) from (Int.cast_natCast n).symm]
  split
  · apply intCast_eq_of _ _ (-1)
    have hP : P = 18446744069414584321 := rfl
    omega
  · rfl

theorem toS32_spec (a : BitVec 64) :
    ((toS32 a).1 = true ↔ (-2147483648 ≤ toS64 a ∧ toS64 a < 2147483648)) ∧
    ((toS32 a).1 = true → (toS32 a).2 = toS64 a) := by
  rw [toS64_eq]
  unfold toS32 centred
  rw [Model.toU64_r_toNat]
  have h := Nat.mod_lt a.toNat P_pos
  generalize a.toNat % P = n at *
  have hP : P = 18446744069414584321 := rfl
  rw [P_half]
  by_cases c1 : n > 2147483647
  · rw [if_pos c1]
    by_cases c2 : n ≥ P - 2147483648
    · rw [if_pos c2]
      have c3 : n > 9223372034707292160 := by omega
      rw [if_pos c3]
      refine ⟨⟨fun _ => by omega, fun _ => rfl⟩, fun _ => rfl⟩
    · rw [if_neg c2]
      refine ⟨⟨fun hf => by simp at hf, fun hr => ?_⟩, fun hf => by simp at hf⟩
      exfalso
      by_cases c3 : n > 9223372034707292160
      · rw [if_pos c3] at hr; omega
      · rw [if_neg c3] at hr; omega
  · rw [if_neg c1]
    have c3 : ¬ n > 9223372034707292160 := by omega
    rw [if_neg c3]
    refine ⟨⟨fun _ => by omega, fun _ => rfl⟩, fun _ => rfl⟩

theorem rt_u64 (x : BitVec 64) (h : x.toNat < P) : toU64__rE (fromU64__rE x) = x := by
  apply BitVec.eq_of_toNat_eq
  rw [Model.toU64_r_toNat, fromU64_eq, Nat.mod_eq_of_lt h]

theorem canon_of_intCast (r : BitVec 64) (v : Int) (h : den r = ((v : Int) : F)) : ((r.toNat % P : Nat) : Int) = v % (P : Int) := by
  rw [den_eq_intCast] at h
  have := (ZMod.intCast_eq_intCast_iff' _ _ P).mp h
  rw [← this]
  push_cast; rfl

theorem centred_of (n : Nat) (v : Int) (hv : (n : Int) = v % (P : Int))
    (hr : -(9223372034707292160 : Int) ≤ v ∧ v ≤ 9223372034707292160) : centred n = v := by
  unfold centred
  rw [P_half]
  rw [P_int] at hv
  have hP : P = 18446744069414584321 := rfl
  split <;> omega

theorem rt_s64 (x : BitVec 64) (h : -(9223372034707292160 : Int) ≤ x.toInt ∧ x.toInt ≤ 9223372034707292160) :
    toS64 (fromS64 x) = x.toInt := by
  rw [toS64_eq]
  exact centred_of _ _ (canon_of_intCast _ _ (fromS64_den x)) h

theorem rt_s32 (x : BitVec 32) : toS32 (fromS32 x) = (true, x.toInt) := by
  have hx := x.isLt
  have hr : -(2147483648 : Int) ≤ x.toInt ∧ x.toInt < 2147483648 := by
    rw [BitVec.toInt_eq_toNat_cond]
    simp only [Nat.reducePow]
    split <;> omega
  have e : toS64 (fromS32 x) = x.toInt := by
    rw [toS64_eq]
    exact centred_of _ _ (canon_of_intCast _ _ (fromS32_den x)) ⟨by omega, by omega⟩
  obtain ⟨s1, s2⟩ := toS32_spec (fromS32 x)
  rw [e] at s1 s2
  have ok : (toS32 (fromS32 x)).1 = true := s1.mpr hr
  have v := s2 ok
  exact Prod.ext ok v

theorem den_negone : den 18446744069414584320#64 = -1 := by
  rw [eq_neg_iff_add_eq_zero]
  exact_mod_cast P_cast_zero

theorem predicates (a : BitVec 64) :
    (isZero a = true ↔ den a = 0) ∧ (isOne a = true ↔ den a = 1) ∧ (isNegone a = true ↔ den a = -1) := by
  refine ⟨?_, ?_, ?_⟩
  · exact isZero_iff_den a
  · unfold isOne; rw [equal_iff, den_one_r]
  · unfold isNegone; rw [equal_iff, show den negone__r = -1 from den_negone]

end GoldilocksVerif
