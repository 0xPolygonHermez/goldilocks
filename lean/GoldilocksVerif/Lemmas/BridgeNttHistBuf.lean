/-
  HISTORIES of calls on ONE object in the GENERATED model, second part (first part: Lemmas/BridgeNttHist.lean: `GCall`, `runG`,
  `GInv`): calls WITH an optional caller scratch buffer (`NTT`, `INTT`, `extendPol`) and with the `dst == NULL` (in place) form
  of `NTT` / `INTT`.

  The invariant is the SAME `GInv` as in the first part; `GCall.toB` embeds the first history type in `GCallB` (same run), so
  `gcall_step`, `runG_inv` are corollaries of `gcallB_step`, `runGB_inv`.
  `GCallB.toRaw` maps a call to the raw-pointer `HeapSafe.Call` of the allocation-balance lemmas (Lemmas/HeapSafeOwn.lean).
  The steps rest on the buffer-or-not forms `NTT_gen_opt` / `INTT_gen_opt` (Lemmas/BridgeNttBufEq.lean) and `extendPol_gen_opt`
  (Lemmas/BridgeNttExtendEq.lean).
-/
import GoldilocksVerif.Lemmas.BridgeNttHist
import GoldilocksVerif.Lemmas.BridgeNttExtendBuf
import GoldilocksVerif.Lemmas.HeapSafeOwn
import GoldilocksVerif.Lemmas.NttShapes

namespace GoldilocksVerif.BridgeNtt
open GoldilocksVerif Gen.NttGen GoldilocksVerif.Model.Ntt

/-- one call of the public interface on the generated model.  `dst : Option Nat` — `none`: the caller passes `dst == NULL`
    (in place), `some D`: the start of block `D` (`D = Sx`: in place through the same pointer); `buf : Option Nat` — `none`:
    `buffer == NULL`, `some B`: the caller's scratch block -/
inductive GCallB where
  | ntt (dst : Option Nat) (Sx d nc : Nat) (buf : Option Nat) (nphase nblock : BitVec 64)
  | intt (dst : Option Nat) (Sx d nc : Nat) (buf : Option Nat) (nphase nblock : BitVec 64)
  | extendPol (Out In de dn nc : Nat) (buf : Option Nat) (nphase nblock : BitVec 64)

def GCallB.run (fuel : Nat) (st : Heap × NTT_Goldilocks) : GCallB → Option (Heap × NTT_Goldilocks)
  | .ntt dst Sx d nc buf np nb =>
    (NTT_NTT fuel st.1 st.2 (optPtr dst) ⟨Sx, 0⟩ (bv (2 ^ d)) (bv nc) (optPtr buf) np nb false false).bind fun hp => some (hp, st.2)
  | .intt dst Sx d nc buf np nb =>
    (NTT_INTT fuel st.1 st.2 (optPtr dst) ⟨Sx, 0⟩ (bv (2 ^ d)) (bv nc) (optPtr buf) np nb false).bind fun hp => some (hp, st.2)
  | .extendPol Out In de dn nc buf np nb =>
    NTT_extendPol fuel st.1 st.2 ⟨Out, 0⟩ ⟨In, 0⟩ (bv (2 ^ de)) (bv (2 ^ dn)) (bv nc) (optPtr buf) np nb

def runGB (fuel : Nat) : Heap × NTT_Goldilocks → List GCallB → Option (Heap × NTT_Goldilocks)
  | st, [] => some st
  | st, c :: cs => (c.run fuel st).bind fun st' => runGB fuel st' cs

/-- `dst == NULL`: the source block -/
def GCallB.dst : GCallB → Nat
  | .ntt dst Sx _ _ _ _ _ => dst.getD Sx
  | .intt dst Sx _ _ _ _ _ => dst.getD Sx
  | .extendPol Out _ _ _ _ _ _ _ => Out

def GCallB.buf : GCallB → Option Nat
  | .ntt _ _ _ _ buf _ _ => buf
  | .intt _ _ _ _ buf _ _ => buf
  | .extendPol _ _ _ _ _ buf _ _ => buf

def dstMode (dst : Option Nat) (Sx : Nat) : DstMode :=
  match dst with
  | none => .null
  | some D => if D = Sx then .same else .other

/-- the hand model's call with the same arguments (it has no caller buffer); the buffers are the current contents of the blocks -/
def GCallB.toCall (hp : Heap) : GCallB → Call
  | .ntt dst Sx d nc _ np nb => .ntt (dstMode dst Sx) (hp.block (dst.getD Sx)) (hp.block Sx) (2 ^ d) nc np.toNat nb.toNat
  | .intt dst Sx d nc _ np nb => .intt (dstMode dst Sx) (hp.block (dst.getD Sx)) (hp.block Sx) (2 ^ d) nc np.toNat nb.toNat
  | .extendPol Out In de dn nc _ np nb =>
    .extendPol (decide (Out = In)) (hp.block Out) (hp.block In) (2 ^ de) (2 ^ dn) nc np.toNat nb.toNat

/-- `ScratchOk` in terms of the caller's blocks `U` and their sizes `sz` (`BufArg.scratchOk`) -/
def BufArg (U : Nat → Prop) (sz : Nat → Nat) (buf : Option Nat) (D Sx n : Nat) : Prop :=
  ∀ B, buf = some B → U B ∧ B ≠ D ∧ B ≠ Sx ∧ n ≤ sz B

def GCallB.ok (m fuel : Nat) (U : Nat → Prop) (sz : Nat → Nat) : GCallB → Prop
  | .ntt dst Sx d nc buf _ _ => U (dst.getD Sx) ∧ U Sx ∧ d ≤ 30 ∧ 2 ^ d ≤ m ∧ 1 ≤ nc ∧ 2 ^ d * nc * 8 < 2 ^ 64 ∧
      2 ^ d * nc ≤ sz (dst.getD Sx) ∧ (d = 0 → nc < fuel) ∧ BufArg U sz buf (dst.getD Sx) Sx (2 ^ d * nc)
  | .intt dst Sx d nc buf _ _ => U (dst.getD Sx) ∧ U Sx ∧ d ≤ 30 ∧ 2 ^ d ≤ m ∧ 1 ≤ nc ∧ 2 ^ d * nc * 8 < 2 ^ 64 ∧
      2 ^ d * nc ≤ sz (dst.getD Sx) ∧ (d = 0 → nc < fuel) ∧ BufArg U sz buf (dst.getD Sx) Sx (2 ^ d * nc)
  | .extendPol Out In de dn nc buf _ _ => U Out ∧ U In ∧ dn ≤ de ∧ de ≤ 30 ∧ 2 ^ dn ≤ m ∧ 1 ≤ nc ∧ 2 ^ de * nc * 8 < 2 ^ 64 ∧
      2 ^ de * nc ≤ sz Out ∧ (dn = 0 → nc < fuel) ∧ BufArg U sz buf Out In (2 ^ de * nc)

def GCall.toB : GCall → GCallB
  | .ntt D Sx d nc np nb => .ntt (some D) Sx d nc none np nb
  | .intt D Sx d nc np nb => .intt (some D) Sx d nc none np nb
  | .extendPol Out In de dn nc np nb => .extendPol Out In de dn nc none np nb

theorem GCall.toB_run (fuel : Nat) (st : Heap × NTT_Goldilocks) (c : GCall) : c.toB.run fuel st = c.run fuel st := by
  cases c <;> rfl

theorem GCall.toB_toCall (hp : Heap) (c : GCall) : c.toB.toCall hp = c.toCall hp := by
  cases c <;> rfl

theorem GCall.toB_dst (c : GCall) : c.toB.dst = c.dst := by
  cases c <;> rfl

theorem GCall.toB_buf (c : GCall) : c.toB.buf = none := by
  cases c <;> rfl

theorem GCall.toB_ok (m fuel : Nat) (U : Nat → Prop) (sz : Nat → Nat) (c : GCall) (h : c.ok m fuel U sz) : c.toB.ok m fuel U sz := by
  cases c with
  | ntt D Sx d nc np nb =>
    obtain ⟨a1, a2, a3, a4, a5, a6, a7, a8⟩ := h
    exact ⟨a1, a2, a3, a4, a5, a6, a7, a8, fun B hB => by cases hB⟩
  | intt D Sx d nc np nb =>
    obtain ⟨a1, a2, a3, a4, a5, a6, a7, a8⟩ := h
    exact ⟨a1, a2, a3, a4, a5, a6, a7, a8, fun B hB => by cases hB⟩
  | extendPol Out In de dn nc np nb =>
    obtain ⟨a1, a2, a3, a4, a5, a6, a7, a8, a9⟩ := h
    exact ⟨a1, a2, a3, a4, a5, a6, a7, a8, a9, fun B hB => by cases hB⟩

theorem runG_toB (fuel : Nat) (cs : List GCall) : ∀ st, runGB fuel st (cs.map GCall.toB) = runG fuel st cs := by
  induction cs with
  | nil => intro st; rfl
  | cons c cs ih =>
    intro st
    simp only [List.map_cons, runGB, runG, GCall.toB_run]
    cases c.run fuel st with
    | none => rfl
    | some st' => exact ih st'

theorem dst_facts (dst : Option Nat) (Sx : Nat) (h0 : dst.getD Sx ≠ 0) :
    (dstMode dst Sx = .other ↔ dst.getD Sx ≠ Sx) ∧
    (if (optPtr dst == Ptr.null) = true then (⟨Sx, 0⟩ : Ptr) else optPtr dst) = ⟨dst.getD Sx, 0⟩ := by
  cases dst with
  | none =>
    refine ⟨?_, ?_⟩
    · simp [dstMode]
    · have : ((Ptr.null : Ptr) == Ptr.null) = true := by decide
      show (if (Ptr.null == Ptr.null) = true then (⟨Sx, 0⟩ : Ptr) else Ptr.null) = ⟨Sx, 0⟩
      rw [if_pos this]
  | some D =>
    have hD0 : D ≠ 0 := h0
    refine ⟨?_, ?_⟩
    · show (if D = Sx then DstMode.same else DstMode.other) = DstMode.other ↔ D ≠ Sx
      by_cases h : D = Sx <;> simp [h]
    · show (if ((⟨D, 0⟩ : Ptr) == Ptr.null) = true then (⟨Sx, 0⟩ : Ptr) else ⟨D, 0⟩) = ⟨D, 0⟩
      rw [ptr_beq_null D hD0]; rfl

theorem GInv.upd {o0 : Obj} {n0 : Nat} {U : Nat → Prop} {sz : Nat → Nat} {hp hp' : Heap} {self : NTT_Goldilocks}
    (h : GInv o0 n0 U sz (hp, self)) {D : Nat} {buf : Option Nat} {out : Block} (hu : HeapUpd hp hp' D buf out)
    (uD : U D) (uB : ∀ B, buf = some B → U B) (hsz : out.size = (hp.block D).size) : GInv o0 n0 U sz (hp', self) := by
  obtain ⟨⟨o, hbase, hwf, hrep⟩, hin, hdisj, hsize, huser⟩ := h
  simp only at hrep hin hdisj hsize huser
  refine ⟨⟨o, hbase, hwf, ?_⟩, ?_, hdisj, ?_, ?_⟩
  · apply hrep.frame
    intro c hc
    have key : ∀ x, U x → c ≠ x := by
      intro x ux e
      obtain ⟨b1, b2, b3, b4⟩ := (huser x ux).2.2.1
      rw [e] at hc
      rcases hc with h | h | h | h
      exacts [b1 h, b2 h, b3 h, b4 h]
    exact hu.other c (key D uD) (fun e => key c (uB c e) rfl)
  · show ObjIn hp' self
    unfold ObjIn
    rw [hu.size]
    exact hin
  · show n0 ≤ hp'.size
    rw [hu.size]; exact hsize
  · intro c uc
    obtain ⟨h1, h2, h3, h4⟩ := huser c uc
    refine ⟨h1, h2, h3, ?_⟩
    show (hp'.block c).size = sz c
    by_cases hcD : c = D
    · rw [hcD, hu.dst, hsz, ← hcD, h4]
    · by_cases hcB : buf = some c
      · rw [hu.bufsz c hcB, h4]
      · rw [hu.other c hcD hcB, h4]

/-- **the caller allocates a new buffer between two calls** (a block with any content `a`, as `Driver/NttG.lean` does for the data of
    every call): the invariant holds again, re-based — the new block joins the caller's blocks -/
theorem GInv.callerAlloc {o0 : Obj} {n0 : Nat} {U : Nat → Prop} {sz : Nat → Nat} {hp : Heap} {self : NTT_Goldilocks}
    (h : GInv o0 n0 U sz (hp, self)) (a : Block) :
    GInv o0 (hp.size + 1) (fun c => U c ∨ c = hp.size) (fun c => if c = hp.size then a.size else sz c)
      ((hp.allocWith a).1, self) := by
  obtain ⟨⟨o, hbase, hwf, hrep⟩, hin, hdisj, hsize, huser⟩ := h
  simp only at hrep hin hdisj hsize huser
  have hpos : 0 < hp.size := by have := hin.1; omega
  have hpush : (hp.allocWith a).1 = hp.push a := rfl
  rw [hpush]
  refine ⟨⟨o, hbase, hwf, hrep.push hin a⟩, hin.push a, hdisj, by simp, ?_⟩
  intro c hc
  show c < hp.size + 1 ∧ c ≠ 0 ∧ ObjFrame self c ∧ ((hp.push a).block c).size = (if c = hp.size then a.size else sz c)
  rcases hc with uc | rfl
  · obtain ⟨h1, h2, h3, h4⟩ := huser c uc
    have hlt : c < hp.size := by omega
    refine ⟨by omega, h2, h3, ?_⟩
    rw [Heap.block_push_lt _ _ _ hlt, if_neg (by omega), h4]
  · refine ⟨by omega, by omega, ObjIn.frame_ge hin _ (Nat.le_refl _), ?_⟩
    rw [Heap.block_push_last _ _ _ rfl, if_pos rfl]

theorem BufArg.scratchOk {o0 : Obj} {n0 : Nat} {U : Nat → Prop} {sz : Nat → Nat} {hp : Heap} {self : NTT_Goldilocks}
    {buf : Option Nat} {D Sx n : Nat} (hb : BufArg U sz buf D Sx n) (hinv : GInv o0 n0 U sz (hp, self)) :
    ScratchOk hp self buf D Sx n := by
  intro B hB
  obtain ⟨uB, b1, b2, b3⟩ := hb B hB
  obtain ⟨c1, c2, c3, c4⟩ := hinv.user B uB
  have hs := hinv.size
  dsimp only at c3 c4 hs
  exact ⟨by omega, c2, Ne.symm b1, Ne.symm b2, c3, by omega⟩

section step
variable (m e : Nat) (o0 : Obj) (hobj : mkObj m e = some o0) (he : e ≤ 1)
variable (fuel : Nat) (hf : 64 ≤ fuel) (n0 : Nat) (U : Nat → Prop) (sz : Nat → Nat)

theorem sel_dst (hp : Heap) (mode : DstMode) (D Sx : Nat) (hmode : mode = .other ↔ D ≠ Sx) :
    (if mode = DstMode.other then hp.block D else hp.block Sx) = hp.block D := by
  by_cases h : D = Sx
  · have : mode ≠ .other := fun e => (hmode.mp e) h
    rw [if_neg this, h]
  · rw [if_pos (hmode.mpr h)]

include hobj he hf in
/-- `dptr` designates block `D` (NULL: then `D = Sx`); `inverse = true` is how `INTT` calls it -/
theorem ntt_hist_step (st : Heap × NTT_Goldilocks) (hinv : GInv o0 n0 U sz st) (D Sx d nc : Nat) (buf : Option Nat)
    (np nb : BitVec 64) (inverse : Bool) (mode : DstMode) (dptr : Ptr) (hmode : mode = .other ↔ D ≠ Sx)
    (hdst : (if (dptr == Ptr.null) = true then (⟨Sx, 0⟩ : Ptr) else dptr) = ⟨D, 0⟩)
    (uD : U D) (uS : U Sx) (hd30 : d ≤ 30) (hdm : 2 ^ d ≤ m) (hnc : 1 ≤ nc) (hbound : 2 ^ d * nc * 8 < 2 ^ 64)
    (hszD : 2 ^ d * nc ≤ sz D) (hf1 : d = 0 → nc < fuel) (hbuf : BufArg U sz buf D Sx (2 ^ d * nc)) :
    ∃ hp' out src, NTT_NTT fuel st.1 st.2 dptr ⟨Sx, 0⟩ (bv (2 ^ d)) (bv nc) (optPtr buf) np nb inverse false = some hp' ∧
      ntt o0 mode (st.1.block D) (st.1.block Sx) (2 ^ d) nc np.toNat nb.toNat inverse false = .ok (out, src) ∧
      hp'.block D = out ∧ (∀ b, U b → b ≠ D → buf ≠ some b → hp'.block b = st.1.block b) ∧
      GInv o0 n0 U sz (hp', st.2) := by
  obtain ⟨hp, self⟩ := st
  have hscr := hbuf.scratchOk hinv
  have hinv' := hinv
  obtain ⟨⟨o, hbase, hwf, hrep⟩, hin, hdisj, hsize, huser⟩ := hinv
  simp only at hrep hin hdisj hsize huser
  obtain ⟨hDn, hD0, hfrD, hDsz⟩ := huser D uD
  obtain ⟨hSn, hS0, hfrS, hSsz⟩ := huser Sx uS
  obtain ⟨k1, k2, k3⟩ := (Built.mk (by rw [hbase]; exact hobj) hwf he hdm : Built m e o d).bounds
  have hO := mkObj_ok_le m e o0 hobj he d hdm
  have hsel := sel_dst hp mode D Sx hmode
  obtain ⟨out, eo, hosz, _⟩ := ntt_spec o0 mode (hp.block D) (hp.block Sx) d nc np.toNat nb.toNat
    inverse false hO.dle hO.roots hnc (by rw [hsel]; omega)
  have hg := NTT_gen_opt fuel hp self o hrep hin D Sx buf (by omega) (by omega) hD0 hfrD mode hmode dptr hdst d (2 ^ d) nc np nb
    inverse false hd30 rfl k1 k2 hnc hbound k3 (by intro h; cases h) (itersFuel_le self d nc fuel hf hf1) (by omega) hscr
  rw [ntt_base, hbase, eo] at hg
  obtain ⟨hp', hrun, hu⟩ := hg
  exact ⟨hp', out, _, hrun, eo, hu.dst, fun b _ h1 h2 => hu.other b h1 h2,
    hinv'.upd hu uD (fun B hB => (hbuf B hB).1) (by rw [hosz, hsel])⟩

include hobj he hf in
theorem intt_hist_step (st : Heap × NTT_Goldilocks) (hinv : GInv o0 n0 U sz st) (D Sx d nc : Nat) (buf : Option Nat)
    (np nb : BitVec 64) (mode : DstMode) (dptr : Ptr) (hmode : mode = .other ↔ D ≠ Sx)
    (hdst : (if (dptr == Ptr.null) = true then (⟨Sx, 0⟩ : Ptr) else dptr) = ⟨D, 0⟩)
    (uD : U D) (uS : U Sx) (hd30 : d ≤ 30) (hdm : 2 ^ d ≤ m) (hnc : 1 ≤ nc) (hbound : 2 ^ d * nc * 8 < 2 ^ 64)
    (hszD : 2 ^ d * nc ≤ sz D) (hf1 : d = 0 → nc < fuel) (hbuf : BufArg U sz buf D Sx (2 ^ d * nc)) :
    ∃ hp' out src, NTT_INTT fuel st.1 st.2 dptr ⟨Sx, 0⟩ (bv (2 ^ d)) (bv nc) (optPtr buf) np nb false = some hp' ∧
      intt o0 mode (st.1.block D) (st.1.block Sx) (2 ^ d) nc np.toNat nb.toNat false = .ok (out, src) ∧
      hp'.block D = out ∧ (∀ b, U b → b ≠ D → buf ≠ some b → hp'.block b = st.1.block b) ∧
      GInv o0 n0 U sz (hp', st.2) := by
  obtain ⟨hN1, hN64, hNC64, _⟩ := sizes_ok hd30 rfl hbound
  rw [Model.Ntt.intt_eq_ntt, INTT_eq_NTT fuel st.1 st.2 dptr ⟨Sx, 0⟩ ⟨D, 0⟩ hdst (2 ^ d) nc hN1 hN64 hnc hNC64]
  exact ntt_hist_step m e o0 hobj he fuel hf n0 U sz st hinv D Sx d nc buf np nb true _ ⟨D, 0⟩ (mode_intt hmode)
    (sel_self D (hinv.user D uD).2.1 _) uD uS hd30 hdm hnc hbound hszD hf1 hbuf

include hobj he hf in
theorem extendPol_hist_step (st : Heap × NTT_Goldilocks) (hinv : GInv o0 n0 U sz st) (Out In de dn nc : Nat) (buf : Option Nat)
    (np nb : BitVec 64) (uO : U Out) (uI : U In) (hde : dn ≤ de) (hde30 : de ≤ 30) (hdm : 2 ^ dn ≤ m) (hnc : 1 ≤ nc)
    (hbound : 2 ^ de * nc * 8 < 2 ^ 64) (hszO : 2 ^ de * nc ≤ sz Out) (hf1 : dn = 0 → nc < fuel)
    (hbuf : BufArg U sz buf Out In (2 ^ de * nc)) :
    ∃ st' out o', NTT_extendPol fuel st.1 st.2 ⟨Out, 0⟩ ⟨In, 0⟩ (bv (2 ^ de)) (bv (2 ^ dn)) (bv nc) (optPtr buf) np nb = some st' ∧
      extendPol o0 (decide (Out = In)) (st.1.block Out) (st.1.block In) (2 ^ de) (2 ^ dn) nc np.toNat nb.toNat = .ok (o', out) ∧
      st'.1.block Out = out ∧ (∀ b, U b → b ≠ Out → buf ≠ some b → st'.1.block b = st.1.block b) ∧
      GInv o0 n0 U sz st' := by
  obtain ⟨hp, self⟩ := st
  have hscr := hbuf.scratchOk hinv
  obtain ⟨⟨o, hbase, hwf, hrep⟩, hin, hdisj, hsize, huser⟩ := hinv
  simp only at hrep hin hdisj hsize huser
  obtain ⟨hOn, hO0, hfrO, hOsz⟩ := huser Out uO
  obtain ⟨hIn', hI0, hfrI, hIsz⟩ := huser In uI
  have hB : Built m e o dn := ⟨by rw [hbase]; exact hobj, hwf, he, hdm⟩
  obtain ⟨k1, k2, k3⟩ := hB.bounds
  have hosize : 2 ^ de * nc ≤ (if decide (Out = In) = true then hp.block In else hp.block Out).size := by
    rw [sel_same hp.block Out In]; omega
  obtain ⟨o', out, eo, hosz, hwf', hbase', _⟩ := extendPol_spec o _ hB.ok (decide (Out = In)) (hp.block Out) (hp.block In) dn de nc
    np.toNat nb.toNat (Nat.le_refl _) hde (by omega) hnc hosize
  have hg := extendPol_gen_opt fuel hf hp self o hrep hin hdisj k2 k3 Out In buf (by omega) (by omega) hO0 hfrO hfrI dn de nc hde
    hde30 k1 hnc hbound np nb (by omega) hf1 hscr
  rw [eo] at hg
  obtain ⟨hp', self', hrun, hblk, hrep', hin', hdisj', hsz', hbsz, hkeep, hfr'⟩ := hg
  have efresh : extendPol o0 (decide (Out = In)) (hp.block Out) (hp.block In) (2 ^ de) (2 ^ dn) nc np.toNat nb.toNat =
      .ok (setCache o0 o'.rcache, out) := by
    have := extendPol_base o hwf (decide (Out = In)) (hp.block Out) (hp.block In) (2 ^ de) (2 ^ dn) nc np.toNat nb.toNat
    rw [hbase, eo] at this
    rw [← this]
    have : setCache o0 o'.rcache = o' := by rw [← hbase, ← hbase']; cases o'; rfl
    rw [this]
  have hosz' : out.size = (hp.block Out).size := by rw [hosz, sel_same hp.block Out In]
  refine ⟨(hp', self'), out, _, hrun, efresh, hblk, ?_, ?_⟩
  · intro b ub hb' hbb
    obtain ⟨h1, h2, h3, h4⟩ := huser b ub
    exact hkeep b (by omega) hb' hbb h3
  · refine ⟨⟨o', by rw [hbase', hbase], hwf', hrep'⟩, hin', hdisj', by simp only; omega, ?_⟩
    intro c uc
    obtain ⟨h1, h2, h3, h4⟩ := huser c uc
    refine ⟨h1, h2, hfr' c (by omega) h3, ?_⟩
    show (hp'.block c).size = _
    by_cases hcO : c = Out
    · rw [hcO, hblk, hosz', ← hcO, h4]
    · by_cases hcB : buf = some c
      · rw [hbsz c hcB, h4]
      · rw [hkeep c (by omega) hcO hcB h3, h4]

include hobj he hf in
/-- **one call after any history, buffers and `dst == NULL` included**: it returns; the destination block holds exactly what the
    hand model returns for the same arguments on the FRESH object; the caller's blocks other than the destination and the scratch
    buffer are unchanged; the invariant holds again (in particular the scratch buffer keeps its size) -/
theorem gcallB_step (st : Heap × NTT_Goldilocks) (hinv : GInv o0 n0 U sz st) (c : GCallB) (hok : c.ok m fuel U sz) :
    ∃ st' out src, c.run fuel st = some st' ∧ ((c.toCall st.1).run o0).2 = .ok (out, src) ∧ st'.1.block c.dst = out ∧
      (∀ b, U b → b ≠ c.dst → c.buf ≠ some b → st'.1.block b = st.1.block b) ∧ GInv o0 n0 U sz st' := by
  cases c with
  | ntt dst Sx d nc buf np nb =>
    obtain ⟨uD, uS, hd30, hdm, hnc, hbound, hszD, hf1, hbuf⟩ := hok
    obtain ⟨hmode, hdst⟩ := dst_facts dst Sx (hinv.user _ uD).2.1
    obtain ⟨hp', out, src, h1, h2, h3, h4, h5⟩ := ntt_hist_step m e o0 hobj he fuel hf n0 U sz st hinv (dst.getD Sx) Sx d nc buf np nb
      false (dstMode dst Sx) (optPtr dst) hmode hdst uD uS hd30 hdm hnc hbound hszD hf1 hbuf
    refine ⟨(hp', st.2), out, src, ?_, h2, h3, h4, h5⟩
    simp only [GCallB.run]; rw [h1]; rfl
  | intt dst Sx d nc buf np nb =>
    obtain ⟨uD, uS, hd30, hdm, hnc, hbound, hszD, hf1, hbuf⟩ := hok
    obtain ⟨hmode, hdst⟩ := dst_facts dst Sx (hinv.user _ uD).2.1
    obtain ⟨hp', out, src, h1, h2, h3, h4, h5⟩ := intt_hist_step m e o0 hobj he fuel hf n0 U sz st hinv (dst.getD Sx) Sx d nc buf np nb
      (dstMode dst Sx) (optPtr dst) hmode hdst uD uS hd30 hdm hnc hbound hszD hf1 hbuf
    refine ⟨(hp', st.2), out, src, ?_, h2, h3, h4, h5⟩
    simp only [GCallB.run]; rw [h1]; rfl
  | extendPol Out In de dn nc buf np nb =>
    obtain ⟨uO, uI, hde, hde30, hdm, hnc, hbound, hszO, hf1, hbuf⟩ := hok
    obtain ⟨st', out, o', h1, h2, h3, h4, h5⟩ := extendPol_hist_step m e o0 hobj he fuel hf n0 U sz st hinv Out In de dn nc buf np nb
      uO uI hde hde30 hdm hnc hbound hszO hf1 hbuf
    refine ⟨st', out, (if decide (Out = In) = true then out else st.1.block In), h1, ?_, h3, h4, h5⟩
    simp only [GCallB.toCall, Call.run]
    rw [h2]

include hobj he hf in
/-- **every history (buffers, `dst == NULL`) keeps the invariant** (and returns) -/
theorem runGB_inv (cs : List GCallB) : ∀ (st : Heap × NTT_Goldilocks), GInv o0 n0 U sz st → (∀ c, c ∈ cs → c.ok m fuel U sz) →
    ∃ st', runGB fuel st cs = some st' ∧ GInv o0 n0 U sz st' := by
  induction cs with
  | nil => intro st h _; exact ⟨st, rfl, h⟩
  | cons c cs ih =>
    intro st h hok
    obtain ⟨st1, _, _, hrun, _, _, _, hinv1⟩ := gcallB_step m e o0 hobj he fuel hf n0 U sz st h c (hok c List.mem_cons_self)
    obtain ⟨st', hr, hinv'⟩ := ih st1 hinv1 (fun c' hc' => hok c' (List.mem_cons_of_mem _ hc'))
    exact ⟨st', by simp only [runGB]; rw [hrun]; exact hr, hinv'⟩

include hobj he hf in
/-- **one call after any history**: it returns; the destination block holds exactly what the hand model returns for the same
    arguments on the FRESH object; the caller's other blocks are unchanged; the invariant holds again -/
theorem gcall_step (st : Heap × NTT_Goldilocks) (hinv : GInv o0 n0 U sz st) (c : GCall) (hok : c.ok m fuel U sz) :
    ∃ st' out src, c.run fuel st = some st' ∧ ((c.toCall st.1).run o0).2 = .ok (out, src) ∧ st'.1.block c.dst = out ∧
      (∀ b, U b → b ≠ c.dst → st'.1.block b = st.1.block b) ∧ GInv o0 n0 U sz st' := by
  obtain ⟨st', out, src, h1, h2, h3, h4, h5⟩ :=
    gcallB_step m e o0 hobj he fuel hf n0 U sz st hinv c.toB (GCall.toB_ok m fuel U sz c hok)
  rw [GCall.toB_run] at h1
  rw [GCall.toB_toCall] at h2
  rw [GCall.toB_dst] at h3
  exact ⟨st', out, src, h1, h2, h3, fun b ub hb => h4 b ub (by rw [GCall.toB_dst]; exact hb) (by rw [GCall.toB_buf]; nofun), h5⟩

include hobj he hf in
/-- **every history keeps the invariant** (and returns): after any sequence of valid calls the object state still represents the
    constructed object with an absent or valid cache -/
theorem runG_inv (cs : List GCall) : ∀ (st : Heap × NTT_Goldilocks), GInv o0 n0 U sz st → (∀ c, c ∈ cs → c.ok m fuel U sz) →
    ∃ st', runG fuel st cs = some st' ∧ GInv o0 n0 U sz st' := by
  intro st hinv hok
  have h := runGB_inv m e o0 hobj he fuel hf n0 U sz (cs.map GCall.toB) st hinv (fun c hc => by
    obtain ⟨c', hc', rfl⟩ := List.mem_map.mp hc
    exact GCall.toB_ok m fuel U sz c' (hok c' hc'))
  rw [runG_toB] at h
  exact h

end step

/-- the same call as a `HeapSafe.Call` (raw pointers, 64-bit sizes) -/
def GCallB.toRaw : GCallB → HeapSafe.Call
  | .ntt dst Sx d nc buf np nb => .ntt (optPtr dst) ⟨Sx, 0⟩ (bv (2 ^ d)) (bv nc) (optPtr buf) np nb false false
  | .intt dst Sx d nc buf np nb => .intt (optPtr dst) ⟨Sx, 0⟩ (bv (2 ^ d)) (bv nc) (optPtr buf) np nb false
  | .extendPol Out In de dn nc buf np nb => .extendPol ⟨Out, 0⟩ ⟨In, 0⟩ (bv (2 ^ de)) (bv (2 ^ dn)) (bv nc) (optPtr buf) np nb

theorem GCallB.toRaw_run (fuel : Nat) (st : Heap × NTT_Goldilocks) (c : GCallB) : HeapSafe.runCall fuel st c.toRaw = c.run fuel st := by
  cases c <;> rfl

theorem runGB_toRaw (fuel : Nat) (cs : List GCallB) : ∀ st, HeapSafe.runCalls fuel st (cs.map GCallB.toRaw) = runGB fuel st cs := by
  induction cs with
  | nil => intro st; rfl
  | cons c cs ih =>
    intro st
    simp only [List.map_cons, runGB, HeapSafe.runCalls, GCallB.toRaw_run]
    cases c.run fuel st with
    | none => rfl
    | some st' => exact ih st'

end GoldilocksVerif.BridgeNtt
