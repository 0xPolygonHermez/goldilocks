/-
  What the memset / memcpy sequence of one iteration of `linear_hash*` leaves in the state, slot by slot, as lists
  (used by Lemmas/BridgeSponge.lean).  Nothing here depends on generated code, so these proofs stay cached when /repo changes.
-/
import GoldilocksVerif.Lemmas.RegionL
import GoldilocksVerif.Lemmas.BridgeEquiv

namespace GoldilocksVerif
open Model

/-- Capacity feedback, for a state of `k` rate words followed by `m` capacity words: cleared in the first iteration (`c`),
    otherwise the first `m` words of the old state. -/
theorem cap_list (state : Region) (k m N : Nat) (hN : m ≤ N) (rem sizeN : Nat) (c : Bool) (hc : c = true ↔ rem = sizeN) :
    Region.toList (Region.shift
      (if c then Region.unshift state k (Region.zeroN (Region.shift state k) m)
        else Region.unshift state k (Region.copyN (Region.shift state k) state m)) k) m =
    (if rem = sizeN then zeros m else (Region.toList state N).take m) := by
  cases c with
  | true => rw [if_pos (hc.mp rfl), if_pos rfl, Region.shift_unshift, Region.toList_zeroN]
  | false =>
    rw [if_neg fun h => Bool.noConfusion (hc.mpr h), if_neg Bool.false_ne_true, Region.shift_unshift, Region.toList_copyN,
      Region.toList_take, Nat.min_eq_left hN]

/-! ### linear_hash_seq / linear_hash: 12-word state -/

/-- `memset` of the padding behind word `n`, then `memcpy` of the block to the front; the capacity words are untouched -/
theorem rate_list (S src : Region) (n : Nat) (hn : n ≤ 8) :
    Region.toList (Region.copyN (Region.unshift S n (Region.zeroN (Region.shift S n) (8 - n))) src n) 12 =
      (Region.toList src n ++ zeros (8 - n)) ++ Region.toList (Region.shift S 8) 4 := by
  rw [Region.toList_add _ 8 4]
  congr 1
  · refine Region.toList_pad hn fun i hi => ?_
    simp only [Region.copyN_apply, GenEquiv.pt_unshift_zeroN]
    split_ifs <;> first | rfl | omega
  · refine Region.toList_congr fun i hi => ?_
    simp only [Region.shift_apply, Region.copyN_apply, GenEquiv.pt_unshift_zeroN]
    split_ifs <;> first | rfl | omega

/-- the three region updates of one iteration build `block ++ zero padding ++ capacity` -/
theorem block_list (state input : Region) (sizeN rem n : Nat) (hn : n = min rem 8) (hrem : rem ≤ sizeN) (c : Bool)
    (hc : c = true ↔ rem = sizeN) :
    Region.toList
      (Region.copyN
        (Region.unshift
          (if c then Region.unshift state 8 (Region.zeroN (Region.shift state 8) 4)
            else Region.unshift state 8 (Region.copyN (Region.shift state 8) state 4)) n
          (Region.zeroN (Region.shift
            (if c then Region.unshift state 8 (Region.zeroN (Region.shift state 8) 4)
              else Region.unshift state 8 (Region.copyN (Region.shift state 8) state 4)) n) (8 - n)))
        (Region.shift input (sizeN - rem)) n) 12 =
    (((Region.toList input sizeN).drop (sizeN - rem)).take n ++ zeros (8 - n)) ++
      (if rem = sizeN then zeros 4 else (Region.toList state 12).take 4) := by
  rw [Region.toList_drop_take input (by omega), rate_list _ _ n (by omega), cap_list state 8 4 12 (by omega) rem sizeN c hc]

/-! ### linear_hash_avx512: two interleaved states, 24 words -/

/-- A 16-word rate part read slot by slot: words 0..3 / 4..7 hold the first four words of the blocks `a` / `b` (each
    `n ≤ 8` words long), words 8..11 / 12..15 their remaining words, every slot zero padded.  This is the layout
    `Model.lh512Loop` builds with lists. -/
theorem toList_interleaved {F a b : Region} {n : Nat} (hn : n ≤ 8)
    (h0 : ∀ i < 4, F i = if i < min n 4 then a i else 0#64)
    (h1 : ∀ i < 4, F (4 + i) = if i < min n 4 then b i else 0#64)
    (h2 : ∀ i < 4, F (8 + i) = if i < n - 4 then a (4 + i) else 0#64)
    (h3 : ∀ i < 4, F (12 + i) = if i < n - 4 then b (4 + i) else 0#64) :
    Region.toList F 16 =
      (((Region.toList a n).take 4 ++ zeros (4 - min n 4)) ++ ((Region.toList b n).take 4 ++ zeros (4 - min n 4))) ++
      (((Region.toList a n).drop 4 ++ zeros (4 - (n - 4))) ++ ((Region.toList b n).drop 4 ++ zeros (4 - (n - 4)))) := by
  have hm : min n 4 ≤ 4 := Nat.min_le_right n 4
  have e0 : Region.toList F 4 = _ := Region.toList_pad (src := a) hm h0
  have e1 : Region.toList (Region.shift F 4) 4 = _ := Region.toList_pad (src := b) hm h1
  have e2 : Region.toList (Region.shift F 8) 4 = _ := Region.toList_pad (src := Region.shift a 4) (m := n - 4) (by omega) h2
  have e3 : Region.toList (Region.shift F 12) 4 = _ := Region.toList_pad (src := Region.shift b 4) (m := n - 4) (by omega) h3
  simp only [Region.toList_take, Region.toList_drop, Nat.min_comm 4 n]
  rw [Region.toList_add F 12 4, Region.toList_add F 8 4, Region.toList_add F 4 4, e0, e1, e2, e3, List.append_assoc _ _ (_ ++ _)]

/-- `unshift s k (copyN (shift s k) src m)` is how `memcpy(s + k, src, m)` is translated: outside `[k, k + m)` it is `s` -/
theorem memcpy_frame (s src : Region) {k m j : Nat} (h : j < k ∨ k + m ≤ j) :
    Region.unshift s k (Region.copyN (Region.shift s k) src m) j = s j := by
  rw [GenEquiv.pt_unshift_copyN, if_neg (by omega)]

theorem memcpy_hit (s src : Region) (k : Nat) {m i : Nat} (h : i < m) :
    Region.unshift s k (Region.copyN (Region.shift s k) src m) (k + i) = src i := by
  rw [GenEquiv.pt_unshift_copyN, if_pos (by omega), Nat.add_sub_cancel_left]

/-- the two blocks `A`, `B` of at most four words each go to slots 0 and 1 of the cleared rate part -/
theorem rate512_small (s1 A B : Region) (n : Nat) (hn4 : n ≤ 4) :
    Region.toList
      (Region.unshift (Region.copyN (Region.zeroN s1 16) A n) 4
        (Region.copyN (Region.shift (Region.copyN (Region.zeroN s1 16) A n) 4) B n)) 24 =
    (((Region.toList A n).take 4 ++ zeros (4 - min n 4)) ++ ((Region.toList B n).take 4 ++ zeros (4 - min n 4))) ++
    (((Region.toList A n).drop 4 ++ zeros (4 - (n - 4))) ++ ((Region.toList B n).drop 4 ++ zeros (4 - (n - 4)))) ++
    Region.toList (Region.shift s1 16) 8 := by
  rw [Region.toList_add _ 16 8]
  congr 1
  · refine toList_interleaved (by omega) ?_ ?_ ?_ ?_ <;> intro i hi
    · rw [memcpy_frame _ _ (.inl (by omega)), Region.copyN_apply, Region.zeroN_apply]
      by_cases h : i < n
      · rw [if_pos h, if_pos (by omega)]
      · rw [if_neg h, if_pos (by omega), if_neg (by omega)]
    · by_cases h : i < n
      · rw [memcpy_hit _ _ 4 h, if_pos (by omega)]
      · rw [memcpy_frame _ _ (.inr (by omega)), Region.copyN_apply, if_neg (by omega), Region.zeroN_apply, if_pos (by omega),
          if_neg (by omega)]
    · rw [memcpy_frame _ _ (.inr (by omega)), Region.copyN_apply, if_neg (by omega), Region.zeroN_apply, if_pos (by omega),
        if_neg (by omega)]
    · rw [memcpy_frame _ _ (.inr (by omega)), Region.copyN_apply, if_neg (by omega), Region.zeroN_apply, if_pos (by omega),
        if_neg (by omega)]
  · refine Region.toList_congr fun i hi => ?_
    rw [Region.shift_apply, Region.shift_apply, memcpy_frame _ _ (.inr (by omega)), Region.copyN_apply, if_neg (by omega),
      Region.zeroN_apply, if_neg (by omega)]

/-- blocks of more than four words: the first four words of `A`, `B` go to slots 0 and 1, the rest to slots 2 and 3 -/
theorem rate512_big (s1 A B : Region) (n : Nat) (hn4 : 4 < n) (hn8 : n ≤ 8) :
    Region.toList
      (Region.unshift
        (Region.unshift
          (Region.unshift (Region.copyN (Region.zeroN s1 16) A 4) 4
            (Region.copyN (Region.shift (Region.copyN (Region.zeroN s1 16) A 4) 4) B 4)) 8
          (Region.copyN
            (Region.shift
              (Region.unshift (Region.copyN (Region.zeroN s1 16) A 4) 4
                (Region.copyN (Region.shift (Region.copyN (Region.zeroN s1 16) A 4) 4) B 4)) 8)
            (Region.shift A 4) (n - 4))) 12
        (Region.copyN
          (Region.shift
            (Region.unshift
              (Region.unshift (Region.copyN (Region.zeroN s1 16) A 4) 4
                (Region.copyN (Region.shift (Region.copyN (Region.zeroN s1 16) A 4) 4) B 4)) 8
              (Region.copyN
                (Region.shift
                  (Region.unshift (Region.copyN (Region.zeroN s1 16) A 4) 4
                    (Region.copyN (Region.shift (Region.copyN (Region.zeroN s1 16) A 4) 4) B 4)) 8)
                (Region.shift A 4) (n - 4))) 12)
          (Region.shift B 4) (n - 4))) 24 =
    (((Region.toList A n).take 4 ++ zeros (4 - min n 4)) ++ ((Region.toList B n).take 4 ++ zeros (4 - min n 4))) ++
    (((Region.toList A n).drop 4 ++ zeros (4 - (n - 4))) ++ ((Region.toList B n).drop 4 ++ zeros (4 - (n - 4)))) ++
    Region.toList (Region.shift s1 16) 8 := by
  rw [Region.toList_add _ 16 8]
  congr 1
  -- word by word: which of the four copies (to offsets 0, 4, 8, 12) is the last to write it
  · refine toList_interleaved hn8 ?_ ?_ ?_ ?_ <;> intro i hi
    · rw [memcpy_frame _ _ (.inl (by omega)), memcpy_frame _ _ (.inl (by omega)), memcpy_frame _ _ (.inl (by omega)),
        Region.copyN_apply, if_pos hi, if_pos (by omega)]
    · rw [memcpy_frame _ _ (.inl (by omega)), memcpy_frame _ _ (.inl (by omega)), memcpy_hit _ _ 4 hi, if_pos (by omega)]
    · by_cases h : i < n - 4
      · rw [memcpy_frame _ _ (.inl (by omega)), memcpy_hit _ _ 8 h, if_pos h, Region.shift_apply]
      · rw [memcpy_frame _ _ (.inl (by omega)), memcpy_frame _ _ (.inr (by omega)), memcpy_frame _ _ (.inr (by omega)),
          Region.copyN_apply, if_neg (by omega), Region.zeroN_apply, if_pos (by omega), if_neg h]
    · by_cases h : i < n - 4
      · rw [memcpy_hit _ _ 12 h, if_pos h, Region.shift_apply]
      · rw [memcpy_frame _ _ (.inr (by omega)), memcpy_frame _ _ (.inr (by omega)), memcpy_frame _ _ (.inr (by omega)),
          Region.copyN_apply, if_neg (by omega), Region.zeroN_apply, if_pos (by omega), if_neg h]
  · refine Region.toList_congr fun i hi => ?_
    rw [Region.shift_apply, Region.shift_apply, memcpy_frame _ _ (.inr (by omega)), memcpy_frame _ _ (.inr (by omega)),
      memcpy_frame _ _ (.inr (by omega)), Region.copyN_apply, if_neg (by omega), Region.zeroN_apply, if_neg (by omega)]

theorem block512_small (s1 input : Region) (sizeN rem n : Nat) (hn : n = min rem 8) (hrem : rem ≤ sizeN)
    (hn4 : n ≤ 4) :
    Region.toList
      (Region.unshift
        (Region.copyN (Region.zeroN s1 16) (Region.shift input (sizeN - rem)) n) 4
        (Region.copyN
          (Region.shift (Region.copyN (Region.zeroN s1 16) (Region.shift input (sizeN - rem)) n) 4)
          (Region.shift (Region.shift input sizeN) (sizeN - rem)) n)) 24 =
    (((((Region.toList input (2 * sizeN)).drop (sizeN - rem)).take n).take 4 ++ zeros (4 - min n 4)) ++
      ((((Region.toList input (2 * sizeN)).drop (sizeN + (sizeN - rem))).take n).take 4 ++ zeros (4 - min n 4))) ++
    ((((((Region.toList input (2 * sizeN)).drop (sizeN - rem)).take n).drop 4) ++ zeros (4 - (n - 4))) ++
      (((((Region.toList input (2 * sizeN)).drop (sizeN + (sizeN - rem))).take n).drop 4) ++ zeros (4 - (n - 4)))) ++
    Region.toList (Region.shift s1 16) 8 := by
  rw [Region.toList_drop_take input (by omega), Region.toList_drop_take input (by omega),
    ← Region.shift_shift input sizeN (sizeN - rem)]
  exact rate512_small s1 _ _ n hn4

theorem block512_big (s1 input : Region) (sizeN rem n : Nat) (hn : n = min rem 8) (hrem : rem ≤ sizeN)
    (hn4 : 4 < n) :
    Region.toList
      (Region.unshift
        (Region.unshift
          (Region.unshift
            (Region.copyN (Region.zeroN s1 16) (Region.shift input (sizeN - rem)) 4) 4
            (Region.copyN (Region.shift (Region.copyN (Region.zeroN s1 16) (Region.shift input (sizeN - rem)) 4) 4)
              (Region.shift (Region.shift input sizeN) (sizeN - rem)) 4)) 8
          (Region.copyN
            (Region.shift
              (Region.unshift
                (Region.copyN (Region.zeroN s1 16) (Region.shift input (sizeN - rem)) 4) 4
                (Region.copyN (Region.shift (Region.copyN (Region.zeroN s1 16) (Region.shift input (sizeN - rem)) 4) 4)
                  (Region.shift (Region.shift input sizeN) (sizeN - rem)) 4)) 8)
            (Region.shift (Region.shift input (sizeN - rem)) 4) (n - 4))) 12
        (Region.copyN
          (Region.shift
            (Region.unshift
              (Region.unshift
                (Region.copyN (Region.zeroN s1 16) (Region.shift input (sizeN - rem)) 4) 4
                (Region.copyN (Region.shift (Region.copyN (Region.zeroN s1 16) (Region.shift input (sizeN - rem)) 4) 4)
                  (Region.shift (Region.shift input sizeN) (sizeN - rem)) 4)) 8
              (Region.copyN
                (Region.shift
                  (Region.unshift
                    (Region.copyN (Region.zeroN s1 16) (Region.shift input (sizeN - rem)) 4) 4
                    (Region.copyN (Region.shift (Region.copyN (Region.zeroN s1 16) (Region.shift input (sizeN - rem)) 4) 4)
                      (Region.shift (Region.shift input sizeN) (sizeN - rem)) 4)) 8)
                (Region.shift (Region.shift input (sizeN - rem)) 4) (n - 4))) 12)
          (Region.shift (Region.shift (Region.shift input sizeN) (sizeN - rem)) 4) (n - 4))) 24 =
    (((((Region.toList input (2 * sizeN)).drop (sizeN - rem)).take n).take 4 ++ zeros (4 - min n 4)) ++
      ((((Region.toList input (2 * sizeN)).drop (sizeN + (sizeN - rem))).take n).take 4 ++ zeros (4 - min n 4))) ++
    ((((((Region.toList input (2 * sizeN)).drop (sizeN - rem)).take n).drop 4) ++ zeros (4 - (n - 4))) ++
      (((((Region.toList input (2 * sizeN)).drop (sizeN + (sizeN - rem))).take n).drop 4) ++ zeros (4 - (n - 4)))) ++
    Region.toList (Region.shift s1 16) 8 := by
  rw [Region.toList_drop_take input (by omega), Region.toList_drop_take input (by omega),
    ← Region.shift_shift input sizeN (sizeN - rem)]
  exact rate512_big s1 _ _ n hn4 (by omega)

end GoldilocksVerif
