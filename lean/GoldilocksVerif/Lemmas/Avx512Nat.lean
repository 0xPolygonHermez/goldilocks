/-
  AVX-512 lane kernels (Gen/Avx512.lean, regenerated from goldilocks_base_field_avx512.hpp) on `Nat`.

  Proof scheme = the one of `Avx2Nat.lean`: one statement per kernel about the lane `(K a b).get i`;
  `lane_get` here also reads the masked operations at one lane: `mask_add/sub_epi64` under any `vpcmpuq` predicate become the
  folded lane functions `Lane.ultSel` / `Lane.eqSel` (`cmplt(a,b)` and `cmpgt(b,a)`, `≤` / `≥` with exchanged branches give the
  same term); masked subtract of `P` / masked add of `2^64 - P` are the same number for `omega`.  Callers (`add_avx512`,
  `sub_avx512`, the reductions, `mult`, `square`) use the statements of their callees whether the callee is called or its body
  is repeated, with either operand order of the exact products.
-/
import GoldilocksVerif.Gen.Avx512
import GoldilocksVerif.Lemmas.Avx2Nat
set_option linter.unusedSimpArgs false
namespace GoldilocksVerif.Avx512

theorem bit_getLsbD (c : Bool) (j : Nat) (hj : j < 8) (i : Fin 8) :
    (bit c j).getLsbD i.val = (c && decide (i.val = j)) := by
  cases c
  · simp [bit]
  · simp only [bit, if_true, Bool.true_and]
    have : ∀ j i : Fin 8, (BitVec.ofNat 8 (2 ^ j.val)).getLsbD i.val = decide (i.val = j.val) := by decide
    exact this ⟨j, hj⟩ i

theorem mask8_getLsbD (p : BitVec 64 → BitVec 64 → Bool) (a b : V8) (i : Fin 8) :
    (mask8 p a b).getLsbD i.val = p (a.get i) (b.get i) := by
  unfold mask8
  simp only [BitVec.getLsbD_or]
  rw [bit_getLsbD _ 0 (by omega), bit_getLsbD _ 1 (by omega), bit_getLsbD _ 2 (by omega), bit_getLsbD _ 3 (by omega),
    bit_getLsbD _ 4 (by omega), bit_getLsbD _ 5 (by omega), bit_getLsbD _ 6 (by omega), bit_getLsbD _ 7 (by omega)]
  match i with
  | ⟨0, _⟩ => simp [V8.get] | ⟨1, _⟩ => simp [V8.get] | ⟨2, _⟩ => simp [V8.get] | ⟨3, _⟩ => simp [V8.get]
  | ⟨4, _⟩ => simp [V8.get] | ⟨5, _⟩ => simp [V8.get] | ⟨6, _⟩ => simp [V8.get] | ⟨7, _⟩ => simp [V8.get]

theorem k255_getLsbD (i : Fin 8) : (255#8 : BitVec 8).getLsbD i.val = true := by revert i; decide

theorem get_mask_add (src : V8) (k : BitVec 8) (a b : V8) (i : Fin 8) :
    (mask_add_epi64 src k a b).get i = sel k i.val (a.get i + b.get i) (src.get i) := by
  match i with
  | 0 => rfl | 1 => rfl | 2 => rfl | 3 => rfl | 4 => rfl | 5 => rfl | 6 => rfl | 7 => rfl
theorem get_mask_sub (src : V8) (k : BitVec 8) (a b : V8) (i : Fin 8) :
    (mask_sub_epi64 src k a b).get i = sel k i.val (a.get i - b.get i) (src.get i) := by
  match i with
  | 0 => rfl | 1 => rfl | 2 => rfl | 3 => rfl | 4 => rfl | 5 => rfl | 6 => rfl | 7 => rfl

theorem sel_mask8 (p : BitVec 64 → BitVec 64 → Bool) (a b : V8) (i : Fin 8) (u v : BitVec 64) :
    sel (mask8 p a b) i.val u v = if p (a.get i) (b.get i) then u else v := by
  unfold sel; rw [mask8_getLsbD]
theorem sel_mask8_255 (p : BitVec 64 → BitVec 64 → Bool) (a b : V8) (i : Fin 8) (u v : BitVec 64) :
    sel (mask8 p a b &&& 255#8) i.val u v = if p (a.get i) (b.get i) then u else v := by
  unfold sel; rw [BitVec.getLsbD_and, k255_getLsbD, Bool.and_true, mask8_getLsbD]

theorem ite_lt (x y u v : BitVec 64) : (if decide (x < y) then u else v) = Lane.ultSel x y u v := by
  unfold Lane.ultSel; by_cases h : x < y <;> simp [h]
theorem ite_le (x y u v : BitVec 64) : (if decide (x ≤ y) then u else v) = Lane.ultSel y x v u := by
  unfold Lane.ultSel
  by_cases h : y < x
  · have : ¬ x ≤ y := by rw [BitVec.le_def]; rw [BitVec.lt_def] at h; omega
    simp [h, this]
  · have : x ≤ y := by rw [BitVec.le_def]; rw [BitVec.lt_def] at h; omega
    simp [h, this]
theorem ite_beq (x y u v : BitVec 64) : (if (x == y) then u else v) = Lane.eqSel x y u v := by
  unfold Lane.eqSel; by_cases h : x = y <;> simp [h]
theorem ite_bne (x y u v : BitVec 64) : (if (x != y) then u else v) = Lane.eqSel x y v u := by
  unfold Lane.eqSel; by_cases h : x = y <;> simp [h]

/-- `vpcmpuq` with immediate 1 (`<`), 2 (`≤`), 5 (`≥`), 6 (`>`), 0 (`=`), 4 (`≠`) and a full write mask -/
theorem sel_ucmp_lt (a b : V8) (i : Fin 8) (u v : BitVec 64) :
    sel (ucmpq512_mask a b 1 255#8) i.val u v = Lane.ultSel (a.get i) (b.get i) u v := by
  have h : ucmpq512_mask a b 1 255#8 = mask8 (fun x y => decide (x < y)) a b &&& 255#8 := rfl
  rw [h, sel_mask8_255, ite_lt]
theorem sel_ucmp_le (a b : V8) (i : Fin 8) (u v : BitVec 64) :
    sel (ucmpq512_mask a b 2 255#8) i.val u v = Lane.ultSel (b.get i) (a.get i) v u := by
  have h : ucmpq512_mask a b 2 255#8 = mask8 (fun x y => decide (x ≤ y)) a b &&& 255#8 := rfl
  rw [h, sel_mask8_255, ite_le]
theorem sel_ucmp_ge (a b : V8) (i : Fin 8) (u v : BitVec 64) :
    sel (ucmpq512_mask a b 5 255#8) i.val u v = Lane.ultSel (a.get i) (b.get i) v u := by
  have h : ucmpq512_mask a b 5 255#8 = mask8 (fun x y => decide (y ≤ x)) a b &&& 255#8 := rfl
  rw [h, sel_mask8_255, ite_le]
theorem sel_ucmp_gt (a b : V8) (i : Fin 8) (u v : BitVec 64) :
    sel (ucmpq512_mask a b 6 255#8) i.val u v = Lane.ultSel (b.get i) (a.get i) u v := by
  have h : ucmpq512_mask a b 6 255#8 = mask8 (fun x y => decide (y < x)) a b &&& 255#8 := rfl
  rw [h, sel_mask8_255, ite_lt]
theorem sel_ucmp_eq (a b : V8) (i : Fin 8) (u v : BitVec 64) :
    sel (ucmpq512_mask a b 0 255#8) i.val u v = Lane.eqSel (a.get i) (b.get i) u v := by
  have h : ucmpq512_mask a b 0 255#8 = mask8 (fun x y => x == y) a b &&& 255#8 := rfl
  rw [h, sel_mask8_255, ite_beq]
theorem sel_ucmp_ne (a b : V8) (i : Fin 8) (u v : BitVec 64) :
    sel (ucmpq512_mask a b 4 255#8) i.val u v = Lane.eqSel (a.get i) (b.get i) v u := by
  have h : ucmpq512_mask a b 4 255#8 = mask8 (fun x y => x != y) a b &&& 255#8 := rfl
  rw [h, sel_mask8_255, ite_bne]
theorem sel_cmplt (a b : V8) (i : Fin 8) (u v : BitVec 64) :
    sel (cmplt_epu64_mask a b) i.val u v = Lane.ultSel (a.get i) (b.get i) u v := by
  unfold cmplt_epu64_mask; rw [sel_mask8, ite_lt]
theorem sel_cmple (a b : V8) (i : Fin 8) (u v : BitVec 64) :
    sel (cmple_epu64_mask a b) i.val u v = Lane.ultSel (b.get i) (a.get i) v u := by
  unfold cmple_epu64_mask; rw [sel_mask8, ite_le]
theorem sel_cmpge (a b : V8) (i : Fin 8) (u v : BitVec 64) :
    sel (cmpge_epu64_mask a b) i.val u v = Lane.ultSel (a.get i) (b.get i) v u := by
  unfold cmpge_epu64_mask; rw [sel_mask8, ite_le]
theorem sel_cmpgt (a b : V8) (i : Fin 8) (u v : BitVec 64) :
    sel (cmpgt_epu64_mask a b) i.val u v = Lane.ultSel (b.get i) (a.get i) u v := by
  unfold cmpgt_epu64_mask; rw [sel_mask8, ite_lt]
theorem sel_cmpeq (a b : V8) (i : Fin 8) (u v : BitVec 64) :
    sel (cmpeq_epu64_mask a b) i.val u v = Lane.eqSel (a.get i) (b.get i) u v := by
  unfold cmpeq_epu64_mask; rw [sel_mask8, ite_beq]
theorem sel_cmpneq (a b : V8) (i : Fin 8) (u v : BitVec 64) :
    sel (cmpneq_epu64_mask a b) i.val u v = Lane.eqSel (a.get i) (b.get i) v u := by
  unfold cmpneq_epu64_mask; rw [sel_mask8, ite_bne]

theorem get_blend_aaaa (a b : V8) (i : Fin 8) :
    (mask_blend_epi32 43690 a b).get i = Lane.blend32 2 (a.get i) (b.get i) := by
  match i with
  | 0 => rfl | 1 => rfl | 2 => rfl | 3 => rfl | 4 => rfl | 5 => rfl | 6 => rfl | 7 => rfl
@[simp] theorem get_set_same (c : BitVec 64) (i : Fin 8) : (set_epi64 c c c c c c c c).get i = c := by
  match i with
  | 0 => rfl | 1 => rfl | 2 => rfl | 3 => rfl | 4 => rfl | 5 => rfl | 6 => rfl | 7 => rfl
theorem get_set1 (c : BitVec 64) (i : Fin 8) : (set1_epi64 c).get i = c := by
  match i with
  | 0 => rfl | 1 => rfl | 2 => rfl | 3 => rfl | 4 => rfl | 5 => rfl | 6 => rfl | 7 => rfl
theorem get_set4_same (c : BitVec 64) (i : Fin 8) : (set4_epi64 c c c c).get i = c := by
  match i with
  | 0 => rfl | 1 => rfl | 2 => rfl | 3 => rfl | 4 => rfl | 5 => rfl | 6 => rfl | 7 => rfl

end GoldilocksVerif.Avx512

namespace GoldilocksVerif
open Gen.Avx512 Gen.VecConsts Lane Avx512

attribute [lane_get] Avx512.mask_mov_epi32 Avx512.add_epi64 Avx512.sub_epi64 Avx512.and_si512 Avx512.xor_si512 Avx512.or_si512
  Avx512.andnot_si512 Avx512.srli_epi64 Avx512.slli_epi64 Avx512.mul_epu32 Avx512.movehdup_ps Avx512.moveldup_ps
  V8.get_map V8.get_map2 V8.get_splat Avx512.get_set_same Avx512.get_set1 Avx512.get_set4_same Avx512.get_blend_aaaa
  Avx512.get_mask_add Avx512.get_mask_sub Avx512.sel_ucmp_lt Avx512.sel_ucmp_le Avx512.sel_ucmp_ge Avx512.sel_ucmp_gt
  Avx512.sel_ucmp_eq Avx512.sel_ucmp_ne Avx512.sel_cmplt Avx512.sel_cmple Avx512.sel_cmpge Avx512.sel_cmpgt
  Avx512.sel_cmpeq Avx512.sel_cmpneq g_P8 g_P8_n g_sqmask8

theorem canon512_spec (a : V8) (i : Fin 8) : ((toCanonical_avx512 a).get i).toNat = (a.get i).toNat % P := by
  simp only [toCanonical_avx512, lane_get, lane_nat, P]
  simp only [ltN_def]
  have hx := (a.get i).isLt
  split <;> omega

/-- add_avx512_b_c : second operand canonical (the proof needs only a + b < 2^64 + p) -/
theorem add512_b_c_spec (a b : V8) (i : Fin 8) (hb : (a.get i).toNat + (b.get i).toNat < 18446744073709551616 + P) :
    ((add_avx512_b_c a b).get i).toNat % P = ((a.get i).toNat + (b.get i).toNat) % P := by
  simp only [add_avx512_b_c, lane_get, lane_nat, P] at *
  simp only [ltN_def]
  have hx := (a.get i).isLt
  have hy := (b.get i).isLt
  split <;> omega

theorem sub512_b_c_spec (a b : V8) (i : Fin 8) (hb : (b.get i).toNat < P) :
    (((sub_avx512_b_c a b).get i).toNat + (b.get i).toNat) % P = (a.get i).toNat % P := by
  simp only [sub_avx512_b_c, lane_get, lane_nat, P] at *
  simp only [ltN_def]
  have hx := (a.get i).isLt
  split <;> omega

/-- add_avx512 : canonicalise the first operand, then the `_b_c` addition (called, or its body repeated) -/
theorem add512_spec (a b : V8) (i : Fin 8) :
    ((add_avx512__wWW a b).get i).toNat % P = ((a.get i).toNat + (b.get i).toNat) % P := by
  have hc := canon512_spec a i
  have hP : (a.get i).toNat % P < P := Nat.mod_lt _ P_pos
  have hy := (b.get i).isLt
  simp only [add_avx512__wWW]
  generalize toCanonical_avx512 a = ac at *
  first
    | -- the `_b_c` kernel is called (the canonical operand in either position)
      (rw [add512_b_c_spec _ _ i (by omega)]
       simp only [P] at *
       omega)
    | -- its body is repeated
      (simp only [lane_get, lane_nat]
       simp only [ltN_def]
       have hxc := (ac.get i).isLt
       simp only [P] at *
       split <;> omega)

theorem sub512_spec (a b : V8) (i : Fin 8) :
    (((sub_avx512__wWW a b).get i).toNat + (b.get i).toNat) % P = (a.get i).toNat % P := by
  have hc := canon512_spec b i
  have hP : (b.get i).toNat % P < P := Nat.mod_lt _ P_pos
  have hy := (b.get i).isLt
  have hx := (a.get i).isLt
  simp only [sub_avx512__wWW]
  generalize toCanonical_avx512 b = bc at *
  first
    | (have h := sub512_b_c_spec a bc i (by omega)
       simp only [P] at *
       omega)
    | (simp only [lane_get, lane_nat]
       simp only [ltN_def]
       have hyc := (bc.get i).isLt
       simp only [P] at *
       split <;> omega)

theorem mult512_128_spec (a b : V8) (i : Fin 8) :
    ((mult_avx512_128 a b).1.get i).toNat * 18446744073709551616 + ((mult_avx512_128 a b).2.get i).toNat =
      (a.get i).toNat * (b.get i).toNat := by
  simp only [mult_avx512_128, lane_get, lane_nat]
  obtain ⟨h1, h2, h3, h4, key⟩ := mul128_facts (a.get i).toNat (b.get i).toNat (a.get i).isLt (b.get i).isLt
  products_omega (a.get i), (b.get i)

theorem reduce512_128_spec (h l : V8) (i : Fin 8) :
    ((reduce_avx512_128_64 h l).get i).toNat % P = ((h.get i).toNat * 18446744073709551616 + (l.get i).toNat) % P := by
  -- the call structure: subtract the top 32 bits, add (low 32 bits of c_h)·(2^32-1); either factor order
  have e : (reduce_avx512_128_64 h l).get i =
      (add_avx512_b_c (sub_avx512_b_c l (Avx512.srli_epi64 h 32)) (Avx512.mul_epu32 h g_P8_n)).get i := by
    simp only [reduce_avx512_128_64, sub_avx512_b_c, add_avx512_b_c, lane_get, Pn_mul32]
  have e1 : ((Avx512.srli_epi64 h 32).get i).toNat = (h.get i).toNat / 4294967296 := by
    simp only [lane_get]; exact ushr32_toNat _
  have e2 : ((Avx512.mul_epu32 h g_P8_n).get i).toNat = (h.get i).toNat % 4294967296 * 4294967295 := by
    simp only [lane_get]; exact mul32_Pn_toNat _
  have hh := (h.get i).isLt
  have b2 : (h.get i).toNat % 4294967296 * 4294967295 ≤ 18446744065119617025 := mul32_le _ _ (by omega) (by omega)
  have s1 := sub512_b_c_spec l (Avx512.srli_epi64 h 32) i (by rw [e1]; unfold P; omega)
  have s2 := add512_b_c_spec (sub_avx512_b_c l (Avx512.srli_epi64 h 32)) (Avx512.mul_epu32 h g_P8_n) i (by
    rw [e2]
    have := ((sub_avx512_b_c l (Avx512.srli_epi64 h 32)).get i).isLt
    unfold P; omega)
  rw [e1] at s1
  rw [e2] at s2
  rw [e]
  exact reduce128_core _ (h.get i).toNat (l.get i).toNat _ s1 s2

theorem mult512_spec (a b : V8) (i : Fin 8) :
    ((mult_avx512 a b).get i).toNat % P = ((a.get i).toNat * (b.get i).toNat) % P := by
  simp only [mult_avx512]
  rw [reduce512_128_spec, mult512_128_spec]

theorem mult512_72_spec (a b : V8) (i : Fin 8) :
    ((mult_avx512_72 a b).1.get i).toNat * 18446744073709551616 + ((mult_avx512_72 a b).2.get i).toNat =
      (a.get i).toNat * ((b.get i).toNat % 4294967296) ∧ ((mult_avx512_72 a b).1.get i).toNat < 4294967296 := by
  simp only [mult_avx512_72, lane_get, lane_nat]
  obtain ⟨h2, h4, key⟩ := mul72_facts (a.get i).toNat (b.get i).toNat (a.get i).isLt
  products_omega (a.get i), (b.get i)

/-- reduce_avx512_96_64 : uses the low 32 bits of c_h only -/
theorem reduce512_96_spec (h l : V8) (i : Fin 8) :
    ((reduce_avx512_96_64 h l).get i).toNat % P =
      ((h.get i).toNat % 4294967296 * 18446744073709551616 + (l.get i).toNat) % P := by
  have e : (reduce_avx512_96_64 h l).get i = (add_avx512_b_c l (Avx512.mul_epu32 h g_P8_n)).get i := by
    simp only [reduce_avx512_96_64, add_avx512_b_c, lane_get, Pn_mul32]
  have e2 : ((Avx512.mul_epu32 h g_P8_n).get i).toNat = (h.get i).toNat % 4294967296 * 4294967295 := by
    simp only [lane_get]; exact mul32_Pn_toNat _
  have b2 : (h.get i).toNat % 4294967296 * 4294967295 ≤ 18446744065119617025 := mul32_le _ _ (by omega) (by omega)
  rw [e, add512_b_c_spec _ _ i (by rw [e2]; have := (l.get i).isLt; unfold P; omega), e2]
  apply mod_cert _ _ ((h.get i).toNat % 4294967296) 0
  unfold P
  omega

theorem mult512_8_spec (a b : V8) (i : Fin 8) (hb : (b.get i).toNat < 4294967296) :
    ((mult_avx512_8 a b).get i).toNat % P = ((a.get i).toNat * (b.get i).toNat) % P := by
  obtain ⟨s1, s2⟩ := mult512_72_spec a b i
  simp only [mult_avx512_8]
  rw [reduce512_96_spec, Nat.mod_eq_of_lt s2, s1, Nat.mod_eq_of_lt hb]

theorem square512_128_spec (a : V8) (i : Fin 8) :
    ((square_avx512_128 a).1.get i).toNat * 18446744073709551616 + ((square_avx512_128 a).2.get i).toNat =
      (a.get i).toNat * (a.get i).toNat := by
  simp only [square_avx512_128, lane_get, lane_nat]
  obtain ⟨h1, h3, h4, key⟩ := sq128_facts (a.get i).toNat (a.get i).isLt
  products_omega (a.get i), (a.get i)

theorem square512_spec (a : V8) (i : Fin 8) :
    ((square_avx512 a).get i).toNat % P = ((a.get i).toNat * (a.get i).toNat) % P := by
  simp only [square_avx512]
  rw [reduce512_128_spec, square512_128_spec]

end GoldilocksVerif
