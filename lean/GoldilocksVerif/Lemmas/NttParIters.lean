/-
  `NTT_iters` of the model with every parallel loop executed in a prescribed order (`nttItersIn`): the text of
  `nttIters` (Model/Ntt.lean) with the bit-reversal loop and the batch loops replaced by folds over given lists.
  `nttItersWith` is the common text; the model's `nttIters` is it, by `rfl`, at the model's own `reversePermutation`
  and `pass`, so the two cannot drift apart.  Above it, the column-block loop and `NTT`, `INTT`, `extendPol` likewise.
-/
import GoldilocksVerif.Lemmas.NttParBatch
import GoldilocksVerif.Lemmas.NttParRev

namespace GoldilocksVerif.Model.Ntt

/-- the text of `nttIters`, parametrised by the bit reversal `rev dst src inPlace` and the pass `ps` -/
def nttItersWith (rev : Buf → Buf → Bool → Except String Buf) (ps : Buf × Buf × Bool → Nat × Nat → Buf × Buf × Bool)
    (dstB srcB auxB : Buf) (dstIsSrc : Bool) (size ncols nphase : Nat) : Except String (Buf × Buf) :=
  let domainPow := log2 size
  if 2 ^ domainPow ≠ size then .error "assert((1 << domainPow) == size)" else
  let nphase := clampPhase nphase domainPow
  let isOdd : Bool := nphase % 2 = 1
  let a0 := if dstIsSrc then srcB else dstB
  let st0 : Except String (Buf × Buf × Bool) :=
    if isOdd then
      match rev auxB srcB false with
      | .error e => .error e
      | .ok t => .ok (t, a0, false)
    else
      match rev a0 srcB dstIsSrc with
      | .error e => .error e
      | .ok t => .ok (t, auxB, true)
  match st0 with
  | .error e => .error e
  | .ok st0 =>
    let st := (schedule domainPow nphase).foldl ps st0
    let a := st.1
    let a2 := st.2.1
    let aIsDst := st.2.2
    if !aIsDst then
      if size > 1 then .error "assert(0) // should never need this copy" else
      let d := copyRow a2 0 a 0 (size * ncols)
      if dstIsSrc then .ok (d, d) else .ok (d, srcB)
    else
      if dstIsSrc then .ok (a, a) else .ok (a, srcB)

theorem nttIters_eq_with (o : Obj) (dstB srcB auxB : Buf) (dstIsSrc : Bool) (size oc nc nca nphase : Nat)
    (inverse extend : Bool) :
    nttIters o dstB srcB auxB dstIsSrc size oc nc nca nphase inverse extend
      = nttItersWith (fun dst src ip => reversePermutation o dst src ip size oc nc nca)
          (pass o size (log2 size) nc inverse extend) dstB srcB auxB dstIsSrc size nc nphase := rfl

def reversePermutationIn (ord : List Nat) (o : Obj) (dst src : Buf) (inPlace : Bool) (size oc nc nca : Nat) :
    Except String Buf :=
  if !inPlace then .ok (ord.foldl (fun d i => revOutBody o size oc nc nca i src d) dst)
  else if !(oc = 0 ∧ nc = nca) then .error "assert(offset_cols == 0 && ncols == ncols_all)"
  else .ok (ord.foldl (fun a i => revInBody o size nc i a) src)

def passIn (ord : List Nat) (o : Obj) (size domainPow ncols : Nat) (inverse extend : Bool) (st : Buf × Buf × Bool)
    (p : Nat × Nat) : Buf × Buf × Bool :=
  let r := ord.foldl (fun st b => passBatch o size domainPow ncols p.1 p.2 (!(p.1 + p.2 ≤ domainPow) && inverse) extend b st)
    (st.1, st.2.1)
  (r.2, r.1, !st.2.2)

/-- rows of the bit reversal in the order `ordR`, batches of pass `p = (s, sInc)` in the order `ordB p` -/
def nttItersIn (ordR : List Nat) (ordB : Nat × Nat → List Nat) (o : Obj) (dstB srcB auxB : Buf) (dstIsSrc : Bool)
    (size oc nc nca nphase : Nat) (inverse extend : Bool) : Except String (Buf × Buf) :=
  nttItersWith (fun dst src ip => reversePermutationIn ordR o dst src ip size oc nc nca)
    (fun st p => passIn (ordB p) o size (log2 size) nc inverse extend st p) dstB srcB auxB dstIsSrc size nc nphase

theorem nttItersWith_congr (rev rev' : Buf → Buf → Bool → Except String Buf)
    (ps ps' : Buf × Buf × Bool → Nat × Nat → Buf × Buf × Bool) (dstB srcB auxB : Buf) (dstIsSrc : Bool)
    (size ncols nphase : Nat) (hrev : 2 ^ log2 size = size → ∀ dst src ip, rev dst src ip = rev' dst src ip)
    (hps : ∀ st p, ps st p = ps' st p) :
    nttItersWith rev ps dstB srcB auxB dstIsSrc size ncols nphase
      = nttItersWith rev' ps' dstB srcB auxB dstIsSrc size ncols nphase := by
  have e : ps = ps' := by funext st p; exact hps st p
  subst e
  unfold nttItersWith
  by_cases h : 2 ^ log2 size ≠ size
  · simp only [if_pos h]
  · have hr : rev = rev' := by
      funext dst src ip; exact hrev (by simpa using h) dst src ip
    subst hr
    rfl

/-- `ordS`: the order of the scatter loop -/
def nttBlockIn (ordR : List Nat) (ordB : Nat × Nat → List Nat) (ordS : List Nat) (o : Obj) (aux : Buf) (dstIsSrc : Bool)
    (size ncols nphase ncols_block ncols_res ncols_alloc : Nat) (inverse extend : Bool) (ib : Nat)
    (st : Except String (Buf × Buf × Nat)) : Except String (Buf × Buf × Nat) :=
  match st with
  | .error e => .error e
  | .ok (dst, src, offset_cols) =>
    let aux_ncols := ncols_block + (if ib < ncols_res then 1 else 0)
    let tmpDst : Buf := Array.replicate (size * ncols_alloc) 0#64
    match nttItersIn ordR ordB o tmpDst src aux false size offset_cols aux_ncols ncols nphase inverse extend with
    | .error e => .error e
    | .ok (d, _) =>
      let dst := ordS.foldl (fun dst ie => copyRow dst (ie * ncols + offset_cols) d (ie * aux_ncols) aux_ncols) dst
      .ok (dst, if dstIsSrc then dst else src, offset_cols + aux_ncols)

/-- the orders of all the parallel loops of one `NTT` call on `size` rows: for column block `ib`, the rows of the bit
    reversal, the batches of every pass, the rows of the scatter -/
structure Orders (size : Nat) where
  rev : Nat → List Nat
  batch : Nat → Nat × Nat → List Nat
  scat : Nat → List Nat
  rev_perm : ∀ ib, (rev ib).Perm (List.range size)
  batch_perm : ∀ ib p, (batch ib p).Perm (List.range (size / 2 ^ p.2))
  scat_perm : ∀ ib, (scat ib).Perm (List.range size)

def Orders.seq (size : Nat) : Orders size :=
  ⟨fun _ => List.range size, fun _ p => List.range (size / 2 ^ p.2), fun _ => List.range size,
   fun _ => List.Perm.refl _, fun _ _ => List.Perm.refl _, fun _ => List.Perm.refl _⟩

def nttBlocksIn {size : Nat} (ord : Orders size) (o : Obj) (dstIsSrc : Bool) (dstB srcB : Buf) (ncols nphase nblock : Nat)
    (inverse extend : Bool) : Except String (Buf × Buf) :=
  let ncols_block := ncols / nblock
  let ncols_res := ncols % nblock
  let ncols_alloc := ncols_block + (if ncols_res > 0 then 1 else 0)
  let aux : Buf := Array.replicate (size * ncols_alloc) 0#64
  if nblock ≤ 1 then
    nttItersIn (ord.rev 0) (ord.batch 0) o dstB srcB aux dstIsSrc size 0 ncols ncols nphase inverse extend
  else
    let dst0 := if dstIsSrc then srcB else dstB
    match iter nblock (.ok (dst0, srcB, 0))
        (fun ib st => nttBlockIn (ord.rev ib) (ord.batch ib) (ord.scat ib) o aux dstIsSrc size ncols nphase ncols_block
          ncols_res ncols_alloc inverse extend ib st) with
    | .error e => .error e
    | .ok (dst, src, _) => .ok (dst, src)

def nttIn {size : Nat} (ord : Orders size) (o : Obj) (mode : DstMode) (dstB srcB : Buf) (ncols nphase nblock : Nat)
    (inverse extend : Bool) : Except String (Buf × Buf) :=
  if ncols = 0 ∨ size = 0 then
    .ok (if mode = .other then dstB else srcB, srcB)
  else
    nttBlocksIn ord o (mode ≠ .other) dstB srcB ncols nphase (clampBlock nblock ncols) inverse extend

def inttIn {size : Nat} (ord : Orders size) (o : Obj) (mode : DstMode) (dstB srcB : Buf) (ncols nphase nblock : Nat)
    (extend : Bool) : Except String (Buf × Buf) :=
  if ncols = 0 ∨ size = 0 then .ok (if mode = .other then dstB else srcB, srcB)
  else nttIn ord o (if mode = .null then .same else mode) dstB srcB ncols nphase nblock true extend

def extendPolIn {n nExt : Nat} (ordI : Orders n) (ordN : Orders nExt) (o : Obj) (same : Bool) (outB inB : Buf)
    (ncols nphase nblock : Nat) : Except String (Obj × Buf) :=
  match mkObj nExt (nExt / n) with
  | none => .error "range_error"
  | some oext =>
    let o := refreshCache o n
    match inttIn ordI o (if same then .same else .other) outB inB ncols nphase nblock true with
    | .error e => .error e
    | .ok (out1, _) =>
      match nttIn ordN oext .same #[] out1 ncols nphase nblock false false with
      | .error e => .error e
      | .ok (out2, _) => .ok (o, out2)

end GoldilocksVerif.Model.Ntt
