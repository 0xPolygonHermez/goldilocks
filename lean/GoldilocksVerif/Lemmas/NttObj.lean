/-
  C19 layer: the only mutable state of the transform object is the shift-power cache `rcache`.
  Nothing but `scaleFactor … extend=true` reads it, `computeR` does not depend on it, `extendPol` refreshes it
  whenever the cached N differs.  Histories of calls (`runCalls`) on a shared object.
-/
import GoldilocksVerif.Lemmas.NttArr

namespace GoldilocksVerif.Model.Ntt

def setCache (o : Obj) (c : Option (Nat × Array W × Array W)) : Obj := { o with rcache := c }

/-- the object as constructed: no cache -/
def Obj.base (o : Obj) : Obj := setCache o none

/-- cache invariant: the cache, when present, is what `computeR` builds for the N it is keyed with -/
def Obj.wf (o : Obj) : Prop := ∀ c, o.rcache = some c → c = computeR o c.1

theorem base_of_fresh (o : Obj) (h : o.rcache = none) : o.base = o := by
  cases o; simp [Obj.base, setCache] at *; exact h.symm

theorem wf_of_fresh (o : Obj) (h : o.rcache = none) : o.wf := by
  intro c hc; rw [h] at hc; cases hc

theorem mkObj_fresh (m e : Nat) (o : Obj) (h : mkObj m e = some o) : o.rcache = none := by
  unfold mkObj at h
  by_cases h0 : m = 0
  · rw [if_pos h0] at h; cases h; rfl
  · rw [if_neg h0] at h
    dsimp only at h
    by_cases h1 : (if log2 m ≤ 1 then 1 else min (log2 m) 32) < log2 m
    · rw [if_pos h1] at h; cases h
    · rw [if_neg h1] at h; cases h; rfl

theorem setCache_base (o : Obj) (c) : (setCache o c).base = o.base := rfl
theorem setCache_setCache (o : Obj) (c c') : setCache (setCache o c) c' = setCache o c' := rfl
theorem computeR_setCache (o : Obj) (c) (n : Nat) : computeR (setCache o c) n = computeR o n := rfl
theorem computeR_fst (o : Obj) (n : Nat) : (computeR o n).1 = n := rfl

theorem root_setCache (o : Obj) (c) (dp idx : Nat) : root (setCache o c) dp idx = root o dp idx := rfl

theorem scaleFactor_setCache (o : Obj) (c) (dp dsty : Nat) :
    scaleFactor (setCache o c) false dp dsty = scaleFactor o false dp dsty := rfl

theorem reversePermutation_setCache (o : Obj) (c) (dst src : Buf) (ip : Bool) (size oc nc nca : Nat) :
    reversePermutation (setCache o c) dst src ip size oc nc nca = reversePermutation o dst src ip size oc nc nca := rfl

theorem stageStep_setCache (o : Obj) (c) (s si b bs nc rs re rb : Nat) :
    stageStep (setCache o c) s si b bs nc rs re rb = stageStep o s si b bs nc rs re rb := rfl

theorem stage_setCache (o : Obj) (c) (a : Buf) (s si b bs nc rs re rb rm : Nat) :
    stage (setCache o c) a s si b bs nc rs re rb rm = stage o a s si b bs nc rs re rb rm := rfl

theorem batchStages_setCache (o : Obj) (c) (a : Buf) (s sInc b bs nc rs re rb rm : Nat) :
    batchStages (setCache o c) a s sInc b bs nc rs re rb rm = batchStages o a s sInc b bs nc rs re rb rm := rfl

theorem inverseCopy_setCache (o : Obj) (c) (a2 a : Buf) (b bs nB nc size dp : Nat) :
    inverseCopy (setCache o c) a2 a b bs nB nc size dp false = inverseCopy o a2 a b bs nB nc size dp false := rfl

theorem passBatch_setCache (o : Obj) (c) (size dp nc s sInc : Nat) (li : Bool) :
    passBatch (setCache o c) size dp nc s sInc li false = passBatch o size dp nc s sInc li false := by
  funext b st
  unfold passBatch
  simp only [batchStages_setCache, inverseCopy_setCache]

theorem pass_setCache (o : Obj) (c) (size dp nc : Nat) (inv : Bool) :
    pass (setCache o c) size dp nc inv false = pass o size dp nc inv false := by
  funext st p
  unfold pass
  simp only [passBatch_setCache]

theorem nttIters_setCache (o : Obj) (c) (dstB srcB auxB : Buf) (dis : Bool) (size oc nc nca np : Nat) (inv : Bool) :
    nttIters (setCache o c) dstB srcB auxB dis size oc nc nca np inv false
      = nttIters o dstB srcB auxB dis size oc nc nca np inv false := by
  unfold nttIters
  simp only [pass_setCache, reversePermutation_setCache]

theorem nttBlock_setCache (o : Obj) (c) (aux : Buf) (dis : Bool) (size nc np ncb ncr nca : Nat) (inv : Bool) :
    nttBlock (setCache o c) aux dis size nc np ncb ncr nca inv false = nttBlock o aux dis size nc np ncb ncr nca inv false := by
  funext ib st
  unfold nttBlock
  simp only [nttIters_setCache]

theorem ntt_setCache (o : Obj) (c) (mode : DstMode) (dstB srcB : Buf) (size nc np nb : Nat) (inv : Bool) :
    ntt (setCache o c) mode dstB srcB size nc np nb inv false = ntt o mode dstB srcB size nc np nb inv false := by
  unfold ntt nttBlocks
  simp only [nttIters_setCache, nttBlock_setCache]

theorem intt_setCache (o : Obj) (c) (mode : DstMode) (dstB srcB : Buf) (size nc np nb : Nat) :
    intt (setCache o c) mode dstB srcB size nc np nb false = intt o mode dstB srcB size nc np nb false := by
  unfold intt
  simp only [ntt_setCache]

theorem ntt_base (o : Obj) (mode : DstMode) (dstB srcB : Buf) (size nc np nb : Nat) (inv : Bool) :
    ntt o mode dstB srcB size nc np nb inv false = ntt o.base mode dstB srcB size nc np nb inv false :=
  (ntt_setCache o none mode dstB srcB size nc np nb inv).symm

theorem intt_base (o : Obj) (mode : DstMode) (dstB srcB : Buf) (size nc np nb : Nat) :
    intt o mode dstB srcB size nc np nb false = intt o.base mode dstB srcB size nc np nb false :=
  (intt_setCache o none mode dstB srcB size nc np nb).symm

theorem refreshCache_of_wf (o : Obj) (h : o.wf) (n : Nat) : refreshCache o n = setCache o.base (some (computeR o.base n)) := by
  unfold refreshCache
  cases hc : o.rcache with
  | none => rfl
  | some c =>
    obtain ⟨n0, r, r_⟩ := c
    simp only
    by_cases hn : n0 = n
    · rw [if_pos hn]
      have := h _ hc
      simp only at this
      subst hn
      cases o
      simp only [Obj.base, setCache] at *
      rw [hc, this]
      rfl
    · rw [if_neg hn]; rfl

theorem refreshCache_wf (o : Obj) (h : o.wf) (n : Nat) : (refreshCache o n).wf := by
  rw [refreshCache_of_wf o h n]
  intro c hc
  simp only [setCache, Obj.base] at hc
  cases hc
  rfl

theorem refreshCache_base (o : Obj) (h : o.wf) (n : Nat) : (refreshCache o n).base = o.base := by
  rw [refreshCache_of_wf o h n]; rfl

/-- `extendPol` on an object whose cache satisfies the invariant returns exactly what the cache-free object returns
    (the result buffer AND the new object) -/
theorem extendPol_base (o : Obj) (h : o.wf) (same : Bool) (outB inB : Buf) (nExt n nc np nb : Nat) :
    extendPol o same outB inB nExt n nc np nb = extendPol o.base same outB inB nExt n nc np nb := by
  unfold extendPol
  rw [refreshCache_of_wf o h n, refreshCache_of_wf o.base (wf_of_fresh _ rfl) n]
  rfl

theorem extendPol_wf (o : Obj) (h : o.wf) (same : Bool) (outB inB : Buf) (nExt n nc np nb : Nat) (o' : Obj) (out : Buf)
    (e : extendPol o same outB inB nExt n nc np nb = .ok (o', out)) : o'.wf ∧ o'.base = o.base := by
  have key : o' = refreshCache o n := by
    unfold extendPol at e
    split at e
    · cases e
    · dsimp only at e
      split at e
      · cases e
      · split at e
        · cases e
        · cases e; rfl
  rw [key]
  exact ⟨refreshCache_wf o h n, refreshCache_base o h n⟩

/-- one call of the public interface -/
inductive Call where
  | ntt (mode : DstMode) (dstB srcB : Buf) (size ncols nphase nblock : Nat)
  | intt (mode : DstMode) (dstB srcB : Buf) (size ncols nphase nblock : Nat)
  | extendPol (same : Bool) (outB inB : Buf) (nExt n ncols nphase nblock : Nat)

/-- run one call: the object afterwards and what the caller observes (abort, or destination and source contents) -/
def Call.run (o : Obj) : Call → Obj × Except String (Buf × Buf)
  | .ntt mode dstB srcB size ncols nphase nblock => (o, Ntt.ntt o mode dstB srcB size ncols nphase nblock false false)
  | .intt mode dstB srcB size ncols nphase nblock => (o, Ntt.intt o mode dstB srcB size ncols nphase nblock false)
  | .extendPol same outB inB nExt n ncols nphase nblock =>
    match Ntt.extendPol o same outB inB nExt n ncols nphase nblock with
    | .ok (o', out) => (o', .ok (out, if same then out else inB))
    | .error e => (o, .error e)

/-- a history of calls issued on ONE object, the object state threaded through -/
def runCalls : Obj → List Call → List (Except String (Buf × Buf))
  | _, [] => []
  | o, c :: cs => (c.run o).2 :: runCalls (c.run o).1 cs

theorem Call.run_base (o : Obj) (h : o.wf) (c : Call) :
    (c.run o).2 = (c.run o.base).2 ∧ (c.run o).1.wf ∧ (c.run o).1.base = o.base := by
  cases c with
  | ntt mode dstB srcB size ncols nphase nblock => exact ⟨ntt_base .., h, rfl⟩
  | intt mode dstB srcB size ncols nphase nblock => exact ⟨intt_base .., h, rfl⟩
  | extendPol same outB inB nExt n ncols nphase nblock =>
    have e := extendPol_base o h same outB inB nExt n ncols nphase nblock
    simp only [Call.run]
    rw [← e]
    cases hr : Ntt.extendPol o same outB inB nExt n ncols nphase nblock with
    | error err => exact ⟨rfl, h, rfl⟩
    | ok r =>
      obtain ⟨o', out⟩ := r
      exact ⟨rfl, extendPol_wf o h same outB inB nExt n ncols nphase nblock o' out hr⟩

theorem runCalls_base (cs : List Call) : ∀ (o : Obj), o.wf → runCalls o cs = cs.map (fun c => (c.run o.base).2) := by
  induction cs with
  | nil => intro o _; rfl
  | cons c cs ih =>
    intro o h
    obtain ⟨h1, h2, h3⟩ := Call.run_base o h c
    simp only [runCalls, List.map_cons]
    rw [h1, ih _ h2, h3]

end GoldilocksVerif.Model.Ntt
