/-
  Program equivalence for the bridge lemmas (`*_generic` in Lemmas/BridgeSponge.lean, BridgeMerkle*.lean).

  The bridge files keep ONE reference text per family of generated functions (`lhGenG`, `lh512GenG`, `mtGenG`, …) and prove the
  property about that text.  "Generated function = reference text" is proved EXTENSIONALLY by the tactic `gen_equiv`, not by
  `unfold …; rfl`, which would hold only for the literal generated text:
    * both sides are delta-unfolded (`delta_prefix` unfolds every constant whose name starts with a given string, so the
      number, names and parameter lists of the lifted loop bodies `<fn>_loopN` do not matter), `let`s are inlined;
    * the two terms are walked in parallel through `Option.bind`, `Loop.rangeM`, `Loop.whileM`, `some`, tuples, applications
      of the same (opaque) callee; `if`s are split on both sides and impossible combinations of conditions refuted on `Nat`
      (`ge_contra`), so `a < b` / `b > a` / `¬ (a ≥ b)`, inverted branches and conditions implied by an enclosing branch
      are all accepted;
    * leaves: 64-bit words are compared in the commutative ring Z/2^64 (`ge_word`: `grind`'s ring solver after normalising
      `ofNat (a*b)`, `x >>> 1`, …, or linear arithmetic over `toNat`), regions pointwise (`ge_region`: word j of both sides
      after all `memcpy`/`memset`/pointer-offset steps, case analysis + `omega`), so the order of independent writes,
      hoisted sub-expressions and `p + a + b` vs `p + b + a` do not matter.
  `while` loops: same state tuple → body by body (`whileM_congr`); the same components in another ORDER (the translator orders
  the state by first assignment in the body) → `ge_while_perm` finds the rearrangement from the two initial tuples; a state
  with another MEANING (count-down `remaining` vs count-up `absorbed`) → `whileM_map` with an explicit relation and invariant
  (Lemmas/BridgeSponge.lean); a body that agrees with the reference one only on the REACHABLE states (first-iteration action
  hoisted out of the loop) → `whileM_congr_inv` with an invariant of the reference loop.
  `for` loops: the bodies are compared under `lo ≤ i < hi` (`rangeM_congr_mem`), and every hypothesis in the context of
  `gen_equiv` (e.g. a no-wrap bound on a count, given by the caller) reaches the arithmetic at the leaves: two independent
  writes at `j` and `n + j`, `j < n`, may be issued in either order.  `store (load s)` of an unaligned vector load/store pair
  is read as a copy of 4 resp. 8 words (`pt_store_load`).
  Nothing here depends on generated code.
-/
import GoldilocksVerif.Model.TrRt
import GoldilocksVerif.Isa.Avx2
import GoldilocksVerif.Isa.Avx512
import GoldilocksVerif.Lemmas.BridgeEquivAttr
import Mathlib.Tactic.SplitIfs
import Lean.Meta.Tactic.Delta

namespace GoldilocksVerif
namespace GenEquiv
open Loop

theorem optBind_congr {α β : Type} {x y : Option α} {f g : α → Option β} (hx : x = y) (h : ∀ a, f a = g a) :
    x.bind f = y.bind g := by
  subst hx
  cases x with
  | none => rfl
  | some a => exact h a

theorem rangeM_congr {σ : Type} {lo hi lo' hi' step : Nat} {s s' : σ} {f g : Nat → σ → Option σ}
    (hlo : lo = lo') (hhi : hi = hi') (hs : s = s') (h : ∀ i t, f i t = g i t) :
    rangeM lo hi step s f = rangeM lo' hi' step s' g := by
  subst hlo; subst hhi; subst hs
  have : f = g := by funext i t; exact h i t
  rw [this]

theorem rangeMAux_congr_mem {σ : Type} (step : Nat) (f g : Nat → σ → Option σ) :
    ∀ (n i : Nat) (s : σ), (∀ k, k < n → ∀ t, f (i + k * step) t = g (i + k * step) t) →
      rangeMAux step f n i s = rangeMAux step g n i s := by
  intro n
  induction n with
  | zero => intro i s _; rfl
  | succ n ih =>
    intro i s h
    rw [rangeMAux_succ, rangeMAux_succ]
    have h0 := h 0 (Nat.succ_pos n) s
    rw [Nat.zero_mul, Nat.add_zero] at h0
    rw [h0]
    refine optBind_congr rfl (fun s' => ih (i + step) s' (fun k hk t => ?_))
    have := h (k + 1) (Nat.succ_lt_succ hk) t
    rw [Nat.succ_mul, ← Nat.add_assoc, Nat.add_right_comm] at this
    exact this

/-- the bodies only have to agree at the indices the loop visits: a body may be rewritten using the loop bounds (e.g. two
    writes at `j` and at `j + n`, `j < n`, issued in the other order) -/
theorem rangeM_congr_mem {σ : Type} {lo hi lo' hi' step : Nat} {s s' : σ} {f g : Nat → σ → Option σ}
    (hlo : lo = lo') (hhi : hi = hi') (hs : s = s') (h : ∀ i t, lo ≤ i → i < hi → f i t = g i t) :
    rangeM lo hi step s f = rangeM lo' hi' step s' g := by
  subst hlo; subst hhi; subst hs
  unfold rangeM
  refine rangeMAux_congr_mem step f g _ lo s (fun k hk t => h _ t (Nat.le_add_right _ _) ?_)
  by_cases hst : step = 0
  · subst hst; rw [Nat.div_zero] at hk; exact absurd hk (Nat.not_lt_zero _)
  have h1 : (hi - lo + step - 1) / step * step ≤ hi - lo + step - 1 := Nat.div_mul_le_self _ _
  have h2 : (k + 1) * step ≤ (hi - lo + step - 1) / step * step := Nat.mul_le_mul_right _ hk
  rw [Nat.succ_mul] at h2
  generalize (hi - lo + step - 1) / step * step = q at h1 h2
  generalize k * step = m at h2 ⊢
  omega

theorem range_congr {σ : Type} {lo hi lo' hi' step : Nat} {s s' : σ} {f g : Nat → σ → σ}
    (hlo : lo = lo') (hhi : hi = hi') (hs : s = s') (h : ∀ i t, f i t = g i t) :
    range lo hi step s f = range lo' hi' step s' g := by
  subst hlo; subst hhi; subst hs
  have : f = g := by funext i t; exact h i t
  rw [this]

theorem whileM_congr {σ : Type} {f g : σ → Option (Bool × σ)} {fuel : Nat} {s s' : σ}
    (h : ∀ t, f t = g t) (hs : s = s') : whileM f fuel s = whileM g fuel s' := by
  subst hs
  have : f = g := by funext t; exact h t
  rw [this]

/-- two loops over DIFFERENT state types in step: `ψ` maps the states of `g` to those of `f`, `Inv` is an invariant of `g` -/
theorem whileM_map {σ τ : Type} (f : σ → Option (Bool × σ)) (g : τ → Option (Bool × τ)) (ψ : τ → σ) (Inv : τ → Prop)
    (h : ∀ t, Inv t → f (ψ t) = (g t).map (fun p => (p.1, ψ p.2)))
    (hInv : ∀ t b t', Inv t → g t = some (b, t') → Inv t') :
    ∀ (fuel : Nat) (t : τ), Inv t → whileM f fuel (ψ t) = (whileM g fuel t).map ψ := by
  intro fuel
  induction fuel with
  | zero => intro t _; rfl
  | succ n ih =>
    intro t ht
    rw [whileM_succ, whileM_succ, h t ht]
    cases hg : g t with
    | none => rfl
    | some p =>
      obtain ⟨b, t'⟩ := p
      cases b with
      | false => rfl
      | true => exact ih t' (hInv t true t' ht hg)

/-- `Inv` is an invariant of the reference loop `g`: for a rewrite of the body that is only correct on the states the loop
    can reach (a first-iteration action hoisted out of the loop, a fill skipped where it is dead, …) -/
theorem whileM_congr_inv {σ : Type} (f g : σ → Option (Bool × σ)) (Inv : σ → Prop)
    (h : ∀ t, Inv t → f t = g t)
    (hInv : ∀ t b t', Inv t → g t = some (b, t') → Inv t') :
    ∀ (fuel : Nat) (t : σ), Inv t → whileM f fuel t = whileM g fuel t := by
  intro fuel
  induction fuel with
  | zero => intro t _; rfl
  | succ n ih =>
    intro t ht
    rw [whileM_succ, whileM_succ, h t ht]
    cases hg : g t with
    | none => rfl
    | some p =>
      obtain ⟨b, t'⟩ := p
      cases b with
      | false => rfl
      | true => exact ih t' (hInv t true t' ht hg)

/-- the same loop with the components of the state tuple in another ORDER (`ψ` rearranges the reference state into the
    generated one): reordering the assignments of a `while` body reorders the translator's state tuple -/
theorem bind_whileM_perm {σ τ α : Type} {F : σ → Option (Bool × σ)} {G : τ → Option (Bool × τ)} {K : σ → Option α}
    {K' : τ → Option α} {fuel : Nat} {s0 : σ} {t0 : τ} (ψ : τ → σ) (h0 : s0 = ψ t0)
    (hstep : ∀ t, F (ψ t) = (G t).map (fun p => (p.1, ψ p.2))) (hK : ∀ t, K (ψ t) = K' t) :
    (whileM F fuel s0).bind K = (whileM G fuel t0).bind K' := by
  subst h0
  rw [whileM_map F G ψ (fun _ => True) (fun t _ => hstep t) (fun _ _ _ _ _ => trivial) fuel t0 trivial]
  cases whileM G fuel t0 with
  | none => rfl
  | some r => exact hK r

theorem optBind_map {α β γ : Type} (x : Option α) (f : α → β) (g : β → Option γ) :
    (x.map f).bind g = x.bind (fun a => g (f a)) := by
  cases x <;> rfl

theorem bv_ofNat_mul (a b : Nat) : BitVec.ofNat 64 (a * b) = BitVec.ofNat 64 a * BitVec.ofNat 64 b := by
  apply BitVec.eq_of_toNat_eq
  simp only [BitVec.toNat_ofNat, BitVec.toNat_mul, Nat.mul_mod, Nat.mod_mod]

theorem bv_ofNat_add (a b : Nat) : BitVec.ofNat 64 (a + b) = BitVec.ofNat 64 a + BitVec.ofNat 64 b := by
  apply BitVec.eq_of_toNat_eq
  simp only [BitVec.toNat_ofNat, BitVec.toNat_add, Nat.add_mod, Nat.mod_mod]

theorem bv_shr1 (p : BitVec 64) : p >>> 1 = p / 2#64 := by
  apply BitVec.eq_of_toNat_eq
  rw [BitVec.toNat_ushiftRight, BitVec.toNat_udiv]
  show p.toNat >>> 1 = p.toNat / 2
  omega

theorem bv_shl1 (p : BitVec 64) : p <<< 1 = p * 2#64 := by
  apply BitVec.eq_of_toNat_eq
  rw [BitVec.toNat_shiftLeft, BitVec.toNat_mul]
  show p.toNat <<< 1 % 2 ^ 64 = p.toNat * 2 % 2 ^ 64
  omega

theorem bv_sub_sub_cancel (a b : BitVec 64) : a - (a - b) = b := by
  apply BitVec.eq_of_toNat_eq
  simp only [BitVec.toNat_sub]
  omega

theorem bv_add_sub_cancel_left (a b : BitVec 64) : a + b - a = b := by
  apply BitVec.eq_of_toNat_eq
  simp only [BitVec.toNat_sub, BitVec.toNat_add]
  omega

open Lean Elab Tactic Meta in
/-- `delta_prefix S`: delta-unfold (and beta-reduce) every constant of the goal whose full name starts with the string `S`
    (e.g. a generated function together with all its lifted loop bodies `<fn>_loopN`, whatever their number and parameters) -/
elab "delta_prefix " s:str : tactic => do
  let pre := s.getString
  liftMetaTactic1 fun g => do
    let tgt ← instantiateMVars (← g.getType)
    let mut cur := tgt
    -- unfolded bodies can mention further constants with the prefix (loop bodies inside loop bodies): iterate
    for _ in [0:8] do
      let nxt ← deltaExpand cur (fun n => n.toString.startsWith pre)
      if nxt == cur then break
      cur := nxt
    let res ← Core.betaReduce cur
    g.replaceTargetDefEq res

/-- conditions (hypotheses left by `split_ifs`) as statements over `Nat`, then linear arithmetic -/
macro "ge_cond_norm" : tactic =>
  `(tactic| try simp only [bne_iff_ne, beq_iff_eq, ne_eq, decide_eq_true_eq, decide_eq_false_iff_not, Bool.not_eq_true,
      beq_eq_false_iff_ne, bne_eq_false_iff_eq, ge_iff_le, gt_iff_lt, Bool.decide_eq_true, Classical.not_not,
      not_true_eq_false, not_false_eq_true] at *)

/-- the conditions collected on the current path are contradictory -/
macro "ge_contra" : tactic => `(tactic| (exfalso; (ge_cond_norm <;> bv_omega)))

open Lean Elab Tactic Meta in
/-- remove every hypothesis (proposition) from the context; variables stay -/
elab "ge_clear_hyps" : tactic => liftMetaTactic1 fun g => g.withContext do
  let mut g := g
  let lctx ← getLCtx
  for d in lctx.decls.toArray.reverse do
    if let some d := d then
      if !d.isImplementationDetail && (← isProp d.type) then
        g ← (g.clear d.fvarId) <|> pure g
  return g

/-- equality of two 64-bit words: syntactic; linear arithmetic over `toNat` using the path conditions; identity of the
    commutative ring Z/2^64 (`grind`'s ring solver, run WITHOUT the path conditions: it is only asked for ring identities) -/
macro "ge_word" : tactic =>
  `(tactic| (show (_ : BitVec 64) = _
             first
             | with_reducible rfl
             | (simp only [bv_ofNat_mul, bv_ofNat_add, bv_shr1, bv_shl1]; done)
             | (try simp only [bv_ofNat_mul, bv_ofNat_add, bv_shr1, bv_shl1]
                first
                | with_reducible rfl
                | (ge_cond_norm <;> bv_omega)
                | (ge_clear_hyps; grind only))))

/-- equality of two natural numbers (element counts, offsets): linear arithmetic, `toNat` of words included -/
macro "ge_nat" : tactic =>
  `(tactic| (show (_ : Nat) = _
             first
             | with_reducible rfl
             | omega
             | (ge_cond_norm <;> bv_omega)))

open Lean Elab Tactic Meta in
/-- `f a₁ … aₙ = f b₁ … bₙ` (same constant or variable `f`): one new goal `aᵢ = bᵢ` for every argument position where the two
    sides differ SYNTACTICALLY.  Unlike `congr` it never tries `rfl` up to unfolding (the callees are translated permutations:
    unfolding them is hopeless), it only builds the congruence proof. -/
elab "ge_congr_args" : tactic => liftMetaTactic fun g => do
  let t := (← instantiateMVars (← g.getType)).cleanupAnnotations
  let some (_, l, r) := t.eq? | throwError "ge_congr_args: not an equation"
  let f := l.getAppFn
  unless (f.isConst || f.isFVar) && f == r.getAppFn && l.getAppNumArgs == r.getAppNumArgs && l.getAppNumArgs > 0 do
    throwError "ge_congr_args: different heads"
  let la := l.getAppArgs
  let ra := r.getAppArgs
  let mut pf ← mkEqRefl f
  let mut goals : Array MVarId := #[]
  for i in [0:la.size] do
    let a := la[i]!
    let b := ra[i]!
    if a == b then
      pf ← mkCongrFun pf a
    else
      let m ← mkFreshExprSyntheticOpaqueMVar (← mkEq a b)
      goals := goals.push m.mvarId!
      pf ← mkCongr pf m
  if goals.isEmpty then throwError "ge_congr_args: no differing argument"
  g.assign pf
  return goals.toList

/-! Regions, pointwise.  The combined forms (`memcpy(p + k, src, m)` = write-back of a copy into the shifted region) have
  priority `high`: with the two-step reading the region written to occurs twice, and a sequence of d writes becomes a term of
  size 2^d. -/

attribute [region_pt] Region.copyN_apply Region.zeroN_apply Region.unshift_apply Region.shift_apply Region.set_apply
  Region.mk_apply

@[region_pt high] theorem pt_unshift_copyN (s src : Region) (k m j : Nat) :
    (Region.unshift s k (Region.copyN (Region.shift s k) src m)) j = if k ≤ j ∧ j < k + m then src (j - k) else s j := by
  simp only [Region.unshift_apply, Region.copyN_apply, Region.shift_apply]
  split_ifs <;> first | rfl | omega | (congr 1; omega)

@[region_pt high] theorem pt_unshift_zeroN (s : Region) (k m j : Nat) :
    (Region.unshift s k (Region.zeroN (Region.shift s k) m)) j = if k ≤ j ∧ j < k + m then 0#64 else s j := by
  simp only [Region.unshift_apply, Region.zeroN_apply, Region.shift_apply]
  split_ifs <;> first | rfl | omega | (congr 1; omega)

@[region_pt high] theorem pt_unshift_unshift_zeroN (s : Region) (k l m j : Nat) :
    (Region.unshift s k (Region.unshift (Region.shift s k) l (Region.zeroN (Region.shift (Region.shift s k) l) m))) j =
      if k + l ≤ j ∧ j < k + l + m then 0#64 else s j := by
  simp only [Region.unshift_apply, Region.zeroN_apply, Region.shift_apply]
  split_ifs <;> first | rfl | omega | (congr 1; omega)

@[region_pt high] theorem pt_unshift_unshift_copyN (s src : Region) (k l m j : Nat) :
    (Region.unshift s k (Region.unshift (Region.shift s k) l (Region.copyN (Region.shift (Region.shift s k) l) src m))) j =
      if k + l ≤ j ∧ j < k + l + m then src (j - (k + l)) else s j := by
  simp only [Region.unshift_apply, Region.copyN_apply, Region.shift_apply]
  split_ifs <;> first | rfl | omega | (congr 1; omega)

@[region_pt] theorem pt_zero (j : Nat) : Region.zero j = 0#64 := rfl

/-! unaligned vector load / store (`_mm256_loadu_si256` / `_mm256_storeu_si256`, `_mm512_…`) used as a 4- / 8-word copy:
  `store r (load s)` is `memcpy(r, s, 4 words)` -/

@[region_pt high] theorem pt_store_load (r s : Region) (j : Nat) :
    (Avx2.store r (Avx2.load s)) j = if j < 4 then s j else r j := by
  match j with
  | 0 | 1 | 2 | 3 => rfl
  | n + 4 =>
    rw [if_neg (by omega)]
    show (if n + 4 = 0 then s 0 else if n + 4 = 1 then s 1 else if n + 4 = 2 then s 2 else if n + 4 = 3 then s 3
      else r (n + 4)) = _
    simp only [Nat.reduceEqDiff, if_false]

@[region_pt high] theorem pt_store_load512 (r s : Region) (j : Nat) :
    (Avx512.store r (Avx512.load s)) j = if j < 8 then s j else r j := by
  match j with
  | 0 | 1 | 2 | 3 | 4 | 5 | 6 | 7 => rfl
  | n + 8 =>
    rw [if_neg (by omega)]
    show (if n + 8 = 0 then s 0 else if n + 8 = 1 then s 1 else if n + 8 = 2 then s 2 else if n + 8 = 3 then s 3
      else if n + 8 = 4 then s 4 else if n + 8 = 5 then s 5 else if n + 8 = 6 then s 6 else if n + 8 = 7 then s 7
      else r (n + 8)) = _
    simp only [Nat.reduceEqDiff, if_false]

macro "ge_region_apply" : tactic => `(tactic| simp only [region_pt])

/-! `toNat` of 64-bit arithmetic that provably does not wrap (side conditions discharged from the path conditions): element
  counts `n * sizeof(Element) / sizeof(Element)`, `size - remaining`, … become plain `Nat` terms once, before the case analysis
  on the word index, instead of `% 2^64` terms that `omega` would have to eliminate in every case. -/

theorem nw_cnt8 (x : BitVec 64) (h : x.toNat < 2305843009213693952) : (x * 8#64).toNat / 8 = x.toNat := by
  rw [BitVec.toNat_mul]
  show x.toNat * 8 % 18446744073709551616 / 8 = x.toNat
  omega

theorem nw_sub (a b : BitVec 64) (h : b.toNat ≤ a.toNat) : (a - b).toNat = a.toNat - b.toNat := by
  rw [BitVec.toNat_sub]
  omega

theorem nw_add (a b : BitVec 64) (h : a.toNat + b.toNat < 18446744073709551616) : (a + b).toNat = a.toNat + b.toNat := by
  rw [BitVec.toNat_add]
  show (a.toNat + b.toNat) % 18446744073709551616 = _
  omega

/-- equality of two regions, pointwise (closes the goal or fails) -/
macro "ge_region" : tactic =>
  `(tactic| (show (_ : Region) = _
             first
             | with_reducible rfl
             | (ge_cond_norm <;>
                ((try simp (disch := first | bv_omega | skip) only [nw_cnt8, nw_sub, nw_add, BitVec.reduceMul, BitVec.reduceSub,
                  BitVec.reduceAdd, BitVec.reduceToNat, Nat.reduceDiv, Nat.reduceSub, Nat.reduceAdd, Nat.reduceMul])
                 (try simp only [bitvec_to_nat] at *) <;>
                 (apply Region.ext'
                  intro j
                  ge_region_apply
                  split_ifs <;> first | with_reducible rfl | omega | (ge_congr_args <;> omega))))))

open Lean Elab Tactic Meta in
/-- succeeds iff the goal is `l = r` where `l` and `r` are applications of the constant `c` (syntactic check, no unification) -/
elab "ge_eq_heads " c:ident : tactic => do
  let n ← realizeGlobalConstNoOverloadWithInfo c
  let t := (← instantiateMVars (← (← getMainGoal).getType)).cleanupAnnotations
  match t.eq? with
  | some (_, l, r) =>
    unless l.getAppFn.isConstOf n && r.getAppFn.isConstOf n do throwError "ge_eq_heads: different heads"
  | none => throwError "ge_eq_heads: not an equation"

open Lean Elab Tactic Meta in
private partial def tupleComponents (e : Expr) : List Expr :=
  if e.isAppOfArity ``Prod.mk 4 then e.getArg! 2 :: tupleComponents (e.getArg! 3) else [e]

open Lean Elab Tactic Meta in
private def tupleProj (t : Expr) (i n : Nat) : MetaM Expr := do
  let mut e := t
  for _ in [0:i] do
    e ← mkAppM ``Prod.snd #[e]
  if i + 1 < n then mkAppM ``Prod.fst #[e] else pure e

open Lean Elab Tactic Meta in
/-- goal `(Loop.whileM F fuel s0).bind K = (Loop.whileM G fuel t0).bind K'` where the initial tuples `s0`, `t0` have the
    same components in a DIFFERENT order: find the rearrangement `ψ` from the initial tuples and reduce the goal to one
    step (`F (ψ t) = ψ-image of G t`) and the continuation (`K (ψ t) = K' t`).  Fails (so that the plain congruence rule
    is used) when the tuples are syntactically equal or do not have the same components. -/
elab "ge_while_perm" : tactic => do
  let g ← getMainGoal
  g.withContext do
    let tgt := (← instantiateMVars (← g.getType)).cleanupAnnotations
    let some (_, l, r) := tgt.eq? | throwError "ge_while_perm: not an equation"
    unless l.isAppOfArity ``Option.bind 4 && r.isAppOfArity ``Option.bind 4 do throwError "ge_while_perm: not binds"
    let wl := l.getArg! 2
    let wr := r.getArg! 2
    unless wl.isAppOfArity ``Loop.whileM 4 && wr.isAppOfArity ``Loop.whileM 4 do throwError "ge_while_perm: not loops"
    let s0 := wl.getArg! 3
    let t0 := wr.getArg! 3
    if s0 == t0 then throwError "ge_while_perm: same initial state"
    let cs := (tupleComponents s0).toArray
    let ct := (tupleComponents t0).toArray
    unless cs.size == ct.size && cs.size > 1 do throwError "ge_while_perm: different number of components"
    let τ ← inferType t0
    let mut used : Array Bool := Array.replicate ct.size false
    let mut perm : Array Nat := #[]
    for c in cs do
      let mut found := none
      for j in [0:ct.size] do
        if found.isNone && !used[j]! && ct[j]! == c then found := some j
      match found with
      | some j => used := used.set! j true; perm := perm.push j
      | none => throwError "ge_while_perm: component {c} of the generated initial state not found in the reference one"
    let ψ ← withLocalDeclD `t τ fun t => do
      let mut comps : Array Expr := #[]
      for j in perm do
        comps := comps.push (← tupleProj t j ct.size)
      let mut body := comps[comps.size - 1]!
      for k in [0:comps.size - 1] do
        body ← mkAppM ``Prod.mk #[comps[comps.size - 2 - k]!, body]
      mkLambdaFVars #[t] body
    let ψstx ← Term.exprToSyntax ψ
    evalTactic (← `(tactic| refine bind_whileM_perm $ψstx rfl (fun _ => ?_) (fun _ => ?_)))

/-- one step of the parallel walk -/
macro "ge_step" : tactic =>
  `(tactic| first
      | with_reducible rfl
      | (dsimp only [Function.comp_apply, Option.map_some, Option.map_none, Option.bind_some, Option.bind_none])
      | (simp only [bv_sub_sub_cancel, bv_add_sub_cancel_left, Option.map_bind])
      | (split_ifs <;> try ge_contra)
      | ge_word
      | ge_nat
      | ge_region
      | ge_while_perm
      | (ge_eq_heads Option.bind; refine optBind_congr ?_ (fun _ => ?_))
      | (ge_eq_heads Loop.rangeM; refine rangeM_congr_mem ?_ ?_ ?_ (fun _ _ _ _ => ?_))
      | (ge_eq_heads Loop.range; refine range_congr ?_ ?_ ?_ (fun _ _ => ?_))
      | (ge_eq_heads Loop.whileM; refine whileM_congr (fun _ => ?_) ?_)
      | ge_congr_args
      | (funext _))

/-- generated function = reference text, extensionally (both sides already unfolded) -/
macro "gen_equiv" : tactic => `(tactic| focus ((repeat' ge_step); done))

end GenEquiv
end GoldilocksVerif
