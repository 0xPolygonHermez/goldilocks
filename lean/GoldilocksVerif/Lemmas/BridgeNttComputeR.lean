/-
  Bridge theorem: the TRANSLATED `NTT_Goldilocks::computeR` (Gen/NttGen.lean) builds, in two fresh heap blocks, exactly the
  tables `r`, `r_` of the hand model's `computeR` (Model/Ntt.lean).  The generated loop writes into zero-filled blocks of the final
  length, the model's loop pushes onto arrays: `pad`, `fill_grow` (also used for the constructor's tables, Lemmas/BridgeNttCtor.lean).
-/
import GoldilocksVerif.Lemmas.BridgeNttBasic
import GoldilocksVerif.Lemmas.BridgeNttTac

namespace GoldilocksVerif.BridgeNtt
open GoldilocksVerif Gen.NttGen Gen.Scalar

/-- `a` followed by zeros up to length `n` (a `new[]` block whose first `a.size` words have been written) -/
def pad (a : Array (BitVec 64)) (n : Nat) : Array (BitVec 64) := a ++ Array.replicate (n - a.size) 0#64

theorem pad_getD (a : Array (BitVec 64)) (n j : Nat) : (pad a n).getD j 0#64 = a.getD j 0#64 := by
  simp only [pad, Array.getD_eq_getD_getElem?, Array.getElem?_append, Array.getElem?_replicate]
  by_cases h : j < a.size
  · simp [h]
  · simp only [h, if_false, Array.getElem?_eq_none (Nat.le_of_not_lt h)]
    by_cases h2 : j - a.size < n - a.size <;> simp [h2]

theorem pad_size (a : Array (BitVec 64)) (n : Nat) : (pad a n).size = max a.size n := by
  simp only [pad, Array.size_append, Array.size_replicate]; omega

theorem pad_full (a : Array (BitVec 64)) (n : Nat) (h : n ≤ a.size) : pad a n = a := by
  have : n - a.size = 0 := by omega
  simp [pad, this]

theorem pad_set (a : Array (BitVec 64)) (n : Nat) (v : BitVec 64) (h : a.size < n) :
    (pad a n).setIfInBounds a.size v = pad (a.push v) n := by
  apply Array.ext_getElem?
  intro j
  simp only [pad, Array.getElem?_setIfInBounds, Array.getElem?_append, Array.getElem?_replicate, Array.size_append,
    Array.size_replicate, Array.size_push, Array.getElem?_push]
  by_cases h1 : a.size = j
  · subst h1
    have : a.size < a.size + (n - a.size) := by omega
    simp [this]
  · by_cases h2 : j < a.size
    · have : j < a.size + 1 := by omega
      have h3 : ¬ j = a.size := by omega
      simp [h1, h2, this, h3]
    · have h3 : ¬ j < a.size + 1 := by omega
      have h4 : (j - a.size < n - a.size) ↔ (j - (a.size + 1) < n - (a.size + 1)) := by omega
      simp only [h1, h2, h3, if_false]
      by_cases h5 : j - a.size < n - a.size
      · simp [h5, h4.mp h5]
      · have : ¬ (j - (a.size + 1) < n - (a.size + 1)) := fun e => h5 (h4.mpr e)
        simp [h5, this]

theorem pad_empty (n : Nat) : pad #[] n = Array.replicate n 0#64 := by simp [pad]

/-- a loop that fills pre-allocated memory front to back = a loop that grows arrays: `P` maps the grown state (of `len`
    entries) to the pre-allocated one (`pad` to the block length, of one array or of several) -/
theorem fill_grow {σ τ : Type} (P : τ → σ) (len : τ → Nat) (Inv : τ → Prop) (d N : Nat) (step : Nat → σ → σ)
    (grow : Nat → τ → τ)
    (h : ∀ i H, Inv H → len H = i + d → i + d < N →
      step (i + d) (P H) = P (grow i H) ∧ Inv (grow i H) ∧ len (grow i H) = i + 1 + d) :
    ∀ (n i : Nat) (H : τ), Inv H → len H = i + d → i + d + n ≤ N →
      Loop.rangeAux 1 step n (i + d) (P H) = P (Loop.rangeAux 1 grow n i H) ∧ Inv (Loop.rangeAux 1 grow n i H) ∧
      len (Loop.rangeAux 1 grow n i H) = i + d + n := by
  intro n
  induction n with
  | zero => intro i H hI hl _; exact ⟨rfl, hI, hl⟩
  | succ n ih =>
    intro i H hI hl hN
    obtain ⟨e, hI', hl'⟩ := h i H hI hl (by omega)
    obtain ⟨a, b, c⟩ := ih (i + 1) (grow i H) hI' hl' (by omega)
    refine ⟨?_, b, by rw [show Loop.rangeAux 1 grow (n + 1) i H = Loop.rangeAux 1 grow n (i + 1) (grow i H) from rfl, c]; omega⟩
    show Loop.rangeAux 1 step n (i + d + 1) (step (i + d) (P H)) = P (Loop.rangeAux 1 grow n (i + 1) (grow i H))
    rw [e, show i + d + 1 = i + 1 + d by omega]
    exact a

/-- body of the generated loop on the two table blocks -/
def computeRStep (pinv : BitVec 64) (i : Nat) (s : Block × Block) : Block × Block :=
  let ri := mul__eEE (s.1.getD (i - 1) 0#64) shift__r
  let a := s.1.setIfInBounds i ri
  (a, s.2.setIfInBounds i (mul__eEE (a.getD i 0#64) pinv))

def computeRHand (pinv : BitVec 64) (i : Nat) (st : Array (BitVec 64) × Array (BitVec 64)) :
    Array (BitVec 64) × Array (BitVec 64) :=
  let ri := mul__eEE (st.1.getD i 0#64) shift__r
  (st.1.push ri, st.2.push (mul__eEE ri pinv))

theorem computeR_step (pinv : BitVec 64) (N i : Nat) (H : Array (BitVec 64) × Array (BitVec 64)) (h2 : H.2.size = H.1.size)
    (h1 : H.1.size = i + 1) (hN : i + 1 < N) :
    computeRStep pinv (i + 1) (pad H.1 N, pad H.2 N) = (pad (computeRHand pinv i H).1 N, pad (computeRHand pinv i H).2 N) ∧
    (computeRHand pinv i H).2.size = (computeRHand pinv i H).1.size ∧ (computeRHand pinv i H).1.size = i + 1 + 1 := by
  obtain ⟨H1, H2⟩ := H
  dsimp only at h1 h2
  refine ⟨?_, by simp [computeRHand, h2], by simp [computeRHand, h1]⟩
  simp only [computeRStep, computeRHand, Nat.add_sub_cancel, pad_getD]
  have e1 : (pad H1 N).setIfInBounds (i + 1) (mul__eEE (H1.getD i 0#64) shift__r) =
      pad (H1.push (mul__eEE (H1.getD i 0#64) shift__r)) N := by
    rw [← h1]; exact pad_set _ _ _ (by omega)
  rw [e1, pad_getD]
  have e2 : (H1.push (mul__eEE (H1.getD i 0#64) shift__r)).getD (i + 1) 0#64 = mul__eEE (H1.getD i 0#64) shift__r := by
    rw [Array.getD_eq_getD_getElem?, Array.getElem?_push, if_pos h1.symm, Option.getD_some]
  rw [e2]
  congr 1
  rw [← h1, ← h2]; exact pad_set _ _ _ (by omega)

theorem computeR_arrays (pinv : BitVec 64) (N : Nat) (hN : 1 ≤ N) :
    Loop.range 1 N 1 ((Array.replicate N 0#64).setIfInBounds 0 one__r, (Array.replicate N 0#64).setIfInBounds 0 pinv)
      (computeRStep pinv) =
    Loop.range 0 (N - 1) 1 ((#[one__r], #[pinv]) : Array (BitVec 64) × Array (BitVec 64)) (computeRHand pinv) := by
  have e0 : ∀ v : BitVec 64, (Array.replicate N 0#64).setIfInBounds 0 v = pad #[v] N := by
    intro v
    rw [← pad_empty]
    have := pad_set #[] N v (by show 0 < N; omega)
    simpa using this
  rw [e0, e0]
  unfold Loop.range
  have hn1 : (N - 1 + 1 - 1) / 1 = N - 1 := by simp
  have hn2 : (N - 1 - 0 + 1 - 1) / 1 = N - 1 := by simp
  rw [hn1, hn2]
  obtain ⟨e, s2, s1⟩ := fill_grow (fun H => (pad H.1 N, pad H.2 N)) (fun H => H.1.size) (fun H => H.2.size = H.1.size) 1 N
    (computeRStep pinv) (computeRHand pinv) (computeR_step pinv N) (N - 1) 0 (#[one__r], #[pinv]) rfl rfl (by omega)
  rw [e, pad_full _ _ (by rw [s1]; omega), pad_full _ _ (by rw [s2, s1]; omega)]

/-- **computeR**: for 1 ≤ N < 2^31 the generated function returns; the two tables are the hand model's, in two new blocks
    at the end of the heap; `r`, `r_`, `r_N` of the object point to them; nothing else changes -/
theorem computeR_gen (fuel : Nat) (hf : log2Fuel ≤ fuel) (hp : Heap) (self : NTT_Goldilocks) (o : Model.Ntt.Obj) (N : Nat)
    (hN : 1 ≤ N) (hN31 : N < 2 ^ 31)
    (hpti : hp.block self.powTwoInv.blk = o.powTwoInv) (hoff : self.powTwoInv.off = 0)
    (hblk : self.powTwoInv.blk < hp.size) :
    NTT_computeR fuel hp self (N : Int) =
      some ((hp.push (Model.Ntt.computeR o N).2.1).push (Model.Ntt.computeR o N).2.2,
            { self with r := ⟨hp.size, 0⟩, r_ := ⟨hp.size + 1, 0⟩, r_N := BitVec.ofNat 64 N }) := by
  have hNne : BitVec.ofNat 64 N ≠ 0#64 := by
    intro e
    have := congrArg BitVec.toNat e
    rw [BitVec.toNat_ofNat, Nat.mod_eq_of_lt (by omega)] at this
    simp at this; omega
  have hNnat : (BitVec.ofNat 64 N).toNat = N := by rw [BitVec.toNat_ofNat, Nat.mod_eq_of_lt (by omega)]
  have hlog := log2_gen_eq fuel hf (BitVec.ofNat 64 N) hNne
  rw [hNnat] at hlog
  have hl64 : Model.Ntt.log2 N < 64 := by
    simp only [Model.Ntt.log2]
    rw [Nat.log2_lt (by omega)]; omega
  have hdp : (BitVec.setWidth 64 (BitVec.ofNat 32 (Model.Ntt.log2 N))).toNat = Model.Ntt.log2 N := by
    rw [BitVec.toNat_setWidth, BitVec.toNat_ofNat, Nat.mod_eq_of_lt (a := Model.Ntt.log2 N) (by omega),
      Nat.mod_eq_of_lt (by omega)]
  unfold NTT_computeR
  simp only [I32.toU64, BitVec.ofInt_natCast, hlog, Option.bind_some, hNnat, Int.toNat_natCast]
  -- the heap after the two allocations, in representation form over a base heap with two (empty) blocks at the end
  let b := hp.size
  let H : Heap := (hp.push #[]).push #[]
  have hHsize : H.size = b + 2 := by simp [H, b]
  have hHblk : ∀ d, d < b → H.block d = hp.block d := by
    intro d hd
    simp only [H, Heap.block_push, Heap.size_push]
    rw [if_neg (by omega), if_neg (by omega)]
  have hpush : ∀ A B : Block, (hp.push A).push B = Heap.R2 H b (b + 1) (A, B) := by
    intro A B
    simp only [Heap.R2, H, b]
    rw [Heap.setBlock_push_lt _ _ _ _ (by simp), Heap.setBlock_push_last]
    have : hp.size + 1 = (hp.push A).size := by simp
    rw [this, Heap.setBlock_push_last]
  have hbc : b ≠ b + 1 := by omega
  have hp1 : self.powTwoInv.blk ≠ b := by omega
  have hp2 : self.powTwoInv.blk ≠ b + 1 := by omega
  simp only [Heap.alloc_fst, Heap.alloc_snd, Heap.size_push]
  -- every heap of the function is `R2 H b (b+1) (content of r, content of r_)`; the table `powTwoInv` is read from the base
  -- heap, wherever the read stands (in every iteration, or once in front of the loop)
  have hb1 : b < H.size := by omega
  have hb2 : b + 1 < H.size := by omega
  simp only [hpush]
  simp only [Heap.set_eq, Heap.get_def, Nat.zero_add, Nat.add_zero, show hp.size = b from rfl]
  simp (disch := assumption) only [Heap.R2_block_fst, Heap.R2_block_snd, Heap.R2_block_other, Heap.R2_setBlock_fst,
    Heap.R2_setBlock_snd]
  try dsimp only
  rw [Loop.rangeM_rep (R := Heap.R2 H b (b + 1))
    (f := computeRStep ((H.block self.powTwoInv.blk).getD (self.powTwoInv.off +
      (BitVec.setWidth 64 (BitVec.ofNat 32 (Model.Ntt.log2 N))).toNat) 0#64)) _ 1 N]
  · simp only [Option.bind_some]
    rw [hHblk _ hblk, hpti, hoff, hdp, Nat.zero_add, computeR_arrays _ N hN]
    rfl
  · -- the loop body, whatever its parameter list
    intro i s _ _
    unfold_loops
    unfold computeRStep
    simp only [Heap.set_eq, Heap.get_def, Nat.zero_add, show hp.size = b from rfl]
    simp (disch := assumption) only [Heap.R2_block_fst, Heap.R2_block_snd, Heap.R2_block_other, Heap.R2_setBlock_fst,
      Heap.R2_setBlock_snd]

/-- `computeR` overwrites `r`, `r_` before it reads them: their values at the call do not matter (the source may or may not
    reset them to NULL after `delete[]`) -/
theorem computeR_irrel (fuel : Nat) (X : Heap) (self : NTT_Goldilocks) (a b : Ptr) (N : Int) :
    NTT_computeR fuel X { self with r := a, r_ := b } N = NTT_computeR fuel X self N := by
  unfold NTT_computeR
  rfl

end GoldilocksVerif.BridgeNtt
