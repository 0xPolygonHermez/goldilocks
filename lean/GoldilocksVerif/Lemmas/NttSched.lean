/-
  The pass schedule of `NTT_iters` (`schedule`, `clampPhase` of Model/Ntt.lean): for `1 ≤ nphase ≤ domainPow` the
  list of passes is consecutive, every pass is non-empty, the passes cover exactly the stages `1 … domainPow`, and
  there are exactly `nphase` of them (the first `domainPow % nphase` passes have width `domainPow / nphase + 1`,
  the others width `domainPow / nphase`).
-/
import GoldilocksVerif.Lemmas.NttArr

namespace GoldilocksVerif.Model.Ntt

/-- a well-formed pass list for `d` stages starting at stage `s0`: consecutive, non-empty, ending exactly at `d` -/
def SchedOk (d : Nat) : Nat → List (Nat × Nat) → Prop
  | s0, [] => s0 = d + 1
  | s0, (s, c) :: ps => s = s0 ∧ 1 ≤ c ∧ s + c ≤ d + 1 ∧ SchedOk d (s + c) ps

theorem sched_go_succ (d res fuel s count mbp : Nat) (acc : List (Nat × Nat)) :
    schedule.go d res (fuel + 1) s count mbp acc =
      if s > d then acc.reverse else
      let mbp' := if res > 0 ∧ count = res + 1 ∧ mbp > 1 then mbp - 1 else mbp
      let sInc := if s + mbp' ≤ d then mbp' else d - s + 1
      if mbp' = 0 then acc.reverse else
      schedule.go d res fuel (s + mbp') (count + 1) mbp' ((s, sInc) :: acc) := by
  rw [schedule.go]

theorem sched_go_done (d res fuel s count mbp : Nat) (acc : List (Nat × Nat)) (h : s > d) :
    schedule.go d res fuel s count mbp acc = acc.reverse := by
  cases fuel with
  | zero => rw [schedule.go]
  | succ fuel => rw [sched_go_succ, if_pos h]

/-- a pass of width `w` that fits, `w` being `maxBatchPow` after the possible decrement at this `count` -/
theorem sched_go_step (d res fuel s count mbp w : Nat) (acc : List (Nat × Nat))
    (hmbp : (if res > 0 ∧ count = res + 1 ∧ mbp > 1 then mbp - 1 else mbp) = w) (hw : 1 ≤ w) (hs : s + w ≤ d + 1) :
    schedule.go d res (fuel + 1) s count mbp acc = schedule.go d res fuel (s + w) (count + 1) w ((s, w) :: acc) := by
  rw [sched_go_succ, if_neg (by omega)]
  dsimp only
  rw [hmbp, if_neg (by omega)]
  by_cases h : s + w ≤ d
  · rw [if_pos h]
  · rw [if_neg h]
    have : d - s + 1 = w := by omega
    rw [this]

theorem sched_reverse_cons_append (acc : List (Nat × Nat)) (x : Nat × Nat) (L : List (Nat × Nat)) :
    (x :: acc).reverse ++ L = acc.reverse ++ (x :: L) := by
  rw [List.reverse_cons, List.append_assoc]; rfl

/-- the passes after the decrement (or all passes when `res = 0`): `k` passes of width `q` -/
theorem sched_go_narrow (d res q : Nat) (hq : 1 ≤ q) : ∀ (k fuel s count : Nat) (acc : List (Nat × Nat)),
    (res = 0 ∨ count > res + 1) → s + k * q = d + 1 → k ≤ fuel →
    ∃ L, schedule.go d res fuel s count q acc = acc.reverse ++ L ∧ SchedOk d s L ∧ L.length = k := by
  intro k
  induction k with
  | zero =>
    intro fuel s count acc _ hs _
    refine ⟨[], ?_, ?_, rfl⟩
    · rw [sched_go_done _ _ _ _ _ _ _ (by omega), List.append_nil]
    · show s = d + 1
      omega
  | succ k ih =>
    intro fuel s count acc hc hs hf
    obtain ⟨fuel, rfl⟩ : ∃ f, fuel = f + 1 := ⟨fuel - 1, by omega⟩
    rw [Nat.succ_mul] at hs
    rw [sched_go_step d res fuel s count q q acc (if_neg (by omega)) hq (by omega)]
    obtain ⟨L, e, ok, len⟩ := ih fuel (s + q) (count + 1) ((s, q) :: acc) (by omega) (by omega) (by omega)
    refine ⟨(s, q) :: L, ?_, ?_, ?_⟩
    · rw [e, sched_reverse_cons_append]
    · exact ⟨rfl, hq, by omega, ok⟩
    · rw [List.length_cons, len]

/-- `j` passes of width `q + 1` (counts `res + 1 - j … res`), then `k` passes of width `q` -/
theorem sched_go_wide (d res q : Nat) (hq : 1 ≤ q) (hr : res > 0) : ∀ (j k fuel s count : Nat) (acc : List (Nat × Nat)),
    count + j = res + 1 → s + j * (q + 1) + k * q = d + 1 → j + k ≤ fuel →
    ∃ L, schedule.go d res fuel s count (q + 1) acc = acc.reverse ++ L ∧ SchedOk d s L ∧ L.length = j + k := by
  intro j
  induction j with
  | zero =>
    intro k fuel s count acc hc hs hf
    have hc' : count = res + 1 := by omega
    subst hc'
    rw [Nat.zero_mul, Nat.add_zero] at hs
    cases k with
    | zero =>
      refine ⟨[], ?_, ?_, rfl⟩
      · rw [sched_go_done _ _ _ _ _ _ _ (by omega), List.append_nil]
      · show s = d + 1
        omega
    | succ k =>
      obtain ⟨fuel, rfl⟩ : ∃ f, fuel = f + 1 := ⟨fuel - 1, by omega⟩
      rw [Nat.succ_mul] at hs
      -- the pass at `count = res + 1`: `maxBatchPow` goes from `q + 1` to `q`
      rw [sched_go_step d res fuel s (res + 1) (q + 1) q acc (by rw [if_pos ⟨hr, rfl, by omega⟩]; omega) hq (by omega)]
      obtain ⟨L, e, ok, len⟩ :=
        sched_go_narrow d res q hq k fuel (s + q) (res + 1 + 1) ((s, q) :: acc) (by omega) (by omega) (by omega)
      refine ⟨(s, q) :: L, ?_, ?_, ?_⟩
      · rw [e, sched_reverse_cons_append]
      · exact ⟨rfl, hq, by omega, ok⟩
      · rw [List.length_cons, len]; omega
  | succ j ih =>
    intro k fuel s count acc hc hs hf
    obtain ⟨fuel, rfl⟩ : ∃ f, fuel = f + 1 := ⟨fuel - 1, by omega⟩
    rw [Nat.succ_mul] at hs
    rw [sched_go_step d res fuel s count (q + 1) (q + 1) acc (if_neg (by omega)) (by omega) (by omega)]
    obtain ⟨L, e, ok, len⟩ :=
      ih k fuel (s + (q + 1)) (count + 1) ((s, q + 1) :: acc) (by omega) (by omega) (by omega)
    refine ⟨(s, q + 1) :: L, ?_, ?_, ?_⟩
    · rw [e, sched_reverse_cons_append]
    · exact ⟨rfl, by omega, by omega, ok⟩
    · rw [List.length_cons, len]; omega

theorem schedule_ok (d np : Nat) (h1 : 1 ≤ np) (h2 : np ≤ d) :
    SchedOk d 1 (schedule d np) ∧ (schedule d np).length = np := by
  have hq : 1 ≤ d / np := Nat.div_pos h2 (by omega)
  have hdm : np * (d / np) + d % np = d := Nat.div_add_mod d np
  have hres : d % np < np := Nat.mod_lt _ (by omega)
  unfold schedule
  dsimp only
  generalize hqe : d / np = q at hq hdm
  generalize hre : d % np = res at hdm hres
  by_cases hr : res > 0
  · rw [if_pos hr]
    have e1 : (np - res) * q = np * q - res * q := Nat.sub_mul _ _ _
    have e2 : res * q ≤ np * q := Nat.mul_le_mul_right q (by omega)
    have e3 : res * (q + 1) = res * q + res := by rw [Nat.mul_add, Nat.mul_one]
    obtain ⟨L, e, ok, len⟩ := sched_go_wide d res q hq hr res (np - res) (d + 1) 1 1 [] (by omega) (by omega) (by omega)
    rw [e, List.reverse_nil, List.nil_append]
    exact ⟨ok, by omega⟩
  · rw [if_neg hr]
    have e0 : q + 0 = q := rfl
    rw [e0]
    obtain ⟨L, e, ok, len⟩ := sched_go_narrow d res q hq np (d + 1) 1 1 [] (by omega) (by omega) (by omega)
    rw [e, List.reverse_nil, List.nil_append]
    exact ⟨ok, len⟩

theorem schedule_zero : schedule 0 1 = [] := by decide

theorem clampPhase_range (np d : Nat) :
    1 ≤ clampPhase np d ∧ (1 ≤ d → clampPhase np d ≤ d) ∧ (d = 0 → clampPhase np d = 1) := by
  unfold clampPhase
  by_cases h : np < 1 ∨ d = 0
  · rw [if_pos h]
    exact ⟨by omega, fun h => h, fun _ => rfl⟩
  · rw [if_neg h]
    by_cases h' : np > d
    · rw [if_pos h']
      exact ⟨by omega, fun _ => by omega, fun h0 => by omega⟩
    · rw [if_neg h']
      exact ⟨by omega, fun _ => by omega, fun h0 => by omega⟩

end GoldilocksVerif.Model.Ntt
