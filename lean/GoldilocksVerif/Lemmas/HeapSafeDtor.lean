/-
  The generated destructor releases only pointers that are the start of a live block (`NTT_dtor.Safe`, derived from the
  generated definition): no double release, no release of an interior pointer — for an object that owns distinct live blocks.
-/
import GoldilocksVerif.Lemmas.HeapSafeNtt
import GoldilocksVerif.Lemmas.HeapSafeOwn
open GoldilocksVerif Gen.NttGen GoldilocksVerif.BridgeNtt
namespace GoldilocksVerif.HeapSafe

/-- the object owns live blocks: every pointer the destructor releases is the start of a live block of its own -/
structure OwnsLive (hp : Heap) (obj : NTT_Goldilocks) : Prop where
  tables : obj.s ≠ 0#32 → obj.roots.off = 0 ∧ 0 < hp.ext obj.roots.blk ∧ obj.powTwoInv.off = 0 ∧
    0 < hp.ext obj.powTwoInv.blk ∧ obj.roots.blk ≠ obj.powTwoInv.blk
  hr : obj.r ≠ Ptr.null → obj.r.off = 0 ∧ 0 < hp.ext obj.r.blk ∧
    (obj.s ≠ 0#32 → obj.r.blk ≠ obj.roots.blk ∧ obj.r.blk ≠ obj.powTwoInv.blk)
  hr_ : obj.r_ ≠ Ptr.null → obj.r_.off = 0 ∧ 0 < hp.ext obj.r_.blk ∧
    (obj.s ≠ 0#32 → obj.r_.blk ≠ obj.roots.blk ∧ obj.r_.blk ≠ obj.powTwoInv.blk) ∧ (obj.r ≠ Ptr.null → obj.r_.blk ≠ obj.r.blk)

theorem dtor_safe (hp : Heap) (self : NTT_Goldilocks) (h : OwnsLive hp self) : NTT_dtor.Safe hp self := by
  obtain ⟨ht, hr, hr_⟩ := h
  unfold NTT_dtor.Safe
  zeta_goal
  have keepT : ∀ b, (self.s ≠ 0#32 → b ≠ self.roots.blk ∧ b ≠ self.powTwoInv.blk) →
      (if (self.s != 0#32) = true then (hp.free self.roots).free self.powTwoInv else hp).ext b = hp.ext b := by
    intro b c
    by_cases hs : (self.s != 0#32) = true
    · obtain ⟨c1, c2⟩ := c ((bne_true _ _).1 hs)
      rw [if_pos hs, ext_free_ne _ _ _ c2, ext_free_ne _ _ _ c1]
    · rw [if_neg hs]
  refine ⟨fun hs => ?_, fun hrn => ?_, fun hrn_ => ?_⟩
  · obtain ⟨a, b, c, d, e⟩ := ht ((bne_true _ _).1 hs)
    exact ⟨Or.inr ⟨a, b⟩, Or.inr ⟨c, by rw [ext_free_ne _ _ _ (fun x => e x.symm)]; exact d⟩⟩
  · obtain ⟨a, b, c⟩ := hr ((bne_true _ _).1 hrn)
    exact Or.inr ⟨a, by rw [keepT _ c]; exact b⟩
  · obtain ⟨a, b, c, d⟩ := hr_ ((bne_true _ _).1 hrn_)
    refine Or.inr ⟨a, ?_⟩
    by_cases hr0 : (self.r != Ptr.null) = true
    · rw [if_pos hr0, ext_free_ne _ _ _ (d ((bne_true _ _).1 hr0)), keepT _ c]; exact b
    · rw [if_neg hr0, keepT _ c]; exact b

end GoldilocksVerif.HeapSafe
