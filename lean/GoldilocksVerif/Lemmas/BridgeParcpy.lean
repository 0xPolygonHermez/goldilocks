/-
  Bridge theorem: the TRANSLATED `Goldilocks::parcpy` (Gen/NttGen.lean, heap mode; called by `NTT_iters` for size 1) — the clamp
  of the `int` thread count, the chunk length `(size + nt - 1) / nt` on 64-bit words, the chunk loop
  `for (i = 0; i < size; i += chunk) memcpy(&dst[i], &src[i], min(chunk, size - i))` — is ONE `memcpy` of `size` words from the
  source block to the destination block: exactly `size` words are transferred, for every size and every `int` thread count
  (zero and negative included), no other word and no other block changes.  This is the hand model `Model/ParCopy.parcpy`
  in the heap view (`parcpy_gen_region`).

  FUEL: the chunk loop is a `while` loop of the generated model; it makes `⌈size / chunk⌉ ≤ min(size, max(1, nt))` iterations
  (`ParCopy.starts_length_le`), so it returns for every `fuel > min(size, max(1, nt))` (`parFuel`).
  The loop itself is read once, for every chunk action (`chunkLoop_seq`, Lemmas/BridgeParcpyStep.lean): it runs the action over
  the hand model's chunk starts; that the chunks add up to one `memcpy` is `ParCopy.foldl_starts`.
-/
import GoldilocksVerif.Lemmas.BridgeParcpyStep
import GoldilocksVerif.Lemmas.ParCopyL

namespace GoldilocksVerif.BridgeNtt
open GoldilocksVerif Gen.NttGen

/-- fuel from which the chunk loop of `parcpy(dst, src, size, nt)` cannot run out -/
def parFuel (size : Nat) (nt : Int) : Nat := min size (ParCopy.threads nt) + 1

theorem copyRow_append (d : Block) (d0 : Nat) (s : Block) (s0 a b : Nat) :
    Model.Ntt.copyRow (Model.Ntt.copyRow d d0 s s0 a) (d0 + a) s (s0 + a) b = Model.Ntt.copyRow d d0 s s0 (a + b) := by
  induction b with
  | zero => rfl
  | succ b ih =>
    have e1 : ∀ (x : Block) (x0 y0 m : Nat), Model.Ntt.copyRow x x0 s y0 (m + 1) =
        (Model.Ntt.copyRow x x0 s y0 m).setIfInBounds (x0 + m) (s.getD (y0 + m) 0#64) := by
      intro x x0 y0 m; unfold Model.Ntt.copyRow; rw [Model.Ntt.iter_succ]
    rw [e1, ih, ← Nat.add_assoc a b 1, e1, Nat.add_assoc d0 a b, Nat.add_assoc s0 a b]

theorem parcpy_gen (fuel : Nat) (hp : Heap) (D S od os n : Nat) (nt : Int) (hD : D < hp.size) (hDS : D ≠ S)
    (hn8 : n * 8 < 2 ^ 64) (hnt : nt < 2 ^ 63) (hf : parFuel n nt ≤ fuel) :
    parcpy fuel hp ⟨D, od⟩ ⟨S, os⟩ (bv n) nt =
      some (hp.setBlock D (Model.Ntt.copyRow (hp.block D) od (hp.block S) os n)) := by
  have hsz : (bv n).toNat = n := bv_toNat n (by omega)
  have hfu : (ParCopy.starts n nt).length < fuel :=
    Nat.lt_of_le_of_lt (ParCopy.starts_length_le n nt) hf
  rw [parcpy_heap_seq fuel hp _ _ (bv n) nt hnt (by rw [hsz]; exact hn8) (by rw [hsz]; exact hfu), hsz]
  congr 1
  -- the heap after the chunks that start below `i`: the first `i` words are copied
  have h := ParCopy.foldl_starts (fun (X : Heap) i => X.copy (Ptr.add ⟨D, od⟩ i) (Ptr.add ⟨S, os⟩ i) (ParCopy.len n nt i))
    (fun i => hp.setBlock D (Model.Ntt.copyRow (hp.block D) od (hp.block S) os i)) n nt (by
      intro i _
      simp only [Heap.copy_eq, Ptr.add_blk, Ptr.add_off]
      rw [Heap.block_setBlock_same _ _ _ hD, Heap.block_setBlock_other _ _ _ _ (Ne.symm hDS), Heap.setBlock_setBlock,
        copyRow_eq, copyRow_append])
  rwa [show Model.Ntt.copyRow (hp.block D) od (hp.block S) os 0 = hp.block D from rfl, Heap.setBlock_block] at h

/-- `parcpy_gen` in the view of the hand model `Model/ParCopy.lean` (regions = what the two pointers designate) -/
theorem parcpy_gen_region (hp : Heap) (D S od os n : Nat) (nt : Int) (hfit : od + n ≤ (hp.block D).size) (j : Nat) :
    (Model.Ntt.copyRow (hp.block D) od (hp.block S) os n).getD (od + j) 0#64 =
      (ParCopy.parcpy ⟨fun j => (hp.block D).getD (od + j) 0#64⟩ ⟨fun j => (hp.block S).getD (os + j) 0#64⟩ n nt) j := by
  have hseq : ∀ (dst src : Region), (ParCopy.parcpy dst src n nt) j = if j < n then src j else dst j :=
    fun dst src => ParCopy.foldl_chunks_cover (fun j => src j) n nt _ (fun _ => Iff.rfl) dst j
  rw [hseq, Model.Ntt.copyRow_getD]
  by_cases h : j < n
  · rw [if_pos h, if_pos ⟨by omega, by omega, by omega⟩]
    show (hp.block S).getD (os + (od + j - od)) 0#64 = (hp.block S).getD (os + j) 0#64
    congr 2; omega
  · rw [if_neg h, if_neg (by omega)]

end GoldilocksVerif.BridgeNtt
